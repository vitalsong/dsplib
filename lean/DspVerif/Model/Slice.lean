import DspVerif.Gen.Slice
/-!
# Slices (`include/dsplib/slice.h`, `iterator.h`, `array.h`) — hand-written part

The constructor itself is *generated* (`Gen.BaseSlice.ctor`).  Here: what a constructed slice
denotes (the positions its iterator visits), the Python reference, and assignment through a slice.
-/
namespace Dsp
namespace Slice
open Gen

/-- positions visited by `begin() … end()`: start at `data()+_i1`, advance by `_m`, `_nc` times -/
def indices (s : BaseSlice) : List Int :=
  (List.range s.nc.toNat).map (fun (j : Nat) => s.i1 + (j : Int) * s.m)

/-- `x.slice(i1, i2, m)` on an array of `n` elements -/
def slice (n i1 i2 m : Int) : Except String (List Int) :=
  match BaseSlice.ctor n i1 i2 m with
  | .ok s => .ok (indices s)
  | .error e => .error e

/-! ## Python reference: `PySlice_AdjustIndices` + `range` -/

def pyStart (n i step : Int) : Int :=
  if i < 0 then (if i + n < 0 then (if step < 0 then -1 else 0) else i + n)
  else (if i ≥ n then (if step < 0 then n - 1 else n) else i)

def pyLen (start stop step : Int) : Int :=
  if step > 0 then (if start < stop then (stop - start - 1) / step + 1 else 0)
  else (if stop < start then (start - stop - 1) / (-step) + 1 else 0)

/-- the list of positions `x[i1:i2:step]` denotes for `len(x) = n`, `step ≠ 0` -/
def pyIndices (n i1 i2 step : Int) : List Int :=
  let start := pyStart n i1 step
  let stop := pyStart n i2 step
  (List.range (pyLen start stop step).toNat).map (fun (j : Nat) => start + (j : Int) * step)

/-! ## reading and assignment (value model of the array: `List α`) -/
variable {α : Type}

def getI [Inhabited α] (a : List α) (i : Int) : α := a.getD i.toNat default

def gather [Inhabited α] (a : List α) (idx : List Int) : List α := idx.map (getI a)

def setI (a : List α) (i : Int) (v : α) : List α := if i < 0 then a else a.set i.toNat v

/-- write `vals[j]` to position `idx[j]`, left to right (`std::copy` through the slice iterator) -/
def scatter (a : List α) : List Int → List α → List α
  | i :: is, v :: vs => scatter (setI a i v) is vs
  | _, _ => a

/-- `slice_t::operator=(const const_slice_t&)`: size check, then (all four code paths —
    memcpy / memmove / materialise-then-assign / strided copy from another array) the source
    values are read before any destination cell of the same array is written -/
def assignSlice [Inhabited α] (dstArr srcArr : List α) (d s : BaseSlice) : Except String (List α) :=
  if d.nc ≠ s.nc then .error "Slices size must be equal"
  else .ok (scatter dstArr (indices d) (gather srcArr (indices s)))

/-- `slice_t::operator=(const base_array<T>& rhs)`: `*this = rhs.slice(0, rhs.size())` -/
def assignArray [Inhabited α] (a : List α) (d : BaseSlice) (rhs : List α) : Except String (List α) :=
  match BaseSlice.ctor rhs.length 0 rhs.length 1 with
  | .error e => .error e
  | .ok s => assignSlice a rhs d s

/-- `slice_t::operator=(const std::initializer_list<T>& rhs)` -/
def assignList (a : List α) (d : BaseSlice) (rhs : List α) : Except String (List α) :=
  if d.nc ≠ rhs.length then .error "Slices size must be equal"
  else .ok (scatter a (indices d) rhs)

/-- `slice_t::operator=(const T&)` (`std::fill`) -/
def fill (a : List α) (d : BaseSlice) (v : α) : List α :=
  scatter a (indices d) (List.replicate d.nc.toNat v)

/-! ## the same operations on `Array α` (constant-time cell access)

Used by the driver for the LARGE correspondence cases (same-array overlapping pairs with 10^3…10^5
elements, random assignments on arrays up to 10^5): the `List` model above costs O(n) per cell.
Every `…A` function is proved equal, cell for cell, to the `List` model the theorems of
`Props/C04` are about (`…_toList`), so a large case checked against `assignSliceA` is checked
against `assignSlice`. -/

def getIA [Inhabited α] (a : Array α) (i : Int) : α := a.getD i.toNat default

def gatherA [Inhabited α] (a : Array α) (idx : List Int) : List α := idx.map (getIA a)

def setIA (a : Array α) (i : Int) (v : α) : Array α := if i < 0 then a else a.setIfInBounds i.toNat v

def scatterA (a : Array α) : List Int → List α → Array α
  | i :: is, v :: vs => scatterA (setIA a i v) is vs
  | _, _ => a

def assignSliceA [Inhabited α] (dstArr srcArr : Array α) (d s : BaseSlice) : Except String (Array α) :=
  if d.nc ≠ s.nc then .error "Slices size must be equal"
  else .ok (scatterA dstArr (indices d) (gatherA srcArr (indices s)))

def assignArrayA [Inhabited α] (a : Array α) (d : BaseSlice) (rhs : Array α) : Except String (Array α) :=
  match BaseSlice.ctor rhs.size 0 rhs.size 1 with
  | .error e => .error e
  | .ok s => assignSliceA a rhs d s

def assignListA (a : Array α) (d : BaseSlice) (rhs : List α) : Except String (Array α) :=
  if d.nc ≠ rhs.length then .error "Slices size must be equal"
  else .ok (scatterA a (indices d) rhs)

def fillA (a : Array α) (d : BaseSlice) (v : α) : Array α :=
  scatterA a (indices d) (List.replicate d.nc.toNat v)

theorem getIA_toList [Inhabited α] (a : Array α) (i : Int) : getIA a i = getI a.toList i := by
  unfold getIA getI
  rw [Array.getD_eq_getD_getElem?, List.getD_eq_getElem?_getD, Array.getElem?_toList]

theorem gatherA_eq [Inhabited α] (a : Array α) (idx : List Int) : gatherA a idx = gather a.toList idx := by
  simp [gatherA, gather, getIA_toList]

theorem setIA_toList (a : Array α) (i : Int) (v : α) : (setIA a i v).toList = setI a.toList i v := by
  unfold setIA setI; split <;> simp

theorem scatterA_toList (a : Array α) (idx : List Int) (vals : List α) :
    (scatterA a idx vals).toList = scatter a.toList idx vals := by
  induction idx generalizing a vals with
  | nil => unfold scatterA scatter; rfl
  | cons i is ih =>
    cases vals with
    | nil => unfold scatterA scatter; rfl
    | cons v vs => unfold scatterA scatter; rw [ih, setIA_toList]

/-- the array version of slice assignment IS the list model (same error, same cells) -/
theorem assignSliceA_toList [Inhabited α] (dstArr srcArr : Array α) (d s : BaseSlice) :
    (assignSliceA dstArr srcArr d s).map Array.toList = assignSlice dstArr.toList srcArr.toList d s := by
  unfold assignSliceA assignSlice
  split <;> simp [Except.map, scatterA_toList, gatherA_eq]

theorem assignArrayA_toList [Inhabited α] (a : Array α) (d : BaseSlice) (rhs : Array α) :
    (assignArrayA a d rhs).map Array.toList = assignArray a.toList d rhs.toList := by
  unfold assignArrayA assignArray
  simp only [Array.length_toList]
  split
  · simp [Except.map]
  · exact assignSliceA_toList a rhs d _

theorem assignListA_toList (a : Array α) (d : BaseSlice) (rhs : List α) :
    (assignListA a d rhs).map Array.toList = assignList a.toList d rhs := by
  unfold assignListA assignList
  split <;> simp [Except.map, scatterA_toList]

theorem fillA_toList (a : Array α) (d : BaseSlice) (v : α) : (fillA a d v).toList = fill a.toList d v := by
  simp [fillA, fill, scatterA_toList]

end Slice
end Dsp
