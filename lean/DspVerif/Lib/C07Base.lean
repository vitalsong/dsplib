import DspVerif.Model.Fir
import DspVerif.Lib.RealFn
import DspVerif.Lib.ArrayGetD
import Mathlib.Algebra.Ring.InjSurj
import Mathlib.Algebra.BigOperators.Intervals
import Mathlib.Tactic.Linarith
import Mathlib.Tactic.Abel
/-!
# Helper lemmas for C07

* the models of `Model/Fir.lean` read arrays with `getD` (`Lib/ArrayGetD.lean`); every theorem of `Props/C07.lean` uses it
  only at indices it proves to be in range, or states the out-of-range value explicitly;
* `acc = Σ` (the `r = 0; r += …` loop is a `Finset.range` sum in any commutative monoid);
* the commutative-ring structure of `Cx ℝ` (transported along `toC`, on top of the REGENERATED `+ - * neg` of `Gen/Cmplx`),
  so that the scalar-generic theorems apply verbatim to the complex instantiation of the models.
-/
open Finset

namespace Dsp.C07
variable {R : Type}

theorem acc_eq_sum [AddCommMonoid R] (n : ℕ) (f : ℕ → R) : Fir.acc (0 : R) n f = ∑ k ∈ range n, f k := by
  induction n with
  | zero => simp [Fir.acc]
  | succ n ih => simp [Fir.acc, ih, Finset.sum_range_succ]

theorem getD_of_ge (a : Array R) (i : ℕ) (z : R) (h : a.size ≤ i) : a.getD i z = z :=
  getD_of_size_le a i z h

/-- `Finset.sum_nbij'` for sums over `range` whose terms are supported on a decidable set -/
theorem sum_range_ite_bij [AddCommMonoid R] {N K : ℕ} {P Q : ℕ → Prop} [DecidablePred P] [DecidablePred Q] {f g : ℕ → R}
    (e e' : ℕ → ℕ) (h1 : ∀ n, n < N → P n → e n < K ∧ Q (e n) ∧ e' (e n) = n ∧ f n = g (e n))
    (h2 : ∀ m, m < K → Q m → e' m < N ∧ P (e' m) ∧ e (e' m) = m) :
    ∑ n ∈ range N, (if P n then f n else 0) = ∑ m ∈ range K, (if Q m then g m else 0) := by
  rw [← Finset.sum_filter, ← Finset.sum_filter]
  refine Finset.sum_nbij' e e' ?_ ?_ ?_ ?_ ?_ <;> simp only [mem_filter, mem_range, and_imp]
  · exact fun n hn hp => ⟨(h1 n hn hp).1, (h1 n hn hp).2.1⟩
  · exact fun m hm hq => ⟨(h2 m hm hq).1, (h2 m hm hq).2.1⟩
  · exact fun n hn hp => (h1 n hn hp).2.2.1
  · exact fun m hm hq => (h2 m hm hq).2.2
  · exact fun n hn hp => (h1 n hn hp).2.2.2

/-- the sample `back+1` positions before the end of the stream `X` (zero before the start) -/
def past [Zero R] (X : Array R) (back : ℕ) : R := if back < X.size then X.getD (X.size - 1 - back) 0 else 0

theorem past_empty [Zero R] (b : ℕ) : past (#[] : Array R) b = 0 := by simp [past]

theorem past_append [Zero R] (X x : Array R) (b : ℕ) :
    past (X ++ x) b = if b < x.size then x.getD (x.size - 1 - b) 0 else past X (b - x.size) := by
  unfold past
  rw [getD_append, Array.size_append]
  by_cases h : b < x.size
  · rw [if_pos h, if_pos (by omega), if_neg (by omega)]
    congr 1; omega
  · rw [if_neg h]
    by_cases h2 : b - x.size < X.size
    · rw [if_pos h2, if_pos (by omega), if_pos (by omega)]
      congr 1; omega
    · rw [if_neg h2, if_neg (by omega)]

theorem le_two_pow_nextpow2 (m : ℕ) : m ≤ 2 ^ Fir.nextpow2 m := by
  unfold Fir.nextpow2
  by_cases h : m ≤ 1
  · simp [h]
  · simp only [h, if_false]
    by_cases h2 : 2 ^ m.log2 = m
    · simp [h2]
    · simp only [h2, if_false]
      exact Nat.le_of_lt Nat.lt_log2_self

end Dsp.C07

/-! ### `Cx ℝ` is a commutative ring (with the generated operators) and `toC` a ring homomorphism -/
namespace Dsp.Cx

instance : Zero (Cx ℝ) := ⟨⟨0, 0⟩⟩
instance : One (Cx ℝ) := ⟨⟨1, 0⟩⟩
instance : NatCast (Cx ℝ) := ⟨fun n => ⟨n, 0⟩⟩
instance : IntCast (Cx ℝ) := ⟨fun n => ⟨n, 0⟩⟩
instance : SMul ℕ (Cx ℝ) := ⟨fun n z => ⟨n * z.re, n * z.im⟩⟩
instance : SMul ℤ (Cx ℝ) := ⟨fun n z => ⟨n * z.re, n * z.im⟩⟩
instance : Pow (Cx ℝ) ℕ := ⟨fun z n => npowRec n z⟩

@[simp] theorem zero_re : (0 : Cx ℝ).re = 0 := rfl
@[simp] theorem zero_im : (0 : Cx ℝ).im = 0 := rfl
@[simp] theorem one_re : (1 : Cx ℝ).re = 1 := rfl
@[simp] theorem one_im : (1 : Cx ℝ).im = 0 := rfl
@[simp] theorem nsmul_re (n : ℕ) (z : Cx ℝ) : (n • z).re = n * z.re := rfl
@[simp] theorem nsmul_im (n : ℕ) (z : Cx ℝ) : (n • z).im = n * z.im := rfl
@[simp] theorem zsmul_re (n : ℤ) (z : Cx ℝ) : (n • z).re = n * z.re := rfl
@[simp] theorem zsmul_im (n : ℤ) (z : Cx ℝ) : (n • z).im = n * z.im := rfl
@[simp] theorem natCast_re (n : ℕ) : ((n : Cx ℝ)).re = n := rfl
@[simp] theorem natCast_im (n : ℕ) : ((n : Cx ℝ)).im = 0 := rfl
@[simp] theorem intCast_re (n : ℤ) : ((n : Cx ℝ)).re = n := rfl
@[simp] theorem intCast_im (n : ℤ) : ((n : Cx ℝ)).im = 0 := rfl

theorem toC_zero : toC 0 = 0 := by apply Complex.ext <;> simp
theorem toC_one : toC 1 = 1 := by apply Complex.ext <;> simp

theorem toC_pow (z : Cx ℝ) (n : ℕ) : toC (z ^ n) = toC z ^ n := by
  show toC (npowRec n z) = _
  induction n with
  | zero => simp [npowRec, toC_one]
  | succ n ih => simp [npowRec, toC_mul, ih, pow_succ]

noncomputable instance : CommRing (Cx ℝ) :=
  Function.Injective.commRing toC toC_injective toC_zero toC_one toC_add toC_mul toC_neg toC_sub
    (fun n z => by rw [nsmul_eq_mul]; apply Complex.ext <;> simp)
    (fun n z => by rw [zsmul_eq_mul]; apply Complex.ext <;> simp)
    toC_pow
    (fun n => by apply Complex.ext <;> simp)
    (fun n => by apply Complex.ext <;> simp)

noncomputable def toCHom : Cx ℝ →+* ℂ where
  toFun := toC
  map_one' := toC_one
  map_mul' := toC_mul
  map_zero' := toC_zero
  map_add' := toC_add

@[simp] theorem toCHom_apply (z : Cx ℝ) : toCHom z = toC z := rfl

/-- the ring operations ARE the generated `cmplx_t` operators -/
example (a b : Cx ℝ) : a + b = Cx.add a b ∧ a * b = Cx.mul a b ∧ a - b = Cx.sub a b ∧ -a = Cx.neg a := ⟨rfl, rfl, rfl, rfl⟩

theorem zeroC_eq : (Fir.zeroC : Cx ℝ) = 0 := by apply Cx.ext' <;> simp [Fir.zeroC]
theorem zeroR_eq : (Fir.zeroR : ℝ) = 0 := by simp [Fir.zeroR]

end Dsp.Cx
