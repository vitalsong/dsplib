import DspVerif.Model.Adaptive
import DspVerif.Lib.GenBridge
/-!
# The sample loops of `LmsFilter<T>` / `RlsFilter<T>` as folds over arrays, for any sample type

The REGENERATED loop bodies of `Gen/StepsAdaptive.lean` for `T = real_t` and `T = cmplx_t` are different constants of one
shape: inner loops `for (i < n)` that write cell `i` of one array from cells of others.  `lmsWStep` / `rlsWStep` are that shape
written once, over natural-number indices and the mixed operations of `Model/Adaptive.lean`; `lmsWStep_eq` / `rlsWStep_spec`
say that they compute the model's `lmsIter` / `rlsStep`.  `Props/C12Gen.lean` shows that each generated body is an instance.
-/
namespace Dsp.C12Gen
open Dsp Dsp.Adaptive Dsp.Adaptive.Mixed Dsp.GenBridge

/-! ## folds that write cells -/

theorem acc_eq_foldl {β : Type} [Add β] (z : β) (n : Nat) (f : Nat → β) :
    acc z n f = (List.range n).foldl (fun a i => a + f i) z := by
  induction n with
  | zero => rfl
  | succ n ih => simp [acc, ih, List.range_succ]

/-- `for (i < m) for (k < n) a[i] += t i k` on a zero-filled array -/
theorem foldl_acc_rows {β : Type} [Add β] (z : β) (t : Nat → Nat → β) (m n : Nat) :
    (List.range m).foldl (fun (a : Array β) i =>
        (List.range n).foldl (fun (a : Array β) k => a.setIfInBounds i (a.getD i z + t i k)) a) (Array.replicate m z) =
      Array.ofFn (n := m) fun i => acc z n (t i.val) := by
  have inner : ∀ i (a : Array β), (List.range n).foldl (fun (a : Array β) k => a.setIfInBounds i (a.getD i z + t i k)) a =
      a.setIfInBounds i ((List.range n).foldl (fun v k => v + t i k) (a.getD i z)) :=
    fun i a => foldl_acc_cell z (fun v k => v + t i k) i _ a
  simp only [inner]
  rw [foldl_set_eq_ofFn z (fun v i => (List.range n).foldl (fun v k => v + t i k) v) m _ Array.size_replicate]
  congr 1; funext i
  rw [getD_replicate', if_pos i.isLt, acc_eq_foldl]

variable {ρ τ : Type} [Add ρ] [Div ρ] [Fn ρ] [Add τ] [Sub τ] [Mul τ] [Div τ] [Mixed ρ τ]

/-! ## `LmsFilter<T>::process` -/

/-- the model's loop iteration without the output arrays: new `_w`, `y[k]`, `e[k]` -/
def lmsStepM (p : LmsP ρ) (locked : Bool) (tu d : Array τ) (w : Array τ) (k : Nat) : Array τ × τ × τ :=
  ((lmsIter p locked tu d (w, #[], #[]) k).1, lmsOut (ρ := ρ) p.len w tu k,
    rd (ρ := ρ) d k - lmsOut (ρ := ρ) p.len w tu k)

/-- the body of the sample loop as the C++ has it: the inner product, then (unless locked) the coefficient update of the
method in place, cell by cell; `tu2` is read only by NLMS -/
def lmsWStep (p : LmsP ρ) (locked : Bool) (tu d : Array τ) (tu2 : Array ρ) (w : Array τ) (k : Nat) : Array τ × τ × τ :=
  let y := (List.range p.len).foldl (fun y i => y + rd (ρ := ρ) w i * rd (ρ := ρ) tu (i + k)) (zero ρ)
  let e := rd (ρ := ρ) d k - y
  if locked then (w, y, e)
  else if p.nlms then
    let pu := (List.range p.len).foldl (fun pu i => pu + tu2.getD (i + k) (Fn.ofNat 0)) (Fn.ofNat 0)
    ((List.range p.len).foldl (fun (w : Array τ) i => w.setIfInBounds i
      (mulr (rd (ρ := ρ) w i) p.lk + divr (rmul p.mu e * conj ρ (rd (ρ := ρ) tu (i + k))) (pu + eps))) w, y, e)
  else
    ((List.range p.len).foldl (fun (w : Array τ) i => w.setIfInBounds i
      (mulr (rd (ρ := ρ) w i) p.lk + rmul p.mu e * conj ρ (rd (ρ := ρ) tu (i + k)))) w, y, e)

omit [Div τ] in
/-- `tu2` is what the statement in front of the loop makes it: `abs2(tu)` for NLMS -/
theorem lmsWStep_eq (p : LmsP ρ) (locked : Bool) (tu d : Array τ) (tu2 : Array ρ) (w : Array τ) (k : Nat)
    (hw : w.size = p.len) (htu2 : p.nlms = true → ∀ j, tu2.getD j (Fn.ofNat 0) = abs2 (rd (ρ := ρ) tu j)) :
    lmsWStep p locked tu d tu2 w k = lmsStepM p locked tu d w k := by
  simp only [lmsWStep, lmsStepM, lmsIter, lmsUpd, lmsOut, acc_eq_foldl]
  cases locked
  · cases hn : p.nlms
    · simp only [Bool.false_eq_true, if_false, rd]
      rw [foldl_set_eq_ofFn (zero ρ) (fun v i => mulr v p.lk + rmul p.mu _ * conj ρ (tu.getD (i + k) (zero ρ))) p.len w hw]
    · simp only [Bool.false_eq_true, if_false, if_true, htu2 hn, rd]
      rw [foldl_set_eq_ofFn (zero ρ)
        (fun v i => mulr v p.lk + divr (rmul p.mu _ * conj ρ (tu.getD (i + k) (zero ρ))) _) p.len w hw]
  · rfl

/-! ## `RlsFilter<T>::process` -/

/-- the arrays the sample loop of `RlsFilter<T>::process` works on: the members `_u _w _p` and the locals `g Pu uTP guP`,
which are declared in front of the loop and so carried from one sample to the next -/
structure RlsWork (τ : Type) where
  u : Array τ
  w : Array τ
  p : Array τ
  g : Array τ
  Pu : Array τ
  uTP : Array τ
  guP : Array τ

/-- every array has the length its declaration gives it (`g` is assigned as a whole before it is read: no condition) -/
def RlsWork.Sized (n : Nat) (s : RlsWork τ) : Prop :=
  s.u.size = n ∧ s.w.size = n ∧ s.p.size = n * n ∧ s.Pu.size = n ∧ s.uTP.size = n ∧ s.guP.size = n * n

/-- the body of the sample loop as the C++ has it: `memmove` on the delay line, `dot`, `std::fill` and the nested
accumulation loops for `Pu` and `uTP`, the gain, then `guP`, `_p` and `_w` cell by cell -/
def rlsWStep (P : RlsP ρ) (locked : Bool) (s : RlsWork τ) (x d : τ) : RlsWork τ × τ × τ :=
  let n := P.n
  let u := Gen.arrSet (Gen.arrMove s.u (1 : Int) (0 : Int) ((n : Int) - (1 : Int))) (0 : Int) x
  let y := dot (ρ := ρ) s.w.size s.w u
  let e := d - y
  if locked then ({ s with u := u }, y, e) else
  let Pu := (List.range n).foldl (fun (a : Array τ) i => (List.range n).foldl (fun (a : Array τ) k =>
    a.setIfInBounds i (rd (ρ := ρ) a i + rd (ρ := ρ) s.p (i * n + k) * rd (ρ := ρ) u k)) a) (Array.replicate s.Pu.size (zero ρ))
  let uTP := (List.range n).foldl (fun (a : Array τ) i => (List.range n).foldl (fun (a : Array τ) k =>
    a.setIfInBounds i (rd (ρ := ρ) a i + conj ρ (rd (ρ := ρ) u k) * rd (ρ := ρ) s.p (k * n + i))) a)
    (Array.replicate s.uTP.size (zero ρ))
  let g := Pu.map fun v => v / radd P.mu (dot (ρ := ρ) uTP.size uTP u)
  let guP := (List.range n).foldl (fun (a : Array τ) i => (List.range n).foldl (fun (a : Array τ) k =>
    a.setIfInBounds (i * n + k) (rd (ρ := ρ) g i * rd (ρ := ρ) uTP k)) a) s.guP
  let p := (List.range (n * n)).foldl (fun (a : Array τ) i =>
    a.setIfInBounds i (rmul (Fn.ofNat 1 / P.mu) (rd (ρ := ρ) a i - rd (ρ := ρ) guP i))) s.p
  let w := (List.range n).foldl (fun (a : Array τ) i =>
    a.setIfInBounds i (rd (ρ := ρ) a i + conj ρ (rd (ρ := ρ) g i) * e)) s.w
  (⟨u, w, p, g, Pu, uTP, guP⟩, y, e)


omit [Add ρ] in
/-- on arrays of the declared lengths the loop body computes the model's `rlsStep` and keeps the lengths, whatever the
working arrays held -/
theorem rlsWStep_spec (P : RlsP ρ) (locked : Bool) (s : RlsWork τ) (x d : τ) (h : s.Sized P.n) :
    (rlsWStep P locked s x d).1.Sized P.n ∧
    (rlsWStep P locked s x d).1.u = (rlsStep P ⟨s.u, s.w, s.p, locked⟩ x d).s.u ∧
    (rlsWStep P locked s x d).1.w = (rlsStep P ⟨s.u, s.w, s.p, locked⟩ x d).s.w ∧
    (rlsWStep P locked s x d).1.p = (rlsStep P ⟨s.u, s.w, s.p, locked⟩ x d).s.p ∧
    (rlsWStep P locked s x d).2 = ((rlsStep P ⟨s.u, s.w, s.p, locked⟩ x d).y, (rlsStep P ⟨s.u, s.w, s.p, locked⟩ x d).e) ∧
    (rlsStep P ⟨s.u, s.w, s.p, locked⟩ x d).s.locked = locked := by
  obtain ⟨hu, hw, hp, hPu, huTP, hguP⟩ := h
  cases locked
  · -- every loop becomes the `Array.ofFn` the model writes for it; then the two sides are the same term
    simp only [rlsWStep, rlsStep, Bool.false_eq_true, if_false, rd, hw, hPu, huTP, shift_eq (zero ρ) s.u P.n x hu,
      foldl_acc_rows, Array.size_ofFn, foldl_grid_eq_ofFn (zero ρ) _ P.n s.guP hguP, map_eq_ofFn (zero ρ) _ _ P.n]
    rw [foldl_set_eq_ofFn (zero ρ) (fun v j => rmul (Fn.ofNat 1 / P.mu) (v - Array.getD _ j _)) (P.n * P.n) s.p hp,
      foldl_set_eq_ofFn (zero ρ) (fun v i => v + conj ρ (Array.getD _ i _) * _) P.n s.w hw]
    -- `guP[j]` read back in the update of `_p` is the product the model writes there
    simp only [getD_ofFn, Fin.is_lt, dite_true, and_true]
    exact ⟨Array.size_ofFn, Array.size_ofFn, Array.size_ofFn, Array.size_ofFn, Array.size_ofFn, Array.size_ofFn⟩
  · simp only [rlsWStep, rlsStep, if_true, rd, hw, shift_eq (zero ρ) s.u P.n x hu, and_true]
    exact ⟨Array.size_ofFn, hw, hp, hPu, huTP, hguP⟩

/-- the working arrays have their lengths and hold the members of the model's state -/
def RlsWork.Rel (P : RlsP ρ) (locked : Bool) (s : RlsWork τ) (m : RlsState τ) : Prop :=
  s.Sized P.n ∧ s.u = m.u ∧ s.w = m.w ∧ s.p = m.p ∧ m.locked = locked

omit [Add ρ] in
theorem rlsWStep_rel (P : RlsP ρ) (locked : Bool) (s : RlsWork τ) (m : RlsState τ) (x d : τ) (h : s.Rel P locked m) :
    (rlsWStep P locked s x d).1.Rel P locked (rlsStep P m x d).s ∧
    (rlsWStep P locked s x d).2 = ((rlsStep P m x d).y, (rlsStep P m x d).e) := by
  obtain ⟨hs, hu, hw, hp, hl⟩ := h
  obtain ⟨mu, mw, mp, ml⟩ := m
  simp only at hu hw hp hl
  subst hu hw hp hl
  obtain ⟨h1, h2, h3, h4, h5, h6⟩ := rlsWStep_spec P ml s x d hs
  exact ⟨⟨h1, h2, h3, h4, h6⟩, h5⟩

end Dsp.C12Gen
