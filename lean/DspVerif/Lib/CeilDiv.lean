/-!
# The element count of a slice is a ceiling division

`base_slice_t` computes `_nc` from `d = |i2 - i1| ≥ 0` and `t = |m| > 0` as `d / t`, plus one if `d % t ≠ 0` (C++ operators,
here `Int.tdiv`/`Int.tmod`).  Both slice models (`Gen.BaseSlice.ctor` for C04, `Guards.slice` for C05) carry that expression;
everything their proofs need of it is `(c - 1)·t < d ≤ c·t`, and what that means for the positions `i1 + j·m`.
Last, the flat index `i·n + p` of position `p` in block `i`.
-/
namespace Dsp

theorem ceilDiv_spec {d t : Int} (hd : 0 ≤ d) (ht : 0 < t) :
    let c := if Int.tmod d t ≠ 0 then Int.tdiv d t + 1 else Int.tdiv d t
    0 ≤ c ∧ (c - 1) * t < d ∧ d ≤ c * t ∧ (d = 0 → c = 0) := by
  intro c
  have h1 := Int.mul_ediv_add_emod d t
  have h2 := Int.emod_nonneg d (Int.ne_of_gt ht)
  have h3 := Int.emod_lt_of_pos d ht
  have hq : 0 ≤ d / t := Int.ediv_nonneg hd (Int.le_of_lt ht)
  rw [Int.mul_comm] at h1
  simp only [c, Int.tdiv_eq_ediv_of_nonneg hd, Int.tmod_eq_emod_of_nonneg hd]
  split
  · rename_i hne
    rw [Int.add_sub_cancel, Int.add_mul, Int.one_mul]
    exact ⟨by omega, by omega, by omega, fun h0 => absurd (by rw [h0, Int.zero_emod]) hne⟩
  · rw [Int.sub_mul, Int.one_mul]
    refine ⟨hq, by omega, by omega, fun h0 => ?_⟩
    rw [h0, Int.zero_ediv]

/-- the bounds determine the count: it is Python's `len(range(0, d, t)) = (d - 1) / t + 1` (floor division) -/
theorem ceilDiv_unique {c d t : Int} (ht : 0 < t) (h1 : (c - 1) * t < d) (h2 : d ≤ c * t) : (d - 1) / t + 1 = c := by
  have : (d - 1) / t = c - 1 := by
    rw [Int.ediv_eq_iff_of_pos ht]
    rw [Int.sub_mul, Int.one_mul] at *
    omega
  omega

/-- positions `a + j·m`, `0 ≤ j < c`, of a stride whose count satisfies the lower bound above stay in `[a, b)` for an
ascending and in `(b, a]` for a descending slice: `0 ≤ j·|m| ≤ (c - 1)·|m| < |b - a|` -/
theorem stride_bounds {a b m c j : Int} (hc : (c - 1) * (m.natAbs : Int) < ((b - a).natAbs : Int))
    (h0 : 0 ≤ j) (hj : j < c) :
    (0 < m → a ≤ b → a ≤ a + j * m ∧ a + j * m < b) ∧ (m < 0 → b ≤ a → b < a + j * m ∧ a + j * m ≤ a) := by
  have hj' : j ≤ c - 1 := by omega
  constructor
  · intro hm hab
    rw [Int.natAbs_of_nonneg (Int.le_of_lt hm), Int.natAbs_of_nonneg (Int.sub_nonneg_of_le hab)] at hc
    have hle := Int.mul_le_mul_of_nonneg_right hj' (Int.le_of_lt hm)
    have h0 := Int.mul_nonneg h0 (Int.le_of_lt hm)
    omega
  · intro hm hab
    rw [Int.ofNat_natAbs_of_nonpos (Int.le_of_lt hm), Int.ofNat_natAbs_of_nonpos (Int.sub_nonpos_of_le hab),
      Int.neg_sub] at hc
    have hle := Int.mul_le_mul_of_nonneg_right hj' (show 0 ≤ -m by omega)
    have h0 := Int.mul_nonneg h0 (show 0 ≤ -m by omega)
    simp only [Int.mul_neg] at hc hle h0
    omega

/-- position `p < n` of block `i` (a polyphase branch, a row of a row-major matrix): the flat index `i·n + p` splits back into `(i, p)` -/
theorem mul_add_mod_div {n p : Nat} (hp : p < n) (i : Nat) : (i * n + p) % n = p ∧ (i * n + p) / n = i :=
  ⟨by rw [Nat.mul_comm, Nat.mul_add_mod, Nat.mod_eq_of_lt hp],
    by rw [Nat.mul_comm, Nat.mul_add_div (Nat.zero_lt_of_lt hp), Nat.div_eq_of_lt hp, Nat.add_zero]⟩

end Dsp
