import DspVerif.Lib.C07Dft
import Mathlib.Tactic.Linarith
import Mathlib.Tactic.LinearCombination
/-!
# The analytic-signal lemma (C14)

If the spectrum of a real sequence is re-weighted by real weights with `w k + w ((N - k) % N) = 2`, the inverse transform has
the original sequence as its real part: the transform of `y + conj y - 2r` vanishes (`dft_conj`, conjugate symmetry of a real
sequence's bins, `dft ∘ idft = id`), and the transform is injective.
-/
open Finset Complex

namespace Dsp.C14
open Dsp.C07

theorem idft_dft (N : ℕ) (hN : 0 < N) (x : ℕ → ℂ) (t : ℕ) (ht : t < N) : idft N (dft N x) t = x t :=
  idft_dft_cancel N hN x t ht

theorem dft_idft (N : ℕ) (hN : 0 < N) (A : ℕ → ℂ) (k : ℕ) (hk : k < N) : dft N (idft N A) k = A k :=
  dft_idft_cancel N hN A k hk

/-- **analytic-signal lemma.**  `r` real, `w` real weights with `w k + w ((N-k) % N) = 2` on `range N` (all of `DC`, positive and
negative frequencies accounted for exactly once per conjugate pair): the inverse transform of `w · DFT(r)` has real part `r`. -/
theorem analytic_re (N : ℕ) (hN : 0 < N) (r w : ℕ → ℝ) (hw : ∀ k, k < N → w k + w ((N - k) % N) = 2) (t : ℕ) (ht : t < N) :
    (idft N (fun k => ((w k : ℝ) : ℂ) * dft N (fun m => ((r m : ℝ) : ℂ)) k) t).re = r t := by
  set X := dft N (fun m => ((r m : ℝ) : ℂ)) with hX
  set y := idft N (fun k => ((w k : ℝ) : ℂ) * X k) with hy
  -- v = y + conj y - 2 r has a vanishing transform
  have hv : ∀ k, k < N → dft N (fun t => (y t + (starRingEnd ℂ) (y t)) + (-2 : ℂ) * ((r t : ℝ) : ℂ)) k = 0 := by
    intro k hk
    rw [dft_add, dft_add, dft_smul, dft_conj N hN y k hk.le, ← dft_mod N hN y (N - k),
      dft_idft N hN _ k hk, dft_idft N hN _ _ (Nat.mod_lt _ hN), map_mul, Complex.conj_ofReal, ← hX]
    have hs : (starRingEnd ℂ) (X ((N - k) % N)) = X k := by
      rw [hX, dft_mod N hN]; exact dft_conj_symm N hN r k hk.le
    rw [hs]
    have := hw k hk
    have hc : ((w k : ℝ) : ℂ) + ((w ((N - k) % N) : ℝ) : ℂ) = 2 := by exact_mod_cast this
    linear_combination (X k) * hc
  have h0 := eq_zero_of_dft_eq_zero N hN _ hv t ht
  have hre := congrArg Complex.re h0
  simp only [Complex.add_re, Complex.conj_re, Complex.mul_re, Complex.ofReal_re, Complex.ofReal_im, Complex.zero_re,
    Complex.neg_re, Complex.neg_im, Complex.re_ofNat, Complex.im_ofNat] at hre
  linarith

end Dsp.C14
