/-!
# Array lemmas for the framing proofs of C06 (core Lean only)

A block processor with history `d` works on the buffer `d ++ a` and keeps `hand d a`.  The buffer of the whole stream
`d ++ (a ++ b)` agrees with that of the first frame below `|d| + |a|` and, shifted by `|a|`, with that of the second frame
`hand d a ++ b` everywhere; hence the split laws of an output table (`tabF_read_split`) and of an appending loop (`fold_split`).
-/
namespace Dsp.C06A
variable {β : Type}

/-- the history a processor keeps after consuming `a` with history `d`: the last `d.size` cells of `d ++ a` -/
def hand (d a : Array β) : Array β := (d ++ a).extract a.size (a.size + d.size)

theorem size_hand (d a : Array β) : (hand d a).size = d.size := by
  rw [hand, Array.size_extract, Array.size_append]; omega

/-- as the processors write it: the last `d.size` cells, counted from the end of the work buffer -/
theorem extract_tail (d a : Array β) : (d ++ a).extract ((d ++ a).size - d.size) (d ++ a).size = hand d a := by
  simp only [hand, Array.size_append]
  congr 1 <;> omega

theorem getElem?_hand (d a : Array β) (t : Nat) :
    (hand d a)[t]? = if t < d.size then (d ++ a)[a.size + t]? else none := by
  unfold hand
  rw [Array.getElem?_extract, Array.size_append]
  by_cases h : t < d.size
  · rw [if_pos (by omega), if_pos h]
  · rw [if_neg (by omega), if_neg h]

theorem getElem?_prefix (d a b : Array β) (t : Nat) (h : t < d.size + a.size) :
    (d ++ (a ++ b))[t]? = (d ++ a)[t]? := by
  rw [← Array.append_assoc, Array.getElem?_append, Array.size_append, if_pos h]

theorem getElem?_shift (d a b : Array β) (t : Nat) :
    (d ++ (a ++ b))[a.size + t]? = (hand d a ++ b)[t]? := by
  rw [Array.getElem?_append (xs := hand d a), size_hand, getElem?_hand]
  by_cases h1 : t < d.size
  · rw [if_pos h1, if_pos h1, getElem?_prefix _ _ _ _ (by omega)]
  · rw [if_neg h1, ← Array.append_assoc, Array.getElem?_append, Array.size_append, if_neg (by omega)]
    congr 1; omega

theorem getD_prefix (d a b : Array β) (t : Nat) (z : β) (h : t < d.size + a.size) :
    (d ++ (a ++ b)).getD t z = (d ++ a).getD t z := by
  rw [Array.getD_eq_getD_getElem?, Array.getD_eq_getD_getElem?, getElem?_prefix _ _ _ _ h]

theorem getD_shift (d a b : Array β) (t : Nat) (z : β) :
    (d ++ (a ++ b)).getD (a.size + t) z = (hand d a ++ b).getD t z := by
  rw [Array.getD_eq_getD_getElem?, Array.getD_eq_getD_getElem?, getElem?_shift]

theorem hand_hand (d a b : Array β) : hand d (a ++ b) = hand (hand d a) b := by
  apply Array.ext_getElem?
  intro i
  rw [getElem?_hand, getElem?_hand, size_hand, Array.size_append]
  by_cases hi : i < d.size
  · rw [if_pos hi, if_pos hi]
    have e : a.size + b.size + i = a.size + (b.size + i) := by omega
    rw [e, getElem?_shift]
  · rw [if_neg hi, if_neg hi]

theorem hand_empty (d : Array β) : hand d #[] = d := by
  rw [hand, Array.append_empty, Array.size_empty, Nat.zero_add, Array.extract_size]

def tabF {γ : Type} (n : Nat) (f : Nat → γ) : Array γ := Array.ofFn (n := n) fun i => f i.val

theorem size_tabF {γ : Type} (n : Nat) (f : Nat → γ) : (tabF n f).size = n := by simp [tabF]

theorem tabF_congr {γ : Type} (n : Nat) (f g : Nat → γ) (h : ∀ i, i < n → f i = g i) : tabF n f = tabF n g := by
  unfold tabF
  congr 1
  funext i
  exact h i.val i.isLt

theorem tabF_zero {γ : Type} (f : Nat → γ) : tabF 0 f = #[] := by simp [tabF]

theorem tabF_add {γ : Type} (m n : Nat) (f : Nat → γ) :
    tabF (m + n) f = tabF m f ++ tabF n (fun i => f (m + i)) := Array.ofFn_add

/-- **split law of a table computed from the work buffer.**  Output `i` of a block processor is `F r i`, where `r` reads
the work buffer (history, then frame).  If the first `m` outputs look at the buffer only below `|d| + |a|`, and output
`m + i` is output `i` of the buffer advanced by `|a|` cells, then the table over `a ++ b` is the table over `a` followed by
the table over `b` with the history `hand d a`. -/
theorem tabF_read_split {γ : Type} (z : β) (F : (Nat → β) → Nat → γ) (d a b : Array β) (m n : Nat)
    (hpre : ∀ r r' i, i < m → (∀ t, t < d.size + a.size → r t = r' t) → F r i = F r' i)
    (hshift : ∀ r i, i < n → F r (m + i) = F (fun t => r (a.size + t)) i) :
    tabF (m + n) (F fun t => (d ++ (a ++ b)).getD t z) =
      tabF m (F fun t => (d ++ a).getD t z) ++ tabF n (F fun t => (hand d a ++ b).getD t z) := by
  have h1 : tabF m (F fun t => (d ++ (a ++ b)).getD t z) = tabF m (F fun t => (d ++ a).getD t z) :=
    tabF_congr m _ _ fun i hi => hpre _ _ i hi fun t ht => getD_prefix d a b t z ht
  have h2 : tabF n (fun i => F (fun t => (d ++ (a ++ b)).getD t z) (m + i)) =
      tabF n (F fun t => (hand d a ++ b).getD t z) :=
    tabF_congr n _ _ fun i hi => (hshift _ i hi).trans (congrArg (F · i) (funext fun t => getD_shift d a b t z))
  rw [tabF_add, h1, h2]

/-! ## sample loops that only append to their output -/

/-- a left fold whose step extends the output by something that does not depend on the output so far: moving the
accumulated output out of the loop -/
theorem foldl_shift {σ X O : Type} (app : O → O → O) (e : O) (hassoc : ∀ a b c, app (app a b) c = app a (app b c))
    (hid : ∀ a, app a e = a) (step : σ × O → X → σ × O)
    (hstep : ∀ s acc x, step (s, acc) x = ((step (s, e) x).1, app acc (step (s, e) x).2)) :
    ∀ (l : List X) (s : σ) (acc : O),
      l.foldl step (s, acc) = ((l.foldl step (s, e)).1, app acc (l.foldl step (s, e)).2) := by
  intro l
  induction l with
  | nil => intro s acc; simp only [List.foldl_nil]; rw [hid]
  | cons x t ih =>
    intro s acc
    simp only [List.foldl_cons]
    rw [hstep s acc x, ih, ih (step (s, e) x).1 (step (s, e) x).2, hassoc]

/-- **split law of a fold.**  A sample loop `xs.foldl step (s, e)` whose step only appends to the output gives, on
`a ++ b`, the state after `a` then `b`, and the output of `a` followed by the output of `b` from the state `a` left. -/
theorem fold_split {σ X O : Type} (app : O → O → O) (e : O) (hassoc : ∀ a b c, app (app a b) c = app a (app b c))
    (hid : ∀ a, app a e = a) (step : σ × O → X → σ × O)
    (hstep : ∀ s acc x, step (s, acc) x = ((step (s, e) x).1, app acc (step (s, e) x).2))
    (s : σ) (a b : Array X) :
    (a ++ b).foldl step (s, e) =
      ((b.foldl step ((a.foldl step (s, e)).1, e)).1,
        app (a.foldl step (s, e)).2 (b.foldl step ((a.foldl step (s, e)).1, e)).2) := by
  rw [Array.foldl_append]
  rw [← Array.foldl_toList (xs := b), ← Array.foldl_toList (xs := b)]
  exact foldl_shift app e hassoc hid step hstep b.toList _ _

/-- `fold_split` for one output array -/
theorem fold_split_array {σ X Y : Type} (step : σ × Array Y → X → σ × Array Y)
    (hstep : ∀ s acc x, step (s, acc) x = ((step (s, #[]) x).1, acc ++ (step (s, #[]) x).2))
    (s : σ) (a b : Array X) :
    (a ++ b).foldl step (s, #[]) =
      ((b.foldl step ((a.foldl step (s, #[])).1, #[])).1,
        (a.foldl step (s, #[])).2 ++ (b.foldl step ((a.foldl step (s, #[])).1, #[])).2) :=
  fold_split (fun p q => p ++ q) #[] (fun _ _ _ => Array.append_assoc) (fun _ => Array.append_empty) step hstep s a b

/-- `fold_split` for two output arrays (`gain`, `out`) -/
theorem fold_split_pair {σ X A B : Type} (step : σ × Array A × Array B → X → σ × Array A × Array B)
    (hstep : ∀ s ga oa x, step (s, ga, oa) x =
      ((step (s, #[], #[]) x).1, ga ++ (step (s, #[], #[]) x).2.1, oa ++ (step (s, #[], #[]) x).2.2))
    (s : σ) (a b : Array X) :
    (a ++ b).foldl step (s, #[], #[]) =
      ((b.foldl step ((a.foldl step (s, #[], #[])).1, #[], #[])).1,
        (a.foldl step (s, #[], #[])).2.1 ++ (b.foldl step ((a.foldl step (s, #[], #[])).1, #[], #[])).2.1,
        (a.foldl step (s, #[], #[])).2.2 ++ (b.foldl step ((a.foldl step (s, #[], #[])).1, #[], #[])).2.2) :=
  fold_split (fun (p q : Array A × Array B) => (p.1 ++ q.1, p.2 ++ q.2)) (#[], #[])
    (fun _ _ _ => by simp [Array.append_assoc]) (fun _ => by simp) step (fun s acc x => hstep s acc.1 acc.2 x) s a b

end Dsp.C06A
