/-!
# `Array.getD` of the array operations (core Lean only)

The models read arrays with `getD`; proofs compare two arrays cell by cell through it (`ext_getD`).  One lemma per
operation, with the out-of-range value spelled out instead of a side condition wherever that is possible.
-/
namespace Dsp
variable {β : Type}

theorem getD_of_lt (d : β) (a : Array β) {i : Nat} (h : i < a.size) : a.getD i d = a[i] := by
  rw [Array.getD_eq_getD_getElem?, Array.getElem?_eq_getElem h, Option.getD_some]

theorem getD_of_size_le (a : Array β) (i : Nat) (d : β) (h : a.size ≤ i) : a.getD i d = d := by
  rw [Array.getD_eq_getD_getElem?, Array.getElem?_eq_none h, Option.getD_none]

theorem getD_default (a : Array β) (i : Nat) (d d' : β) (h : i < a.size) : a.getD i d = a.getD i d' := by
  rw [getD_of_lt d a h, getD_of_lt d' a h]

theorem getElem?_eq_getD (a : Array β) (i : Nat) (d : β) (h : i < a.size) : a[i]? = some (a.getD i d) := by
  rw [getD_of_lt d a h, Array.getElem?_eq_getElem h]

theorem getD_of_getElem? (a : Array β) (d : β) {i : Nat} {m : β} (h : a.toList[i]? = some m) : a.getD i d = m := by
  rw [Array.getD_eq_getD_getElem?, ← Array.getElem?_toList, h, Option.getD_some]

theorem ext_getD (d : β) (a b : Array β) (h1 : a.size = b.size) (h2 : ∀ i, i < a.size → a.getD i d = b.getD i d) :
    a = b :=
  Array.ext h1 fun i hi1 hi2 => by rw [← getD_of_lt d a hi1, ← getD_of_lt d b hi2, h2 i hi1]

theorem getD_setIfInBounds (a : Array β) (i j : Nat) (v d : β) :
    (a.setIfInBounds i v).getD j d = if i = j ∧ i < a.size then v else a.getD j d := by
  simp only [Array.getD_eq_getD_getElem?, Array.getElem?_setIfInBounds]
  by_cases h : i = j
  · subst h
    by_cases h2 : i < a.size <;> simp [h2]
  · simp [h]

/-- a write that is known to land -/
theorem getD_setIfInBounds_lt (a : Array β) (i j : Nat) (v d : β) (hi : i < a.size) :
    (a.setIfInBounds i v).getD j d = if j = i then v else a.getD j d := by
  rw [getD_setIfInBounds]
  simp only [hi, and_true, eq_comm]

theorem getD_ofFn {n : Nat} (f : Fin n → β) (i : Nat) (d : β) :
    (Array.ofFn f).getD i d = if h : i < n then f ⟨i, h⟩ else d := by
  simp only [Array.getD_eq_getD_getElem?, Array.getElem?_ofFn]
  split <;> rfl

/-- the shape of `mk` / `mkR` in `Model/Fft.lean` and `Model/Ifft.lean`: an array tabulated from a function on `ℕ` -/
theorem getD_ofFn_val (n : Nat) (f : Nat → β) (i : Nat) (d : β) :
    (Array.ofFn (n := n) fun j => f j.val).getD i d = if i < n then f i else d := by
  rw [getD_ofFn]
  split <;> rfl

theorem getD_replicate' (n i : Nat) (v d : β) : (Array.replicate n v).getD i d = if i < n then v else d := by
  simp only [Array.getD_eq_getD_getElem?, Array.getElem?_replicate]
  split <;> rfl

theorem getD_replicate (n i : Nat) (d : β) : (Array.replicate n d).getD i d = d :=
  (getD_replicate' n i d d).trans (ite_self d)

theorem getD_append (a b : Array β) (i : Nat) (d : β) :
    (a ++ b).getD i d = if i < a.size then a.getD i d else b.getD (i - a.size) d := by
  simp only [Array.getD_eq_getD_getElem?, Array.getElem?_append]
  split <;> rfl

/-- padding with the default changes no `getD` -/
theorem getD_append_replicate (a : Array β) (n i : Nat) (d : β) : (a ++ Array.replicate n d).getD i d = a.getD i d := by
  rw [getD_append]
  split
  · rfl
  · next h => rw [getD_replicate]

theorem getD_push (a : Array β) (v : β) (i : Nat) (d : β) :
    (a.push v).getD i d = if i = a.size then v else a.getD i d := by
  simp only [Array.getD_eq_getD_getElem?, Array.getElem?_push]
  split <;> rfl

theorem getD_extract (a : Array β) (s e i : Nat) (d : β) (he : e ≤ a.size) :
    (a.extract s e).getD i d = if i < e - s then a.getD (s + i) d else d := by
  simp only [Array.getD_eq_getD_getElem?, Array.getElem?_extract, Nat.min_eq_left he]
  split <;> rfl

theorem getD_map' {γ : Type} (f : β → γ) (a : Array β) (i : Nat) (d : β) (d' : γ) (hd : f d = d') :
    (a.map f).getD i d' = f (a.getD i d) := by
  simp only [Array.getD_eq_getD_getElem?, Array.getElem?_map]
  cases a[i]? <;> simp [hd]

theorem getD_reverse (a : Array β) (i : Nat) (d : β) (hi : i < a.size) :
    a.reverse.getD i d = a.getD (a.size - 1 - i) d := by
  rw [Array.getD_eq_getD_getElem?, Array.getD_eq_getD_getElem?, Array.getElem?_reverse hi]

theorem map_eq_ofFn {γ : Type} (d : β) (a : Array β) (f : β → γ) (n : Nat) (ha : a.size = n) :
    a.map f = Array.ofFn (n := n) fun i => f (a.getD i.val d) := by
  subst ha
  apply Array.ext
  · simp
  · intro j h1 _
    rw [Array.size_map] at h1
    simp

/-- the last `n` elements -/
theorem size_extract_tail (a : Array β) (n : Nat) (h : n ≤ a.size) : (a.extract (a.size - n) a.size).size = n := by
  rw [Array.size_extract, Nat.min_self, Nat.sub_sub_self h]

/-- the last `n` elements backwards: entry `j` is the element `j + 1` places before the end -/
theorem getD_reverse_extract_tail (a : Array β) (n : Nat) (h : n ≤ a.size) (j : Nat) (d : β) (hj : j < n) :
    (a.extract (a.size - n) a.size).reverse.getD j d = a.getD (a.size - 1 - j) d := by
  have hs := size_extract_tail a n h
  rw [getD_reverse _ _ _ (by rw [hs]; exact hj), hs, getD_extract _ _ _ _ _ (Nat.le_refl _), Nat.sub_sub_self h,
    if_pos (by omega)]
  congr 1; omega

/-- `Array.foldl_induction` with the elements read by `getD` -/
theorem foldl_getD_induction {γ : Type} (d : β) (xs : Array β) (f : γ → β → γ) (b : γ) (motive : Nat → γ → Prop)
    (h0 : motive 0 b) (hf : ∀ i, i < xs.size → ∀ b, motive i b → motive (i + 1) (f b (xs.getD i d))) :
    motive xs.size (xs.foldl f b) :=
  Array.foldl_induction motive h0 fun i b hb => by
    have := hf i.1 i.2 b hb
    rwa [getD_of_lt d xs i.2] at this

end Dsp
