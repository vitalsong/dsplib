import DspVerif.Model.Ifft
import DspVerif.Lib.RealFn
import DspVerif.Lib.Dft
import DspVerif.Lib.ArrayGetD
import DspVerif.Lib.C07Dft
import Mathlib.Tactic.NormNum

/-!
# C02 support: the array layer of `Model/Ifft.lean` (`rd`/`mk`/`rdR`/`mkR`) and the denotation of a vector as a
complex sequence.  The DFT pair and its inversion are those of `Lib/C07Dft.lean`.
-/
open Finset Complex

namespace Dsp
namespace Ifft
open Dsp.C07

section generic
variable {α : Type}

@[simp] theorem size_mk (n : Nat) (f : Nat → Cx α) : (mk n f).size = n := by simp [mk]
@[simp] theorem size_mkR (n : Nat) (f : Nat → α) : (mkR n f).size = n := by simp [mkR]

variable [Fn α]

theorem rd_mk (n : Nat) (f : Nat → Cx α) (i : Nat) : rd (mk n f) i = if i < n then f i else zero :=
  getD_ofFn_val n f i zero

theorem rd_mk_lt (n : Nat) (f : Nat → Cx α) (i : Nat) (h : i < n) : rd (mk n f) i = f i := by
  rw [rd_mk, if_pos h]

theorem rdR_mkR (n : Nat) (f : Nat → α) (i : Nat) : rdR (mkR n f) i = if i < n then f i else Fn.ofNat 0 :=
  getD_ofFn_val n f i _

theorem rdR_mkR_lt (n : Nat) (f : Nat → α) (i : Nat) (h : i < n) : rdR (mkR n f) i = f i := by
  rw [rdR_mkR, if_pos h]

theorem vec_ext (a b : Vec α) (hs : a.size = b.size) (h : ∀ i < a.size, rd a i = rd b i) : a = b :=
  ext_getD zero a b hs h

theorem arr_ext (a b : Array α) (hs : a.size = b.size) (h : ∀ i < a.size, rdR a i = rdR b i) : a = b :=
  ext_getD (Fn.ofNat 0) a b hs h

theorem mk_congr (n : Nat) (f g : Nat → Cx α) (h : ∀ i < n, f i = g i) : mk n f = mk n g :=
  congrArg Array.ofFn (funext fun i => h i i.2)

theorem mkR_congr (n : Nat) (f g : Nat → α) (h : ∀ i < n, f i = g i) : mkR n f = mkR n g :=
  congrArg Array.ofFn (funext fun i => h i i.2)

end generic

/-- the complex sequence a vector denotes (zero outside the array) -/
noncomputable def seq (x : Vec ℝ) : ℕ → ℂ := fun i => Cx.toC (rd x i)

/-- a real array as a complex sequence -/
noncomputable def seqR (x : Array ℝ) : ℕ → ℂ := fun i => ((rdR x i : ℝ) : ℂ)

@[simp] theorem toC_zero : Cx.toC (Ifft.zero : Cx ℝ) = 0 := by
  apply Complex.ext <;> simp [Ifft.zero]

/-! ## inversion of the DFT -/

theorem idft_dft (N : ℕ) (hN : 0 < N) (x : ℕ → ℂ) (t : ℕ) (ht : t < N) : idft N (dft N x) t = x t :=
  idft_dft_cancel N hN x t ht

theorem dft_idft (N : ℕ) (hN : 0 < N) (X : ℕ → ℂ) (k : ℕ) (hk : k < N) : dft N (idft N X) k = X k :=
  dft_idft_cancel N hN X k hk

end Ifft
end Dsp
