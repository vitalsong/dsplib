import DspVerif.Gen.Dynamics
import DspVerif.Lib.RealFn
/-!
# The generated dB conversions over `ℝ`

`Gen.mag2db`, `Gen.db2mag`, `Gen.pow2db`, `Gen.db2pow` (`Gen/Dynamics.lean`, regenerated from `lib/math.cpp`) are `c·log₁₀ x` and
`10^(v/c)` with `c = 20` resp. `10`; the round trips are proved once for a general `c ≠ 0`.
-/
namespace Dsp.Db

theorem log10_pos : (0 : ℝ) < Real.log 10 := Real.log_pos (by norm_num)

theorem mag2db_real (v : ℝ) : Gen.mag2db v = 20 * (Real.log v / Real.log 10) := by
  simp [Gen.mag2db]

theorem db2mag_real (g : ℝ) : Gen.db2mag g = (10 : ℝ) ^ (g / 20) := by
  simp [Gen.db2mag]

theorem pow2db_real (v : ℝ) : Gen.pow2db v = 10 * (Real.log v / Real.log 10) := by
  simp [Gen.pow2db]

theorem db2pow_real (g : ℝ) : Gen.db2pow g = (10 : ℝ) ^ (g / 10) := by
  simp [Gen.db2pow]

/-- `c·log₁₀(10^(v/c)) = v`: a dB value survives the way through the linear scale -/
theorem db_linear_db (c v : ℝ) (hc : c ≠ 0) : c * (Real.log ((10 : ℝ) ^ (v / c)) / Real.log 10) = v := by
  rw [Real.log_rpow (by norm_num), mul_div_assoc, div_self log10_pos.ne', mul_one, mul_div_cancel₀ _ hc]

/-- `10^(c·log₁₀ x / c) = x` for `x > 0` -/
theorem linear_db_linear (c x : ℝ) (hc : c ≠ 0) (hx : 0 < x) : (10 : ℝ) ^ (c * (Real.log x / Real.log 10) / c) = x := by
  rw [mul_div_cancel_left₀ _ hc, Real.rpow_def_of_pos (by norm_num), mul_div_cancel₀ _ log10_pos.ne', Real.exp_log hx]

theorem mag2db_db2mag (v : ℝ) : Gen.mag2db (Gen.db2mag v) = v := by
  rw [db2mag_real, mag2db_real]
  exact db_linear_db 20 v (by norm_num)

theorem db2mag_mag2db (x : ℝ) (hx : 0 < x) : Gen.db2mag (Gen.mag2db x) = x := by
  rw [mag2db_real, db2mag_real]
  exact linear_db_linear 20 x (by norm_num) hx

end Dsp.Db
