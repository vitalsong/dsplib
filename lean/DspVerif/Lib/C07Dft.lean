import DspVerif.Lib.Dft
import DspVerif.Lib.C07Base
import Mathlib.RingTheory.RootsOfUnity.Complex
/-!
# The inverse transform and what rests on the orthogonality of the roots of unity

`ω`, `dft` are those of `Lib/Dft.lean`; `idft N A t = (1/N) Σ_k A k · ω^{-kt}`.  From `Σ_k ω^{kd} = N·[N ∣ d]`: the pair is
mutually inverse on `range N`, the circular convolution and correlation theorems (which discharge the hypotheses
`CircConv` / `CircCorr` of T07.2 / T07.3 for the exact pair, and so show them satisfiable), Parseval; then the inverse
transform of even length split over the half spectrum (the identity behind `IfftPlanR::solve`) and of a Hermitian spectrum.
-/
open Finset Complex

namespace Dsp.C07

theorem ω_eq_pow (N j : ℕ) : ω N j = (ω N 1) ^ j := ω_pow N j

theorem ω_one_prim (N : ℕ) (hN : 0 < N) : IsPrimitiveRoot (ω N 1) N := by
  have h := (Complex.isPrimitiveRoot_exp N hN.ne').inv
  have e : ω N 1 = (exp (2 * Real.pi * I / N))⁻¹ := by
    unfold ω
    rw [← Complex.exp_neg]
    congr 1
    push_cast
    ring
  rw [e]; exact h

/-- orthogonality of the characters of `ℤ/N` -/
theorem ω_sum (N d : ℕ) (hN : 0 < N) : ∑ k ∈ range N, ω N (k * d) = if N ∣ d then (N : ℂ) else 0 := by
  have hp := ω_one_prim N hN
  have e : ∀ k, ω N (k * d) = ((ω N 1) ^ d) ^ k := by
    intro k; rw [ω_eq_pow, mul_comm, pow_mul]
  simp only [e]
  by_cases hd : N ∣ d
  · rw [if_pos hd, (hp.pow_eq_one_iff_dvd d).2 hd]
    simp
  · rw [if_neg hd]
    have hx : (ω N 1) ^ d ≠ 1 := fun h => hd ((hp.pow_eq_one_iff_dvd d).1 h)
    have hxN : ((ω N 1) ^ d) ^ N = 1 := by rw [← pow_mul, mul_comm, pow_mul, hp.pow_eq_one, one_pow]
    have := mul_geom_sum ((ω N 1) ^ d) N
    rw [hxN, sub_self] at this
    rcases mul_eq_zero.1 this with h | h
    · exact absurd (sub_eq_zero.1 h) hx
    · exact h

noncomputable def idft (N : ℕ) (A : ℕ → ℂ) (t : ℕ) : ℂ := (N : ℂ)⁻¹ * ∑ k ∈ range N, A k * (ω N (k * t))⁻¹

theorem idft_congr (N : ℕ) (A B : ℕ → ℂ) (h : ∀ k < N, A k = B k) (t : ℕ) : idft N A t = idft N B t := by
  unfold idft
  congr 1
  exact Finset.sum_congr rfl fun k hk => by rw [h k (mem_range.mp hk)]

/-- for `p < N`, adding `N - p` subtracts `p` modulo `N` -/
theorem dvd_add_sub_iff (N x p : ℕ) (hp : p < N) : N ∣ x + (N - p) ↔ x % N = p := by
  have e : p + (N - p) = N := Nat.add_sub_cancel' hp.le
  have h0 : N ≡ 0 [MOD N] := Nat.modEq_zero_iff_dvd.2 dvd_rfl
  constructor
  · intro h
    have h1 : x + (N - p) ≡ p + (N - p) [MOD N] := by
      rw [e]; exact (Nat.modEq_zero_iff_dvd.2 h).trans h0.symm
    exact Eq.trans (Nat.ModEq.add_right_cancel' _ h1) (Nat.mod_eq_of_lt hp)
  · intro h
    have h1 : x ≡ p [MOD N] := h.trans (Nat.mod_eq_of_lt hp).symm
    have h2 := h1.add_right (N - p)
    rw [e] at h2
    exact Nat.modEq_zero_iff_dvd.1 (h2.trans h0)

/-- orthogonality in the form both inversion directions use -/
theorem ω_sum_sub (N m t : ℕ) (hN : 0 < N) (hm : m < N) (ht : t < N) :
    ∑ k ∈ range N, ω N (k * (m + (N - t))) = if m = t then (N : ℂ) else 0 := by
  rw [ω_sum N _ hN]
  exact if_congr ((dvd_add_sub_iff N m t ht).trans (by rw [Nat.mod_eq_of_lt hm])) rfl rfl

theorem idft_dft_cancel (N : ℕ) (hN : 0 < N) (x : ℕ → ℂ) (t : ℕ) (ht : t < N) : idft N (dft N x) t = x t := by
  have hN' : (N : ℂ) ≠ 0 := by exact_mod_cast hN.ne'
  unfold idft dft
  have step : ∀ k ∈ range N, (∑ m ∈ range N, x m * ω N (m * k)) * (ω N (k * t))⁻¹ =
      ∑ m ∈ range N, x m * ω N (k * (m + (N - t))) := by
    intro k _
    rw [ω_inv N k t hN ht.le, Finset.sum_mul]
    apply Finset.sum_congr rfl; intro m _
    rw [Nat.mul_add, ω_add, Nat.mul_comm k m, mul_assoc]
  have step2 : ∀ m ∈ range N, ∑ k ∈ range N, x m * ω N (k * (m + (N - t))) = if m = t then (N : ℂ) * x m else 0 := by
    intro m hm
    rw [← Finset.mul_sum, ω_sum_sub N m t hN (mem_range.mp hm) ht, mul_ite, mul_zero, mul_comm]
  rw [Finset.sum_congr rfl step, Finset.sum_comm, Finset.sum_congr rfl step2, Finset.sum_ite_eq', if_pos (mem_range.mpr ht),
    ← mul_assoc, inv_mul_cancel₀ hN', one_mul]

theorem dft_idft_cancel (N : ℕ) (hN : 0 < N) (A : ℕ → ℂ) (k : ℕ) (hk : k < N) : dft N (idft N A) k = A k := by
  have hN' : (N : ℂ) ≠ 0 := by exact_mod_cast hN.ne'
  unfold idft dft
  have step : ∀ t ∈ range N, ((N : ℂ)⁻¹ * ∑ j ∈ range N, A j * (ω N (j * t))⁻¹) * ω N (t * k) =
      (N : ℂ)⁻¹ * ∑ j ∈ range N, A j * ω N (t * (k + (N - j))) := by
    intro t _
    rw [mul_assoc, Finset.sum_mul]
    congr 1
    apply Finset.sum_congr rfl; intro j hj
    rw [mul_comm j t, ω_inv N t j hN (mem_range.mp hj).le, Nat.mul_add, ω_add, mul_assoc, mul_comm (ω N (t * k))]
  have step2 : ∀ j ∈ range N, ∑ t ∈ range N, A j * ω N (t * (k + (N - j))) = if k = j then (N : ℂ) * A j else 0 := by
    intro j hj
    rw [← Finset.mul_sum, ω_sum_sub N k j hN hk (mem_range.mp hj), mul_ite, mul_zero, mul_comm]
  rw [Finset.sum_congr rfl step, ← Finset.mul_sum, Finset.sum_comm, Finset.sum_congr rfl step2, Finset.sum_ite_eq,
    if_pos (mem_range.mpr hk), ← mul_assoc, inv_mul_cancel₀ hN', one_mul]

theorem eq_zero_of_dft_eq_zero (N : ℕ) (hN : 0 < N) (v : ℕ → ℂ) (h : ∀ k, k < N → dft N v k = 0) (t : ℕ) (ht : t < N) : v t = 0 := by
  rw [← idft_dft_cancel N hN v t ht]
  unfold idft
  rw [Finset.sum_eq_zero, mul_zero]
  intro k hk
  rw [h k (mem_range.mp hk), zero_mul]

theorem dvd_iff_corr (N n p t : ℕ) (hp : p < N) : N ∣ n + (N - p) + t ↔ (n + t) % N = p := by
  rw [Nat.add_right_comm]; exact dvd_add_sub_iff N (n + t) p hp

/-- the two exponents `n + p - t` and `t - n - p` are multiples of `N` together: they add up to `3N` -/
theorem dvd_iff_conv (N n p t : ℕ) (hn : n < N) (hp : p < N) (ht : t < N) :
    N ∣ n + p + (N - t) ↔ (t + N - n) % N = p := by
  rw [← dvd_add_sub_iff N (t + N - n) p hp]
  have e : n + p + (N - t) + (t + N - n + (N - p)) = N * 3 := by omega
  have h3 : N ∣ n + p + (N - t) + (t + N - n + (N - p)) := e ▸ dvd_mul_right N 3
  exact ⟨fun h => (Nat.dvd_add_right h).1 h3, fun h => (Nat.dvd_add_left h).1 h3⟩

/-- summing over the frequency first: of the products `c n p` only those survive whose exponent `d n p` is a multiple
of `N`, one for every `n` -/
theorem sum_ω_collapse (N : ℕ) (hN : 0 < N) (c : ℕ → ℕ → ℂ) (d : ℕ → ℕ → ℕ) (e : ℕ → ℕ) (he : ∀ n, e n < N)
    (hd : ∀ n p, n < N → p < N → (N ∣ d n p ↔ e n = p)) :
    (N : ℂ)⁻¹ * ∑ k ∈ range N, ∑ n ∈ range N, ∑ p ∈ range N, c n p * ω N (k * d n p) = ∑ n ∈ range N, c n (e n) := by
  have hN' : (N : ℂ) ≠ 0 := Nat.cast_ne_zero.mpr hN.ne'
  rw [Finset.sum_comm, Finset.mul_sum]
  refine Finset.sum_congr rfl fun n hn => ?_
  have hp : ∀ p ∈ range N, ∑ k ∈ range N, c n p * ω N (k * d n p) = if e n = p then (N : ℂ) * c n p else 0 :=
    fun p hp => by
      rw [← Finset.mul_sum, ω_sum N _ hN, if_congr (hd n p (mem_range.mp hn) (mem_range.mp hp)) rfl rfl, mul_ite,
        mul_zero, mul_comm]
  rw [Finset.sum_comm, Finset.sum_congr rfl hp, Finset.sum_ite_eq, if_pos (mem_range.mpr (he n)), ← mul_assoc,
    inv_mul_cancel₀ hN', one_mul]

theorem circ_conv_dft (N : ℕ) (hN : 0 < N) (a b : ℕ → ℂ) (t : ℕ) (ht : t < N) :
    idft N (fun k => dft N a k * dft N b k) t = ∑ n ∈ range N, a n * b ((t + N - n) % N) := by
  unfold idft dft
  have step : ∀ k ∈ range N, (∑ n ∈ range N, a n * ω N (n * k)) * (∑ p ∈ range N, b p * ω N (p * k)) * (ω N (k * t))⁻¹ =
      ∑ n ∈ range N, ∑ p ∈ range N, a n * b p * ω N (k * (n + p + (N - t))) := by
    intro k _
    rw [ω_inv N k t hN ht.le, Finset.sum_mul_sum, Finset.sum_mul]
    apply Finset.sum_congr rfl; intro n _
    rw [Finset.sum_mul]
    apply Finset.sum_congr rfl; intro p _
    have : k * (n + p + (N - t)) = n * k + (p * k + k * (N - t)) := by ring
    rw [this, ω_add, ω_add]; ring
  rw [Finset.sum_congr rfl step]
  exact sum_ω_collapse N hN (fun n p => a n * b p) (fun n p => n + p + (N - t)) (fun n => (t + N - n) % N)
    (fun _ => Nat.mod_lt _ hN) fun n p hn hp => dvd_iff_conv N n p t hn hp ht

theorem circ_corr_dft (N : ℕ) (hN : 0 < N) (a b : ℕ → ℂ) (t : ℕ) (ht : t < N) :
    (starRingEnd ℂ) (idft N (fun k => (starRingEnd ℂ) (dft N a k) * dft N b k) t) =
      ∑ n ∈ range N, a n * (starRingEnd ℂ) (b ((n + t) % N)) := by
  unfold idft dft
  rw [map_mul, map_inv₀, Complex.conj_natCast, map_sum]
  have step : ∀ k ∈ range N,
      (starRingEnd ℂ) ((starRingEnd ℂ) (∑ n ∈ range N, a n * ω N (n * k)) * (∑ p ∈ range N, b p * ω N (p * k)) * (ω N (k * t))⁻¹) =
      ∑ n ∈ range N, ∑ p ∈ range N, a n * (starRingEnd ℂ) (b p) * ω N (k * (n + (N - p) + t)) := by
    intro k _
    rw [map_mul, map_mul, Complex.conj_conj, map_inv₀, ω_conj, inv_inv, map_sum, Finset.sum_mul_sum, Finset.sum_mul]
    apply Finset.sum_congr rfl; intro n _
    rw [Finset.sum_mul]
    apply Finset.sum_congr rfl; intro p hp
    rw [map_mul, ω_conj, mul_comm p k, ω_inv N k p hN (mem_range.mp hp).le]
    have : k * (n + (N - p) + t) = n * k + (k * (N - p) + k * t) := by ring
    rw [this, ω_add, ω_add]; ring
  rw [Finset.sum_congr rfl step]
  exact sum_ω_collapse N hN (fun n p => a n * (starRingEnd ℂ) (b p)) (fun n p => n + (N - p) + t) (fun n => (n + t) % N)
    (fun _ => Nat.mod_lt _ hN) fun n p _ hp => dvd_iff_corr N n p t hp

/-- Parseval for the `N`-point DFT: the correlation theorem at lag `0` -/
theorem parseval (N : ℕ) (hN : 0 < N) (a : ℕ → ℂ) :
    ∑ k ∈ range N, normSq (dft N a k) = (N : ℝ) * ∑ m ∈ range N, normSq (a m) := by
  have h := circ_corr_dft N hN a a 0 hN
  have hN' : (N : ℂ) ≠ 0 := by exact_mod_cast hN.ne'
  unfold idft at h
  simp only [Nat.mul_zero, ω_zero, inv_one, mul_one, Nat.add_zero] at h
  have e1 : ∀ k ∈ range N, (starRingEnd ℂ) (dft N a k) * dft N a k = ((normSq (dft N a k) : ℝ) : ℂ) := by
    intro k _; rw [mul_comm, Complex.mul_conj]
  have e2 : ∀ n ∈ range N, a n * (starRingEnd ℂ) (a (n % N)) = ((normSq (a n) : ℝ) : ℂ) := by
    intro n hn; rw [Nat.mod_eq_of_lt (mem_range.mp hn), Complex.mul_conj]
  rw [Finset.sum_congr rfl e1, Finset.sum_congr rfl e2, ← Complex.ofReal_sum, ← Complex.ofReal_sum, map_mul, map_inv₀,
    Complex.conj_natCast, Complex.conj_ofReal] at h
  have h2 : ((∑ k ∈ range N, normSq (dft N a k) : ℝ) : ℂ) = (N : ℂ) * ((∑ m ∈ range N, normSq (a m) : ℝ) : ℂ) := by
    rw [← h, ← mul_assoc, mul_inv_cancel₀ hN', one_mul]
  exact_mod_cast h2

/-! ## even length: the inverse transform over the half spectrum; Hermitian spectra -/

/-- the inverse transform of even length, summed over the lower half: bin `h + k` joins bin `k` with the sign `ω^{-ht} = ±1` -/
theorem idft_halves (h : ℕ) (X : ℕ → ℂ) (t : ℕ) :
    idft (h * 2) X t =
      ((h * 2 : ℕ) : ℂ)⁻¹ * ∑ k ∈ range h, (X k + X (h + k) * (ω (h * 2) (h * t))⁻¹) * (ω (h * 2) (k * t))⁻¹ := by
  unfold idft
  rw [Nat.mul_two, Finset.sum_range_add, ← Finset.sum_add_distrib]
  congr 1
  apply Finset.sum_congr rfl
  intro k _
  rw [Nat.add_mul, ω_add, mul_inv]
  ring

/-- even/odd split of the inverse transform of a spectrum whose upper half is the conjugate mirror of the lower half:
the identity behind the packing of `IfftPlanR::solve` -/
theorem idft_even_odd (h : ℕ) (hh : 0 < h) (X : ℕ → ℂ) (m : ℕ)
    (hsym : ∀ k < h, X (h + k) = (starRingEnd ℂ) (X (h - k))) :
    ∑ k ∈ range h, ((X k + (starRingEnd ℂ) (X (h - k))) * ((h * 2 : ℕ) : ℂ)⁻¹
        + I * ((X k - (starRingEnd ℂ) (X (h - k))) * ((h * 2 : ℕ) : ℂ)⁻¹ * (ω (h * 2) k)⁻¹)) * (ω h (k * m))⁻¹
      = idft (h * 2) X (2 * m) + I * idft (h * 2) X (2 * m + 1) := by
  have hn : 0 < h * 2 := Nat.mul_pos hh Nat.two_pos
  have e0 : ω (h * 2) (h * (2 * m)) = 1 := by rw [← Nat.mul_assoc, ω_self_mul _ _ hn]
  have e1 : ω (h * 2) (h * (2 * m + 1)) = -1 := by
    rw [Nat.mul_add, ← Nat.mul_assoc, Nat.mul_one, ω_add, ω_self_mul _ _ hn, one_mul, ω_half h hh]
  rw [idft_halves, idft_halves, e0, e1, Finset.mul_sum, Finset.mul_sum, Finset.mul_sum, ← Finset.sum_add_distrib]
  apply Finset.sum_congr rfl
  intro k hk
  rw [show k * (2 * m + 1) = k * m * 2 + k by ring, show k * (2 * m) = k * m * 2 by ring, ω_add, ω_scale h 2 _ Nat.two_pos,
    ← hsym k (mem_range.mp hk), mul_inv]
  ring

/-- a Hermitian spectrum has a real inverse transform: `conj y - y` has the transform `conj X[-k] - X[k] = 0` -/
theorem idft_conj (n : ℕ) (hn : 0 < n) (X : ℕ → ℂ) (hsym : ∀ k < n, X ((n - k) % n) = (starRingEnd ℂ) (X k)) (t : ℕ) (ht : t < n) :
    (starRingEnd ℂ) (idft n X t) = idft n X t := by
  have hv : ∀ k, k < n → dft n (fun t => (starRingEnd ℂ) (idft n X t) + -1 * idft n X t) k = 0 := fun k hk => by
    rw [dft_add, dft_smul, dft_conj n hn _ k hk.le, ← dft_mod n hn _ (n - k), dft_idft_cancel n hn X _ (Nat.mod_lt _ hn),
      dft_idft_cancel n hn X k hk, hsym k hk, Complex.conj_conj, neg_one_mul, add_neg_cancel]
  have h := eq_zero_of_dft_eq_zero n hn _ hv t ht
  rwa [neg_one_mul, add_neg_eq_zero] at h

end Dsp.C07
