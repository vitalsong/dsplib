import DspVerif.Gen.StepsArray
import DspVerif.Lib.ArrayGetD
import Mathlib.Tactic.Ring
import Mathlib.Tactic.Linarith
/-!
# Lemmas shared by the bridge files `Props/C??Gen.lean`

Facts about the array primitives of the GENERATED `Gen/StepsBase.lean` / `Gen/StepsArray.lean` (`arrGet`, `arrSet`, `ptrGet`,
`ptrSet`, `arrMove`, `arrFill`, `arrNew`) at natural-number arguments, read through `Array.getD` (`Lib/ArrayGetD.lean`) — the
form in which the bridge proofs compare a generated loop body with a hand-written model, index by index — and about the
`List.range` folds the generated loops are.  No statement about the library here.
-/
namespace Dsp.GenBridge
open Dsp

/-! ## the generated primitives at natural-number arguments -/

theorem arrGet_natCast {β : Type} (d : β) (a : Array β) (k : ℕ) : Gen.arrGet d a (k : Int) = a.getD k d := by
  simp [Gen.arrGet, Gen.arrIdx]

theorem arrSet_natCast {β : Type} (a : Array β) (k : ℕ) (v : β) : Gen.arrSet a (k : Int) v = a.setIfInBounds k v := by
  simp [Gen.arrSet, Gen.arrIdx]

theorem ptrGet_natCast {β : Type} (d : β) (a : Array β) (k : ℕ) : Gen.ptrGet d a (k : Int) = a.getD k d := by
  simp [Gen.ptrGet]

theorem ptrSet_natCast {β : Type} (a : Array β) (k : ℕ) (v : β) : Gen.ptrSet a (k : Int) v = a.setIfInBounds k v := by
  simp [Gen.ptrSet]

/-- an index expression that denotes the natural number `n`, however it is spelled -/
theorem ptrGet_eq {β : Type} (d : β) (a : Array β) (idx : Int) (n : ℕ) (h : idx = (n : Int)) : Gen.ptrGet d a idx = a.getD n d := by
  rw [h, ptrGet_natCast]

theorem ptrSet_eq {β : Type} (a : Array β) (idx : Int) (n : ℕ) (v : β) (h : idx = (n : Int)) :
    Gen.ptrSet a idx v = a.setIfInBounds n v := by
  rw [h, ptrSet_natCast]

theorem arrGet_eq {β : Type} (d : β) (a : Array β) (idx : Int) (n : ℕ) (h : idx = (n : Int)) : Gen.arrGet d a idx = a.getD n d := by
  rw [h, arrGet_natCast]

theorem arrSet_eq {β : Type} (a : Array β) (idx : Int) (n : ℕ) (v : β) (h : idx = (n : Int)) :
    Gen.arrSet a idx v = a.setIfInBounds n v := by
  rw [h, arrSet_natCast]

theorem arrFill_eq {β : Type} (a : Array β) (v : β) : Gen.arrFill a v = Array.replicate a.size v := rfl

@[simp] theorem arrCopy_size {β : Type} (dst : Array β) (d : Int) (src : Array β) (s cnt : Int) :
    (Gen.arrCopy dst d src s cnt).size = dst.size :=
  Array.size_ofFn

/-- `memcpy` between two arrays, cell by cell -/
theorem arrCopy_getD {β : Type} (dst src : Array β) (d s : ℕ) (cnt : Int) (j : ℕ) (z : β) (hj : j < dst.size) :
    (Gen.arrCopy dst (d : Int) src (s : Int) cnt).getD j z =
      if d ≤ j ∧ (j : Int) < (d : Int) + cnt then src.getD (j - d + s) (dst.getD j z) else dst.getD j z := by
  unfold Gen.arrCopy
  rw [getD_ofFn, dif_pos hj, getD_of_lt z dst hj]
  simp only [Int.ofNat_eq_natCast, Int.ofNat_le]
  split
  · next h => rw [show ((j : Int) - (d : Int) + (s : Int)).toNat = j - d + s by omega]; rfl
  · rfl

/-- `memmove` is `memcpy` from the array to itself: both read the OLD cells -/
theorem arrMove_eq_arrCopy {β : Type} (a : Array β) (dst src cnt : Int) :
    Gen.arrMove a dst src cnt = Gen.arrCopy a dst a src cnt := rfl

@[simp] theorem arrMove_size {β : Type} (a : Array β) (dst src cnt : Int) : (Gen.arrMove a dst src cnt).size = a.size :=
  Array.size_ofFn

/-- `memmove` inside one array, cell by cell -/
theorem arrMove_getD {β : Type} (a : Array β) (dst src : ℕ) (cnt : Int) (j : ℕ) (d : β) (hj : j < a.size) :
    (Gen.arrMove a (dst : Int) (src : Int) cnt).getD j d =
      if dst ≤ j ∧ (j : Int) < (dst : Int) + cnt then a.getD (j - dst + src) (a.getD j d) else a.getD j d :=
  arrCopy_getD a a dst src cnt j d hj

/-- `arrCopy_getD` with the offsets given as integer expressions that denote natural numbers -/
theorem arrCopy_getD_eq {β : Type} (dst src : Array β) (di si : Int) (d s : ℕ) (cnt : Int) (j : ℕ) (z : β) (hj : j < dst.size)
    (hd : di = (d : Int)) (hs : si = (s : Int)) :
    (Gen.arrCopy dst di src si cnt).getD j z =
      if d ≤ j ∧ (j : Int) < (d : Int) + cnt then src.getD (j - d + s) (dst.getD j z) else dst.getD j z := by
  rw [hd, hs]; exact arrCopy_getD dst src d s cnt j z hj

theorem arrNew_nat {β : Type} (z : β) (n : ℕ) (i : Int) (h : i = (n : Int)) : Gen.arrNew z i = Array.replicate n z := by
  rw [h]; simp [Gen.arrNew]

/-- a `memcpy` / `memmove` of no cells changes nothing -/
theorem arrCopy_nonpos {β : Type} (dst src : Array β) (d s cnt : Int) (h : cnt ≤ 0) : Gen.arrCopy dst d src s cnt = dst := by
  refine Array.ext (arrCopy_size ..) fun i h1 h2 => ?_
  simp only [Gen.arrCopy, Array.getElem_ofFn, Int.ofNat_eq_natCast]
  rw [if_neg (by omega)]
  rfl

/-- so a guard in front of it that only excludes such counts (`if (n > 0) memcpy(…, n)`) can be dropped -/
theorem ite_arrCopy {β : Type} (c : Prop) [Decidable c] (dst src : Array β) (d s cnt : Int) (h : ¬ c → cnt ≤ 0) :
    (if c then Gen.arrCopy dst d src s cnt else dst) = Gen.arrCopy dst d src s cnt := by
  split
  · rfl
  · next hc => exact (arrCopy_nonpos dst src d s cnt (h hc)).symm

/-- C's `%` and `/` on index expressions that denote naturals, however they are spelled -/
theorem tmod_eq (e : Int) (k n : ℕ) (h : e = (k : Int)) : Int.tmod e (n : Int) = ((k % n : ℕ) : Int) :=
  h ▸ (Int.ofNat_tmod k n).symm

theorem tdiv_eq (e : Int) (k n : ℕ) (h : e = (k : Int)) : Int.tdiv e (n : Int) = ((k / n : ℕ) : Int) :=
  h ▸ (Int.ofNat_tdiv k n).symm

/-- `memmove(a + 1, a, (n-1)·sizeof T); a[0] = x` on an array of length `n`: the delay line shifted by one -/
theorem shift_eq {β : Type} (d : β) (a : Array β) (n : Nat) (x : β) (ha : a.size = n) :
    Gen.arrSet (Gen.arrMove a (1 : Int) (0 : Int) ((n : Int) - (1 : Int))) (0 : Int) x =
      Array.ofFn (n := n) fun i => if i.val = 0 then x else a.getD (i.val - 1) d := by
  rw [arrSet_eq _ 0 0 x rfl]
  apply ext_getD d
  · rw [Array.size_setIfInBounds, arrMove_size, ha, Array.size_ofFn]
  · intro j hj
    rw [Array.size_setIfInBounds, arrMove_size, ha] at hj
    rw [getD_setIfInBounds, getD_ofFn, dif_pos hj, arrMove_size, ha]
    by_cases hj0 : j = 0
    · subst hj0; rw [if_pos ⟨rfl, hj⟩, if_pos rfl]
    · have hja : j < a.size := ha ▸ hj
      have hm := arrMove_getD a 1 0 ((n : Int) - 1) j d hja
      rw [Nat.cast_one, Nat.cast_zero, if_pos ⟨Nat.one_le_iff_ne_zero.mpr hj0, by omega⟩] at hm
      rw [if_neg (fun h => hj0 h.1.symm), if_neg hj0, hm, Nat.add_zero,
        getD_of_lt _ _ (Nat.lt_of_le_of_lt (Nat.sub_le j 1) hja), getD_of_lt _ _ (Nat.lt_of_le_of_lt (Nat.sub_le j 1) hja)]

/-! ## folds that write cells of an array -/

/-- one row of cell updates `a[base + k] = F k (a[base + k])`, `k < m` -/
theorem foldl_cell_row {β : Type} (d : β) (F : Nat → β → β) (base : Nat) (a : Array β) :
    ∀ m, ((List.range m).foldl (fun (a : Array β) k => a.setIfInBounds (base + k) (F k (a.getD (base + k) d))) a).size = a.size ∧
      ∀ j, ((List.range m).foldl (fun (a : Array β) k => a.setIfInBounds (base + k) (F k (a.getD (base + k) d))) a).getD j d =
        if base ≤ j ∧ j < base + m ∧ j < a.size then F (j - base) (a.getD j d) else a.getD j d := by
  intro m
  induction m with
  | zero =>
    refine ⟨rfl, fun j => ?_⟩
    simp only [List.range_zero, List.foldl_nil]
    rw [if_neg (by omega)]
  | succ m ih =>
    obtain ⟨h1, h2⟩ := ih
    rw [List.range_succ, List.foldl_append]
    simp only [List.foldl_cons, List.foldl_nil]
    refine ⟨by rw [Array.size_setIfInBounds]; exact h1, fun j => ?_⟩
    rw [getD_setIfInBounds, h2 j, h2 (base + m), h1]
    by_cases hj : base + m = j
    · subst hj
      by_cases hs : base + m < a.size
      · rw [if_pos ⟨rfl, hs⟩, if_neg (by omega), if_pos ⟨by omega, by omega, hs⟩]
        congr 1; omega
      · rw [if_neg (by tauto), if_neg (by omega), if_neg (by omega)]
    · rw [if_neg (by tauto)]
      by_cases hc : base ≤ j ∧ j < base + m ∧ j < a.size
      · rw [if_pos hc, if_pos ⟨hc.1, by omega, hc.2.2⟩]
      · rw [if_neg hc, if_neg (by omega)]

theorem foldl_set_inv {β : Type} (d : β) (F : β → Nat → β) (n : Nat) (w : Array β) (hw : w.size = n) :
    ∀ m, m ≤ n →
      ((List.range m).foldl (fun (a : Array β) i => a.setIfInBounds i (F (a.getD i d) i)) w).size = n ∧
      ∀ j, ((List.range m).foldl (fun (a : Array β) i => a.setIfInBounds i (F (a.getD i d) i)) w).getD j d =
        if j < m then F (w.getD j d) j else w.getD j d := by
  intro m hm
  have h := foldl_cell_row d (fun k v => F v k) 0 w m
  simp only [Nat.zero_add, Nat.zero_le, true_and, Nat.sub_zero] at h
  refine ⟨h.1.trans hw, fun j => ?_⟩
  rw [h.2 j]
  by_cases hj : j < m
  · rw [if_pos ⟨hj, by omega⟩, if_pos hj]
  · rw [if_neg (fun hh => hj hh.1), if_neg hj]

/-- `for (i < n) a[i] = F(a[i], i);` on an array of length `n` -/
theorem foldl_set_eq_ofFn {β : Type} (d : β) (F : β → Nat → β) (n : Nat) (w : Array β) (hw : w.size = n) :
    (List.range n).foldl (fun (a : Array β) i => a.setIfInBounds i (F (a.getD i d) i)) w =
      Array.ofFn (n := n) fun i => F (w.getD i.val d) i.val := by
  obtain ⟨h1, h2⟩ := foldl_set_inv d F n w hw n (le_refl n)
  apply Array.ext
  · rw [h1, Array.size_ofFn]
  · intro i hi1 hi2
    have h3 := h2 i
    rw [Array.size_ofFn] at hi2
    rw [if_pos hi2, Array.getD_eq_getD_getElem?, Array.getElem?_eq_getElem hi1, Option.getD_some] at h3
    rw [h3, Array.getElem_ofFn]

/-- accumulating into ONE cell over an inner loop = writing the accumulated value once -/
theorem foldl_acc_cell {β : Type} (d : β) (g : β → Nat → β) (i : Nat) :
    ∀ (l : List Nat) (a : Array β),
      l.foldl (fun (a : Array β) k => a.setIfInBounds i (g (a.getD i d) k)) a =
        a.setIfInBounds i (l.foldl g (a.getD i d)) := by
  intro l
  induction l with
  | nil =>
    intro a
    simp only [List.foldl_nil]
    apply ext_getD d
    · simp
    · intro j _
      rw [getD_setIfInBounds]
      by_cases h : i = j ∧ i < a.size
      · rw [if_pos h, h.1]
      · rw [if_neg h]
  | cons x l ih =>
    intro a
    simp only [List.foldl_cons]
    rw [ih]
    by_cases hi : i < a.size
    · have : (a.setIfInBounds i (g (a.getD i d) x)).getD i d = g (a.getD i d) x := by
        rw [getD_setIfInBounds]; simp [hi]
      rw [this, Array.setIfInBounds_setIfInBounds]
    · simp only [Array.setIfInBounds_eq_of_size_le (Nat.le_of_not_lt hi)]

/-- a fold whose step rewrites ONE component (`upd` / `get`) of the state -/
theorem foldl_upd {S A ι : Type} (upd : S → A → S) (get : S → A) (step : S → ι → S) (G : S → A → ι → A)
    (h1 : ∀ s i, step s i = upd s (G s (get s) i)) (h2 : ∀ s a, get (upd s a) = a)
    (h3 : ∀ s a b, upd (upd s a) b = upd s b) (h4 : ∀ s a, G (upd s a) = G s) (h5 : ∀ s, upd s (get s) = s) :
    ∀ (l : List ι) (s : S), l.foldl step s = upd s (l.foldl (G s) (get s)) := by
  intro l
  induction l with
  | nil => intro s; simp [h5]
  | cons x l ih =>
    intro s
    simp only [List.foldl_cons]
    rw [ih, h1, h2, h3, h4]

theorem foldl_range_congr {β : Type} (f g : β → Nat → β) (n : Nat) (h : ∀ v k, k < n → f v k = g v k) (z : β) :
    (List.range n).foldl f z = (List.range n).foldl g z := by
  induction n generalizing z with
  | zero => rfl
  | succ n ih =>
    rw [List.range_succ, List.foldl_append, List.foldl_append]
    simp only [List.foldl_cons, List.foldl_nil]
    rw [ih (fun v k hk => h v k (by omega)), h _ n (by omega)]

/-- a loop that carries, beside its state, a position advanced by a constant: the position is an arithmetic progression -/
theorem foldl_pair_counter {A : Type} (F : A → Int → Nat → A) (c : Int) :
    ∀ (n : Nat) (a : A) (b : Int),
      (List.range n).foldl (fun (acc : A × Int) j => (F acc.1 acc.2 j, acc.2 + c)) (a, b) =
        ((List.range n).foldl (fun (a : A) (j : Nat) => F a (b + (j : Int) * c) j) a, b + (n : Int) * c) := by
  intro n
  induction n with
  | zero => intro a b; simp
  | succ n ih =>
    intro a b
    rw [List.range_succ, List.foldl_append, List.foldl_append, ih]
    simp only [List.foldl_cons, List.foldl_nil, Prod.mk.injEq, true_and]
    push_cast; ring

/-- the same for a loop body known only by what it does to its counter -/
theorem foldl_counter_fst {A : Type} (L : A × Int → Nat → A × Int) (c : Int) (hc : ∀ acc j, (L acc j).2 = acc.2 + c)
    (n : Nat) (a : A) (b : Int) :
    ((List.range n).foldl L (a, b)).1 = (List.range n).foldl (fun (a : A) (j : Nat) => (L (a, b + (j : Int) * c) j).1) a := by
  rw [show L = fun acc j => ((fun a idx j => (L (a, idx) j).1) acc.1 acc.2 j, acc.2 + c) from
    funext fun acc => funext fun j => Prod.ext rfl (hc acc j), foldl_pair_counter (fun a idx j => (L (a, idx) j).1) c n a b]

/-- the flat `m × n` grid of cell updates `a[i * n + k] = F i k (a[i * n + k])`: every cell is visited once -/
theorem foldl_cell_grid {β : Type} (d : β) (F : Nat → Nat → β → β) (n : Nat) (a : Array β) :
    ∀ m, ((List.range m).foldl (fun (a : Array β) i =>
            (List.range n).foldl (fun (a : Array β) k => a.setIfInBounds (i * n + k) (F i k (a.getD (i * n + k) d))) a) a).size = a.size ∧
      ∀ j, ((List.range m).foldl (fun (a : Array β) i =>
            (List.range n).foldl (fun (a : Array β) k => a.setIfInBounds (i * n + k) (F i k (a.getD (i * n + k) d))) a) a).getD j d =
        if j < m * n ∧ j < a.size then F (j / n) (j % n) (a.getD j d) else a.getD j d := by
  intro m
  induction m with
  | zero =>
    refine ⟨rfl, fun j => ?_⟩
    simp only [List.range_zero, List.foldl_nil]
    rw [if_neg (by omega)]
  | succ m ih =>
    obtain ⟨h1, h2⟩ := ih
    rw [List.range_succ, List.foldl_append]
    simp only [List.foldl_cons, List.foldl_nil]
    obtain ⟨r1, r2⟩ := foldl_cell_row d (F m) (m * n)
      ((List.range m).foldl (fun (a : Array β) i =>
            (List.range n).foldl (fun (a : Array β) k => a.setIfInBounds (i * n + k) (F i k (a.getD (i * n + k) d))) a) a) n
    refine ⟨by rw [r1, h1], fun j => ?_⟩
    rw [r2 j, h2 j, h1]
    have hsm : (m + 1) * n = m * n + n := Nat.succ_mul m n
    by_cases hc : m * n ≤ j ∧ j < m * n + n ∧ j < a.size
    · rw [if_pos hc, if_neg (by omega), if_pos ⟨by omega, hc.2.2⟩]
      have hn : 0 < n := by omega
      have hdiv : j / n = m := by
        apply Nat.div_eq_of_lt_le
        · exact hc.1
        · omega
      have hmod : j % n = j - m * n := by
        rw [Nat.mod_def, hdiv, Nat.mul_comm]
      rw [hdiv, hmod]
    · rw [if_neg hc]
      by_cases hc2 : j < m * n ∧ j < a.size
      · rw [if_pos hc2, if_pos ⟨by omega, hc2.2⟩]
      · rw [if_neg hc2, if_neg (by omega)]

/-- `for (i < n) for (k < n) a[i * n + k] = F i k` on an array of `n * n` cells -/
theorem foldl_grid_eq_ofFn {β : Type} (z : β) (F : Nat → Nat → β) (n : Nat) (a : Array β) (ha : a.size = n * n) :
    (List.range n).foldl (fun (a : Array β) i =>
        (List.range n).foldl (fun (a : Array β) k => a.setIfInBounds (i * n + k) (F i k)) a) a =
      Array.ofFn (n := n * n) fun j => F (j.val / n) (j.val % n) := by
  obtain ⟨h1, h2⟩ := foldl_cell_grid z (fun i k _ => F i k) n a n
  apply ext_getD z
  · rw [h1, ha, Array.size_ofFn]
  · intro j hj
    rw [h1, ha] at hj
    rw [h2 j, getD_ofFn, ha, if_pos ⟨hj, hj⟩, dif_pos hj]

/-- `for (i < m) a[pos i] = v`: the cells `pos i`, `i < m`, hold `v`, the others are untouched -/
theorem foldl_set_at {β : Type} (d v : β) (pos : Nat → Nat) (a : Array β) :
    ∀ m, ((List.range m).foldl (fun (acc : Array β) (i : Nat) => acc.setIfInBounds (pos i) v) a).size = a.size ∧
      ∀ j, ((List.range m).foldl (fun (acc : Array β) (i : Nat) => acc.setIfInBounds (pos i) v) a).getD j d =
        if (∃ i, i < m ∧ pos i = j) ∧ j < a.size then v else a.getD j d := by
  intro m
  induction m with
  | zero => exact ⟨rfl, fun j => (if_neg fun h => by obtain ⟨⟨i, hi, _⟩, _⟩ := h; omega).symm⟩
  | succ m ih =>
    obtain ⟨hs, hg⟩ := ih
    rw [List.range_succ, List.foldl_append]
    simp only [List.foldl_cons, List.foldl_nil]
    refine ⟨by rw [Array.size_setIfInBounds, hs], fun j => ?_⟩
    rw [getD_setIfInBounds, hs, hg j]
    by_cases hj : pos m = j ∧ pos m < a.size
    · rw [if_pos hj, if_pos ⟨⟨m, Nat.lt_succ_self m, hj.1⟩, hj.1 ▸ hj.2⟩]
    · rw [if_neg hj]
      by_cases h : (∃ i, i < m ∧ pos i = j) ∧ j < a.size
      · obtain ⟨⟨i, hi, hp⟩, hlt⟩ := h
        rw [if_pos ⟨⟨i, hi, hp⟩, hlt⟩, if_pos ⟨⟨i, Nat.lt_succ_of_lt hi, hp⟩, hlt⟩]
      · rw [if_neg h, if_neg]
        rintro ⟨⟨i, hi, hp⟩, hlt⟩
        rcases Nat.lt_succ_iff_lt_or_eq.mp hi with hi | rfl
        · exact h ⟨⟨i, hi, hp⟩, hlt⟩
        · exact hj ⟨hp, hp ▸ hlt⟩

/-- `for (i < n) a[i * n + i] = v` on `n * n` cells filled with `z`: the diagonal of the flat row-major matrix holds `v` -/
theorem foldl_diag_eq_ofFn {β : Type} (z v : β) (n : Nat) :
    (List.range n).foldl (fun (acc : Array β) (i : Nat) => acc.setIfInBounds (i * n + i) v) (Array.replicate (n * n) z) =
      Array.ofFn (n := n * n) fun j => if j.val / n = j.val % n then v else z := by
  obtain ⟨hs, hg⟩ := foldl_set_at z v (fun i => i * n + i) (Array.replicate (n * n) z) n
  rw [Array.size_replicate] at hs
  apply ext_getD z
  · rw [hs, Array.size_ofFn]
  · intro j hj
    rw [hs] at hj
    rw [hg j, getD_ofFn, dif_pos hj, getD_replicate', if_pos hj, Array.size_replicate]
    -- `j = i * n + i` with `i < n` says that quotient and remainder of `j` by `n` are both `i`
    have hiff : (∃ i, i < n ∧ i * n + i = j) ↔ j / n = j % n := by
      constructor
      · rintro ⟨i, hi, rfl⟩
        rw [Nat.mul_comm, Nat.mul_add_div (by omega), Nat.mul_add_mod, Nat.div_eq_of_lt hi, Nat.mod_eq_of_lt hi, Nat.add_zero]
      · intro h
        refine ⟨j / n, Nat.div_lt_of_lt_mul hj, ?_⟩
        conv_rhs => rw [← Nat.div_add_mod j n, ← h, Nat.mul_comm]
    by_cases h : j / n = j % n
    · rw [if_pos ⟨hiff.mpr h, hj⟩, if_pos h]
    · rw [if_neg (fun c => h (hiff.mp c.1)), if_neg h]

/-! ## loops known by the equation of their body, and two loops run side by side -/

/-- `foldl_set_eq_ofFn` for a loop body known by its equation -/
theorem foldl_loop_eq_ofFn {β : Type} (d : β) (F : β → ℕ → β) (loop : Array β → ℕ → Array β)
    (hloop : ∀ a i, loop a i = a.setIfInBounds i (F (a.getD i d) i)) (n : ℕ) (w : Array β) (hw : w.size = n) :
    (List.range n).foldl loop w = Array.ofFn (n := n) fun i => F (w.getD i.val d) i.val := by
  rw [show loop = fun a i => a.setIfInBounds i (F (a.getD i d) i) from funext fun a => funext (hloop a)]
  exact foldl_set_eq_ofFn d F n w hw

theorem foldl_rel {A B ι : Type} (R : A → B → Prop) (f : A → ι → A) (g : B → ι → B)
    (h : ∀ a b i, R a b → R (f a i) (g b i)) : ∀ (l : List ι) (a : A) (b : B), R a b → R (l.foldl f a) (l.foldl g b) := by
  intro l
  induction l with
  | nil => intro a b hab; exact hab
  | cons x l ih => intro a b hab; exact ih _ _ (h a b x hab)

theorem foldl_range_rel {A B : Type} (R : Nat → A → B → Prop) (f : A → Nat → A) (g : B → Nat → B) (n : Nat)
    (h : ∀ k a b, k < n → R k a b → R (k + 1) (f a k) (g b k)) (a : A) (b : B) (h0 : R 0 a b) :
    R n ((List.range n).foldl f a) ((List.range n).foldl g b) := by
  induction n with
  | zero => exact h0
  | succ n ih =>
    rw [List.range_succ, List.foldl_append, List.foldl_append]
    simp only [List.foldl_cons, List.foldl_nil]
    exact h n _ _ (Nat.lt_succ_self n) (ih (fun k a b hk => h k a b (Nat.lt_succ_of_lt hk)))

theorem array_foldl_eq_range {β σ : Type} (d : β) (f : σ → β → σ) (xs : Array β) (s : σ) :
    xs.foldl f s = (List.range xs.size).foldl (fun acc k => f acc (xs.getD k d)) s := by
  have h : xs.toList = (List.range xs.size).map fun k => xs.getD k d := by
    apply List.ext_getElem
    · simp
    · intro i h1 _
      simp only [Array.getElem_toList, List.getElem_map, List.getElem_range]
      exact (getD_of_lt d xs _).symm
  rw [← Array.foldl_toList, h, List.foldl_map]

end Dsp.GenBridge
