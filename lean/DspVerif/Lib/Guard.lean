/-!
# What an accepted call has established

The models return `Except _ _` behind `if` guards that mirror the `DSPLIB_ASSERT`s of the C++.  A call that returned `.ok b` has
passed every guard.  Each lemma peels one layer off `… = .ok b`: a throwing guard (either polarity), one `←` of a `do` block, an
`Except.map`.  As `simp only` lemmas they turn a whole constructor into the conjunction of its conditions.
-/
namespace Dsp

variable {ε α β : Type}

/-- `if bad then throw else r` -/
theorem guard_ok {c : Prop} [Decidable c] {e : ε} {r : Except ε α} {b : α} :
    (if c then Except.error e else r) = Except.ok b ↔ ¬ c ∧ r = Except.ok b := by
  by_cases hc : c <;> simp [hc]

/-- `if good then return a else throw` -/
theorem ok_guard {c : Prop} [Decidable c] {e : ε} {a b : α} :
    (if c then Except.ok a else Except.error e) = Except.ok b ↔ c ∧ a = b := by
  by_cases hc : c <;> simp [hc]

/-- `let a ← r; g a` -/
theorem bind_ok {r : Except ε α} {g : α → Except ε β} {b : β} :
    (r >>= g) = Except.ok b ↔ ∃ a, r = Except.ok a ∧ g a = Except.ok b := by
  cases r with
  | error e => exact ⟨fun h => (nomatch h), fun ⟨_, h, _⟩ => (nomatch h)⟩
  | ok a => exact ⟨fun h => ⟨a, rfl, h⟩, fun ⟨_, h, hb⟩ => by cases h; exact hb⟩

/-- `r.map g` (a constructor bridge `gen = model.map toGen` read backwards) -/
theorem map_ok {g : α → β} {r : Except ε α} {b : β} :
    r.map g = Except.ok b ↔ ∃ a, r = Except.ok a ∧ b = g a := by
  cases r with
  | error e => exact ⟨fun h => (nomatch h), fun ⟨_, h, _⟩ => (nomatch h)⟩
  | ok a => exact ⟨fun h => ⟨a, rfl, (Except.ok.inj h).symm⟩, fun ⟨_, h, hb⟩ => by cases h; exact congrArg Except.ok hb.symm⟩

end Dsp
