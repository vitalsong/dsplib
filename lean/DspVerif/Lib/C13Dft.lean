import DspVerif.Model.Spectrum
import DspVerif.Lib.C01Fft
import DspVerif.Lib.C07Dft
import DspVerif.Lib.Guard
import Mathlib.Algebra.Order.Chebyshev
import Mathlib.Algebra.BigOperators.Intervals
import Mathlib.Tactic.Linarith
import Mathlib.Tactic.Ring
import Mathlib.Algebra.BigOperators.Field
import Mathlib.Tactic.Positivity
import Mathlib.Tactic.FieldSimp
/-!
# C13 support

* folding a symmetric two-sided sequence onto one side keeps the sum, Cauchy–Schwarz for complex sequences, the transform of
  a windowed complex exponential (the DFT itself, Parseval included, is that of `Lib/Dft.lean` and `Lib/C07Dft.lean`).
* the array layer of `Model/Spectrum.lean`: what a cell of `accum` / `calcspec` / `oneSided` / `cohAccum` holds, as `Finset` sums.
* the guards: what an accepted `plan` has established; inside the property's domain the segment count is `(N-L)/hop + 1 ≥ 1`
  and every segment lies inside the signal.
-/
open Finset Complex

namespace Dsp.C13
open Dsp.C07 Dsp.Fft Dsp.Spectrum Dsp.Primes

/-! ## sums and windowed tones -/

/-- folding a symmetric two-sided sequence of even length `2h` onto `0..h` (both ends once, the rest twice) keeps the sum -/
theorem fold_sum (h : ℕ) (hh : 0 < h) (p : ℕ → ℝ) (sym : ∀ k, 0 < k → k < h → p (2 * h - k) = p k) :
    ∑ k ∈ range (h + 1), (if k = 0 ∨ k = h then (1 : ℝ) else 2) * p k = ∑ k ∈ range (2 * h), p k := by
  have hr : ∑ j ∈ Ico 1 h, p (2 * h - j) = ∑ j ∈ Ico (h + 1) (2 * h), p j := by
    rw [Finset.sum_Ico_reflect p 1 (m := h) (n := 2 * h) (by omega)]
    congr 2; omega
  have hsym : ∑ j ∈ Ico 1 h, p (2 * h - j) = ∑ j ∈ Ico 1 h, p j :=
    Finset.sum_congr rfl fun j hj => sym j (Finset.mem_Ico.mp hj).1 (Finset.mem_Ico.mp hj).2
  have hmid : ∀ g : ℕ → ℝ, ∑ k ∈ range (h + 1), g k = g 0 + ∑ k ∈ Ico 1 h, g k + g h := fun g => by
    rw [Finset.sum_range_succ, Finset.range_eq_Ico, Finset.sum_eq_sum_Ico_succ_bot hh]
  have hg : ∑ k ∈ Ico 1 h, (if k = 0 ∨ k = h then (1 : ℝ) else 2) * p k = ∑ k ∈ Ico 1 h, 2 * p k :=
    Finset.sum_congr rfl fun k hk => by rw [if_neg (by have := Finset.mem_Ico.mp hk; omega)]
  have hsplit : ∑ k ∈ range (2 * h), p k = ∑ k ∈ range (h + 1), p k + ∑ k ∈ Ico (h + 1) (2 * h), p k := by
    rw [Finset.range_eq_Ico, Finset.range_eq_Ico]
    exact (Finset.sum_Ico_consecutive p (by omega) (by omega)).symm
  rw [hsplit, hmid p, hmid, hg, ← hr, hsym, ← Finset.mul_sum, if_pos (Or.inl rfl), if_pos (Or.inr rfl)]
  ring

theorem cauchy_schwarz {ι : Type} (s : Finset ι) (X Y : ι → ℂ) :
    normSq (∑ i ∈ s, X i * (starRingEnd ℂ) (Y i)) ≤ (∑ i ∈ s, normSq (X i)) * (∑ i ∈ s, normSq (Y i)) := by
  have h1 : ‖∑ i ∈ s, X i * (starRingEnd ℂ) (Y i)‖ ≤ ∑ i ∈ s, ‖X i‖ * ‖Y i‖ := by
    refine (norm_sum_le _ _).trans (le_of_eq ?_)
    apply Finset.sum_congr rfl
    intro i _
    rw [norm_mul, Complex.norm_conj]
  have h2 := Finset.sum_mul_sq_le_sq_mul_sq s (fun i => ‖X i‖) (fun i => ‖Y i‖)
  have h3 : ∀ z : ℂ, normSq z = ‖z‖ ^ 2 := fun z => Complex.normSq_eq_norm_sq z
  simp only [h3]
  calc ‖∑ i ∈ s, X i * (starRingEnd ℂ) (Y i)‖ ^ 2 ≤ (∑ i ∈ s, ‖X i‖ * ‖Y i‖) ^ 2 :=
        pow_le_pow_left₀ (norm_nonneg _) h1 2
    _ ≤ _ := h2

theorem normSq_ω_inv (n j : ℕ) : normSq (ω n j)⁻¹ = 1 := by
  rw [map_inv₀, Complex.normSq_eq_norm_sq, ω_norm, one_pow, inv_one]

/-- at the tone's own bin the shifted window transform is the plain sum of the window -/
theorem tone_sum_self (n L k0 : ℕ) (w : ℕ → ℝ) :
    ∑ m ∈ range L, (w m : ℂ) * ((ω n (k0 * m))⁻¹ * ω n (m * k0)) = ((∑ m ∈ range L, w m : ℝ) : ℂ) := by
  rw [Complex.ofReal_sum]
  apply Finset.sum_congr rfl
  intro m _
  rw [Nat.mul_comm m k0, inv_mul_cancel₀ (ω_ne_zero n _), mul_one]

/-- a non-negative window: no bin exceeds the window sum -/
theorem tone_sum_le (n L k0 k : ℕ) (w : ℕ → ℝ) (hw : ∀ m < L, 0 ≤ w m) :
    normSq (∑ m ∈ range L, (w m : ℂ) * ((ω n (k0 * m))⁻¹ * ω n (m * k))) ≤ (∑ m ∈ range L, w m) ^ 2 := by
  rw [Complex.normSq_eq_norm_sq]
  have h1 : ‖∑ m ∈ range L, (w m : ℂ) * ((ω n (k0 * m))⁻¹ * ω n (m * k))‖ ≤ ∑ m ∈ range L, w m := by
    refine (norm_sum_le _ _).trans (le_of_eq ?_)
    apply Finset.sum_congr rfl
    intro m hm
    rw [norm_mul, norm_mul, norm_inv, ω_norm, ω_norm, inv_one, mul_one, mul_one, Complex.norm_real,
      Real.norm_of_nonneg (hw m (mem_range.mp hm))]
  exact pow_le_pow_left₀ (norm_nonneg _) h1 2

/-! ## array layer -/

theorem rdR_ofFn (n : ℕ) (f : Fin n → ℝ) (k : ℕ) (hk : k < n) : rdR (Array.ofFn f) k = f ⟨k, hk⟩ := by
  rw [rdR, getD_ofFn, dif_pos hk]

theorem rdR_of_ge (a : Array ℝ) (k : ℕ) (h : a.size ≤ k) : rdR a k = 0 :=
  (getD_of_ge a k (Fn.ofNat 0) h).trans Nat.cast_zero

theorem rdR_replicate (n k : ℕ) : rdR (Array.replicate n (Fn.ofNat 0 : ℝ)) k = 0 :=
  (getD_replicate n k _).trans Nat.cast_zero

theorem foldl_range_succ {β : Type} (g : β → ℕ → β) (b : β) (n : ℕ) :
    (List.range (n + 1)).foldl g b = g ((List.range n).foldl g b) n := by
  rw [List.range_succ, List.foldl_append]; rfl

theorem sumTo_eq (n : ℕ) (f : ℕ → ℝ) : sumTo n f = ∑ i ∈ range n, f i := by
  unfold sumTo
  induction n with
  | zero => simp
  | succ n ih => rw [foldl_range_succ, ih, Finset.sum_range_succ]

theorem dotWW_eq (w : Array ℝ) : dotWW w = ∑ i ∈ range w.size, rdR w i * rdR w i := sumTo_eq _ _
theorem sumW_eq (w : Array ℝ) : sumW w = ∑ i ∈ range w.size, rdR w i := sumTo_eq _ _

theorem winpow_true (w : Array ℝ) : winpow true w = dotWW w := rfl
theorem winpow_false (w : Array ℝ) : winpow false w = sumW w * sumW w := rfl

theorem winpow_nonneg (psd : Bool) (w : Array ℝ) : 0 ≤ winpow psd w := by
  cases psd
  · exact mul_self_nonneg _
  · rw [winpow_true, dotWW_eq]
    exact Finset.sum_nonneg fun i _ => mul_self_nonneg _

theorem rdR_accum (nfft : ℕ) (wp : ℝ) (spec : ℕ → Vec ℝ) (nseg k : ℕ) (hk : k < nfft) :
    rdR (accum nfft wp spec nseg) k = ∑ i ∈ range nseg, Cx.abs2 (rd (spec i) k) / wp := by
  unfold accum
  induction nseg with
  | zero => simpa using rdR_replicate nfft k
  | succ n ih =>
    rw [foldl_range_succ, Finset.sum_range_succ, ← ih]
    unfold step
    rw [rdR_ofFn _ _ _ hk]

/-- cell `k` of what `_calcspec` returns: the mean over the segments of `|X_i[k]|² / winpow` -/
theorem rdR_calcspec (pl : Spectrum.Plan) (wp : ℝ) (spec : ℕ → Vec ℝ) (k : ℕ) (hk : k < pl.nfft) :
    rdR (calcspec pl wp spec) k = (∑ i ∈ range pl.nseg.toNat, Cx.abs2 (rd (spec i) k) / wp) / (pl.nseg : ℝ) := by
  unfold calcspec
  simp only []
  rw [rdR_ofFn _ _ _ hk, rdR_accum _ _ _ _ _ hk]
  rfl

theorem size_calcspec (pl : Spectrum.Plan) (wp : ℝ) (spec : ℕ → Vec ℝ) : (calcspec pl wp spec).size = pl.nfft :=
  Array.size_ofFn

/-- cell `k` of the one-sided spectrum (`nfft ≥ 2`): both ends kept (halved, then doubled), the rest doubled -/
theorem rdR_oneSided (n : ℕ) (hn : 2 ≤ n) (p : Array ℝ) (k : ℕ) (hk : k < n / 2 + 1) :
    rdR (oneSided n p) k = (if k = 0 ∨ k = n / 2 then (1 : ℝ) else 2) * rdR p k := by
  unfold oneSided
  rw [rdR_ofFn _ _ _ hk]
  simp only [Nat.add_sub_cancel, fn_ofNat, Nat.cast_ofNat]
  by_cases h0 : k = 0
  · rw [if_pos h0, if_neg (h0 ▸ (Nat.div_pos hn two_pos).ne), if_pos (Or.inl h0), div_mul_cancel₀ _ two_ne_zero, one_mul]
  · rw [if_neg h0]
    by_cases hh : k = n / 2
    · rw [if_pos hh, if_pos (Or.inr hh), div_mul_cancel₀ _ two_ne_zero, one_mul]
    · rw [if_neg hh, if_neg (not_or.mpr ⟨h0, hh⟩), mul_comm]

theorem size_oneSided (n : ℕ) (p : Array ℝ) : (oneSided n p).size = n / 2 + 1 := Array.size_ofFn

theorem rdR_arangeDiv (s e : ℤ) (n i : ℕ) (hi : i < (e - s).toNat) :
    rdR (arangeDiv (α := ℝ) s e n) i = ((s + (i : ℤ) : ℤ) : ℝ) / n := by
  unfold arangeDiv
  rw [rdR_ofFn _ _ _ hi]
  simp

theorem rdR_freqR (n k : ℕ) (hk : k < n / 2 + 1) : rdR (freqR (α := ℝ) n) k = (k : ℝ) / n := by
  unfold freqR
  rw [rdR_arangeDiv _ _ _ _ (by omega)]
  simp

theorem size_freqR (n : ℕ) : (freqR (α := ℝ) n).size = n / 2 + 1 := by
  unfold freqR arangeDiv
  rw [Array.size_ofFn]
  omega

theorem tdiv_two (h : ℕ) : Int.tdiv ((2 * h : ℕ) : ℤ) 2 = (h : ℤ) := by
  rw [Nat.cast_mul, Nat.cast_ofNat, Int.mul_tdiv_cancel_left _ two_ne_zero]

theorem tdiv_neg_two (h : ℕ) : Int.tdiv (-((2 * h : ℕ) : ℤ)) 2 = -(h : ℤ) := by
  rw [Int.neg_tdiv, tdiv_two]

/-- the centred axis the complex overload returns (`n` even): entry `j` is `(j - n/2 + 1) / n` -/
theorem rdR_freqC (n j : ℕ) (hn : 2 ∣ n) (hj : j < n) : rdR (freqC (α := ℝ) n) j = ((j : ℝ) - (n : ℝ) / 2 + 1) / n := by
  obtain ⟨h, rfl⟩ := hn
  unfold freqC
  rw [rdR_arangeDiv _ _ _ _ (by rw [tdiv_neg_two, tdiv_two]; omega), tdiv_neg_two]
  push_cast
  ring

theorem size_freqC (n : ℕ) (hn : 2 ∣ n) : (freqC (α := ℝ) n).size = n := by
  obtain ⟨h, rfl⟩ := hn
  unfold freqC arangeDiv
  rw [Array.size_ofFn, tdiv_neg_two, tdiv_two]
  omega

/-! ## segments as sequences -/

theorem seq_segC (x : Vec ℝ) (win : Array ℝ) (t1 m : ℕ) :
    seq (segC x win t1) m = if m < win.size then Cx.toC (rd x (t1 + m)) * ((rdR win m : ℝ) : ℂ) else 0 := by
  unfold seq segC
  rw [rd_mk]
  by_cases h : m < win.size
  · rw [if_pos h, if_pos h, Cx.toC_mulr]
  · rw [if_neg h, if_neg h, toC_zero]

theorem seqR_segR (x win : Array ℝ) (t1 m : ℕ) :
    seqR (segR x win t1) m = if m < win.size then ((rdR x (t1 + m) * rdR win m : ℝ) : ℂ) else 0 := by
  unfold seqR segR
  by_cases h : m < win.size
  · rw [if_pos h, rdR_ofFn _ _ _ h]
  · rw [if_neg h, rdR_of_ge _ _ (Array.size_ofFn.trans_le (Nat.not_lt.mp h)), Complex.ofReal_zero]

/-- the transform of a zero-padded windowed segment sums over the window only -/
theorem dft_segC (n : ℕ) (x : Vec ℝ) (win : Array ℝ) (hL : win.size ≤ n) (t1 k : ℕ) :
    dft n (seq (segC x win t1)) k = ∑ m ∈ range win.size, Cx.toC (rd x (t1 + m)) * ((rdR win m : ℝ) : ℂ) * ω n (m * k) := by
  rw [funext (seq_segC x win t1), dft_support n _ hL]

theorem dft_segR (n : ℕ) (x win : Array ℝ) (hL : win.size ≤ n) (t1 k : ℕ) :
    dft n (seqR (segR x win t1)) k = ∑ m ∈ range win.size, ((rdR x (t1 + m) * rdR win m : ℝ) : ℂ) * ω n (m * k) := by
  rw [funext (seqR_segR x win t1), dft_support n _ hL]

theorem seqR_conj (y : Array ℝ) (m : ℕ) : (starRingEnd ℂ) (seqR y m) = seqR y m := by
  unfold seqR; exact Complex.conj_ofReal _

/-- the bins of a real segment's transform are conjugate-symmetric, so their powers are symmetric -/
theorem normSq_dft_symm (n : ℕ) (hn : 0 < n) (y : Array ℝ) (k : ℕ) (hk : k ≤ n) :
    normSq (dft n (seqR y) (n - k)) = normSq (dft n (seqR y) k) := by
  have := dft_conj_symm n hn (fun m => rdR y m) k hk
  change (starRingEnd ℂ) (dft n (seqR y) (n - k)) = dft n (seqR y) k at this
  rw [← this, Complex.normSq_conj]

/-! ## guards -/

/-- hop between segment starts, `winlen - noverlap` -/
def hop (L : ℕ) (nov : ℤ) : ℕ := ((L : ℤ) - nov).toNat

/-- number of segments of a signal of `N ≥ L` samples: `⌊(N - L) / hop⌋ + 1` -/
def nsegs (N L : ℕ) (nov : ℤ) : ℕ := (N - L) / hop L nov + 1

/-- what an accepted call has established (the guards of `_calcspec` / `_mscohere`) -/
theorem plan_ok {N L : ℕ} {nov nfft : ℤ} {pl : Spectrum.Plan} (h : plan N L nov nfft = .ok pl) :
    0 < nfft ∧ ispow2 nfft.toNat = true ∧ nov < (L : ℤ) ∧ pl.nfft = nfft.toNat ∧ pl.stride = hop L nov ∧
      pl.nseg = Int.tdiv ((N : ℤ) - L) ((L : ℤ) - nov) + 1 ∧ ¬ (N < L ∧ 0 < pl.nseg) := by
  unfold plan at h
  obtain ⟨h1, h⟩ := guard_ok.mp h
  obtain ⟨h2, h⟩ := guard_ok.mp h
  obtain ⟨h3, h⟩ := guard_ok.mp h
  obtain ⟨h4, h⟩ := guard_ok.mp h
  cases h
  exact ⟨Int.not_le.mp h1, Bool.eq_true_of_not_eq_false h2, not_not.mp h3, rfl, rfl, rfl, h4⟩

theorem plan_pos {N L : ℕ} {nov nfft : ℤ} {pl : Spectrum.Plan} (h : plan N L nov nfft = .ok pl) : 0 < nfft.toNat :=
  Int.lt_toNat.mpr (plan_ok h).1

/-- inside the property's domain (signal at least as long as the window): the hop and the segment count of an accepted call,
at least one segment, and every segment lies inside the signal -/
theorem plan_domain {N L : ℕ} {nov nfft : ℤ} {pl : Spectrum.Plan} (h : plan N L nov nfft = .ok pl) (hNL : L ≤ N) :
    pl.stride = hop L nov ∧ 0 < hop L nov ∧ pl.nseg = (nsegs N L nov : ℤ) ∧ pl.nseg.toNat = nsegs N L nov ∧
      ∀ i, i < nsegs N L nov → i * hop L nov + L ≤ N := by
  obtain ⟨_, _, hnov, _, hst, hn, _⟩ := plan_ok h
  have h0 : 0 < hop L nov := by unfold hop; omega
  have hcast : (L : ℤ) - nov = (hop L nov : ℤ) := (Int.toNat_of_nonneg (by omega)).symm
  have hnseg : pl.nseg = (nsegs N L nov : ℤ) := by
    rw [hn, hcast, ← Nat.cast_sub hNL, Int.tdiv_eq_ediv_of_nonneg (Int.natCast_nonneg _), ← Int.natCast_ediv, nsegs,
      Nat.cast_add, Nat.cast_one]
  refine ⟨hst, h0, hnseg, by rw [hnseg, Int.toNat_natCast], fun i hi => ?_⟩
  have := (Nat.le_div_iff_mul_le h0).1 (Nat.lt_succ_iff.1 hi)
  omega

/-- cell `k` of `_calcspec` for an accepted call inside the domain, whatever the segments are (`seg n t1` = the `n`-point
transform of the windowed segment starting at `t1`): the mean over the segments of `|X_i[k]|² / winpow` -/
theorem calcspec_cell {N L : ℕ} {nov nfft : ℤ} {pl : Spectrum.Plan} (h : plan N L nov nfft = .ok pl) (hNL : L ≤ N) (wp : ℝ)
    (seg : ℕ → ℕ → Vec ℝ) (k : ℕ) (hk : k < nfft.toNat) :
    rdR (calcspec pl wp (fun i => seg pl.nfft (i * pl.stride))) k =
      (∑ i ∈ range (nsegs N L nov), Cx.abs2 (rd (seg nfft.toNat (i * hop L nov)) k) / wp) / (nsegs N L nov : ℝ) := by
  obtain ⟨_, _, _, hnf, _, _, _⟩ := plan_ok h
  obtain ⟨hst, _, hns, hnt, _⟩ := plan_domain h hNL
  rw [rdR_calcspec _ _ _ _ (by rw [hnf]; exact hk), hnt, hns, hst, hnf, Int.cast_natCast]

/-! ## coherence accumulators -/

theorem cohAccum_cells (m : ℕ) (sx sy : ℕ → Vec ℝ) (nseg k : ℕ) (hk : k < m) :
    rdR (cohAccum m sx sy nseg).pxx k = ∑ i ∈ range nseg, Cx.abs2 (rd (sx i) k) ∧
    rdR (cohAccum m sx sy nseg).pyy k = ∑ i ∈ range nseg, Cx.abs2 (rd (sy i) k) ∧
    Cx.toC (rd (cohAccum m sx sy nseg).pxy k) =
      ∑ i ∈ range nseg, Cx.toC (rd (sx i) k) * (starRingEnd ℂ) (Cx.toC (rd (sy i) k)) := by
  unfold cohAccum
  induction nseg with
  | zero =>
    refine ⟨?_, ?_, ?_⟩
    · simpa [cohInit] using rdR_replicate m k
    · simpa [cohInit] using rdR_replicate m k
    · simp [cohInit, rd_mk_lt _ _ _ hk]
  | succ n ih =>
    obtain ⟨i1, i2, i3⟩ := ih
    rw [foldl_range_succ]
    refine ⟨?_, ?_, ?_⟩
    · rw [Finset.sum_range_succ, ← i1]; unfold cohStep; simp only []; rw [rdR_ofFn _ _ _ hk]
    · rw [Finset.sum_range_succ, ← i2]; unfold cohStep; simp only []; rw [rdR_ofFn _ _ _ hk]
    · rw [Finset.sum_range_succ, ← i3]; unfold cohStep; simp only []
      rw [rd_mk_lt _ _ _ hk, Cx.toC_add, Cx.toC_mul, Cx.toC_conj]

/-! ## small analytic facts used by `Props/C13.lean` -/

theorem sum_support (n L : ℕ) (hL : L ≤ n) (g : ℕ → ℝ) :
    ∑ m ∈ range n, (if m < L then g m else 0) = ∑ m ∈ range L, g m := by
  rw [← Finset.sum_subset (Finset.range_subset_range.2 hL)]
  · apply Finset.sum_congr rfl
    intro m hm
    rw [if_pos (mem_range.mp hm)]
  · intro m _ hm
    rw [if_neg (by simpa using hm)]

/-- Parseval applied to the averaged two-sided periodogram -/
theorem two_sided_sum (n M : ℕ) (hn : 0 < n) (wp : ℝ) (s : ℕ → ℕ → ℂ) :
    ∑ j ∈ range n, (∑ i ∈ range M, normSq (dft n (s i) j) / wp) / (M : ℝ) =
      (n : ℝ) * ((∑ i ∈ range M, ∑ m ∈ range n, normSq (s i m)) / (M : ℝ)) / wp := by
  rw [← Finset.sum_div, Finset.sum_comm]
  have : ∀ i ∈ range M, ∑ j ∈ range n, normSq (dft n (s i) j) / wp = (n : ℝ) * (∑ m ∈ range n, normSq (s i m)) / wp := by
    intro i _
    rw [← Finset.sum_div, parseval n hn]
  rw [Finset.sum_congr rfl this, ← Finset.sum_div, ← Finset.mul_sum]
  ring

/-- adding `v` changes the squared magnitude of `u` by `|v|² + 2·Re(u·conj v)` -/
theorem normSq_add_sub_le (u v : ℂ) : |normSq (u + v) - normSq u| ≤ 2 * ‖u‖ * ‖v‖ + ‖v‖ ^ 2 := by
  have h1 : |(u * (starRingEnd ℂ) v).re| ≤ ‖u‖ * ‖v‖ :=
    (Complex.abs_re_le_norm _).trans (le_of_eq (by rw [norm_mul, Complex.norm_conj]))
  have e : normSq (u + v) - normSq u = 2 * (u * (starRingEnd ℂ) v).re + normSq v := by
    rw [Complex.normSq_add]; ring
  rw [e, ← Complex.normSq_eq_norm_sq v]
  refine (abs_add_le _ _).trans ?_
  rw [abs_mul, abs_of_nonneg (Complex.normSq_nonneg v), abs_two, mul_assoc]
  exact add_le_add (mul_le_mul_of_nonneg_left h1 zero_le_two) le_rfl

/-- a tone `a` seen through a window with sum `S`, plus its image `conj a` seen through `W` (phases `p`, `q` on the unit circle):
normalised by `S²`, the squared magnitude is `|a|²` up to the relative error `2r + r²`, `r = |W|/|S|` -/
theorem tone_image_bound (a p q W : ℂ) (S : ℝ) (hS : S ≠ 0) (hp : ‖p‖ = 1) (hq : ‖q‖ = 1) :
    |normSq (a * p * (S : ℂ) + (starRingEnd ℂ) a * q * W) / (S * S) - normSq a| ≤
      normSq a * (2 * (‖W‖ / |S|) + (‖W‖ / |S|) ^ 2) := by
  have hS0 : 0 < |S| := abs_pos.mpr hS
  have hpos : 0 < S * S := mul_self_pos.mpr hS
  have hnu : ‖a * p * (S : ℂ)‖ = ‖a‖ * |S| := by rw [norm_mul, norm_mul, hp, mul_one, Complex.norm_real, Real.norm_eq_abs]
  have hnv : ‖(starRingEnd ℂ) a * q * W‖ = ‖a‖ * ‖W‖ := by rw [norm_mul, norm_mul, Complex.norm_conj, hq, mul_one]
  have hsq : S * S = |S| ^ 2 := by rw [sq_abs, sq]
  have e1 : normSq a = normSq (a * p * (S : ℂ)) / (S * S) := by
    rw [Complex.normSq_eq_norm_sq, Complex.normSq_eq_norm_sq, hnu, mul_pow, ← hsq, mul_div_assoc, div_self hpos.ne', mul_one]
  rw [e1, ← sub_div, abs_div, abs_of_pos hpos, div_le_iff₀ hpos]
  refine (normSq_add_sub_le _ _).trans (le_of_eq ?_)
  rw [hnu, hnv, ← e1, Complex.normSq_eq_norm_sq a, hsq]
  have hr : ‖W‖ = ‖W‖ / |S| * |S| := (div_mul_cancel₀ _ hS0.ne').symm
  generalize ‖W‖ / |S| = r at hr ⊢
  rw [hr]
  ring

theorem mean_close (M : ℕ) (hM : 0 < M) (g : ℕ → ℝ) (c e : ℝ) (h : ∀ i < M, |g i - c| ≤ e) :
    |(∑ i ∈ range M, g i) / (M : ℝ) - c| ≤ e := by
  have hM' : (0 : ℝ) < (M : ℝ) := by exact_mod_cast hM
  have e1 : (∑ i ∈ range M, g i) / (M : ℝ) - c = (∑ i ∈ range M, (g i - c)) / (M : ℝ) := by
    rw [Finset.sum_sub_distrib, Finset.sum_const, card_range, nsmul_eq_mul, sub_div, mul_div_cancel_left₀ _ hM'.ne']
  rw [e1, abs_div, abs_of_pos hM', div_le_iff₀ hM']
  calc |∑ i ∈ range M, (g i - c)| ≤ ∑ i ∈ range M, |g i - c| := Finset.abs_sum_le_sum_abs _ _
    _ ≤ ∑ _i ∈ range M, e := Finset.sum_le_sum (fun i hi => h i (mem_range.mp hi))
    _ = e * M := by rw [Finset.sum_const, card_range, nsmul_eq_mul, mul_comm]

theorem abs_two_mul_sub_le {m c e : ℝ} (h : |m - c| ≤ e) : |2 * m - 2 * c| ≤ 2 * e := by
  rw [← mul_sub, abs_mul, abs_two]
  exact mul_le_mul_of_nonneg_left h zero_le_two

theorem mean_const (M : ℕ) (hM : 0 < M) (g : ℕ → ℝ) (c : ℝ) (h : ∀ i < M, g i = c) : (∑ i ∈ range M, g i) / (M : ℝ) = c := by
  rw [Finset.sum_congr rfl fun i hi => h i (mem_range.mp hi), Finset.sum_const, card_range, nsmul_eq_mul,
    mul_div_cancel_left₀ _ (by exact_mod_cast hM.ne')]

/-- the complex amplitude of `A·cos(θ + φ)`: `a = (A/2)·e^{iφ}`, with `2|a|² = A²/2` -/
noncomputable def cosAmp (A φ : ℝ) : ℂ := ((A / 2 : ℝ) : ℂ) * exp ((φ : ℂ) * I)

theorem cosAmp_power (A φ : ℝ) : 2 * normSq (cosAmp A φ) = A ^ 2 / 2 := by
  unfold cosAmp
  rw [map_mul, Complex.normSq_ofReal, Complex.normSq_eq_norm_sq, Complex.norm_exp_ofReal_mul_I]
  ring

theorem cos_exp (A θ φ : ℝ) :
    ((A * Real.cos (θ + φ) : ℝ) : ℂ) =
      cosAmp A φ * exp ((θ : ℂ) * I) + (starRingEnd ℂ) (cosAmp A φ) * exp (-((θ : ℂ) * I)) := by
  unfold cosAmp
  rw [map_mul, Complex.conj_ofReal, ← Complex.exp_conj, map_mul, Complex.conj_ofReal, Complex.conj_I,
    mul_assoc, mul_assoc, ← Complex.exp_add, ← Complex.exp_add, Complex.ofReal_mul, Complex.ofReal_cos, Complex.cos]
  have e1 : (φ : ℂ) * I + (θ : ℂ) * I = ((θ + φ : ℝ) : ℂ) * I := by push_cast; ring
  have e2 : (φ : ℂ) * -I + -((θ : ℂ) * I) = -(((θ + φ : ℝ) : ℂ)) * I := by push_cast; ring
  rw [e1, e2]
  push_cast
  ring

/-- a real sinusoid at a bin frequency is the sum of the two exponentials `welchR_tone_bound` speaks about -/
theorem cos_as_exponentials (n k0 u : ℕ) (A φ : ℝ) :
    ((A * Real.cos (2 * Real.pi * ((k0 * u : ℕ) : ℝ) / (n : ℝ) + φ) : ℝ) : ℂ) =
      cosAmp A φ * (ω n (k0 * u))⁻¹ + (starRingEnd ℂ) (cosAmp A φ) * ω n (k0 * u) := by
  rw [cos_exp]
  unfold ω
  rw [← Complex.exp_neg]
  congr 3
  · ring
  · ring

end Dsp.C13
