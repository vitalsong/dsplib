import DspVerif.Props.C04
import DspVerif.Gen.StepsSlice
/-!
# Stride-1 slices of the generated code

`a.slice(i1, i2)` in the regenerated `process` bodies goes through the regenerated slice constructor `Gen.BaseSlice.ctor`.
That a range `0 ≤ i1 ≤ i2 ≤ n`, `i1 < n` is accepted, and what it denotes, is read off `C04.ctor_spec`, not off the generated
constructor's text.
-/
namespace Dsp.GenBridge
open Dsp

theorem ctor_range (n i1 i2 : Int) (h0 : 0 ≤ i1) (h1 : i1 ≤ i2) (h2 : i2 ≤ n) (h3 : i1 < n) :
    Gen.BaseSlice.ctor n i1 i2 1 = .ok { i1 := i1, i2 := i2, m := 1, n := n, nc := i2 - i1 } := by
  have hr1 : C04.res n i1 = i1 := if_neg (by omega)
  have hr2 : C04.res n i2 = i2 := if_neg (by omega)
  have hc : C04.count i1 i2 1 = i2 - i1 := by
    simp only [C04.count, Int.natAbs_one, Int.ofNat_eq_natCast, Nat.cast_one, Int.tmod_one, Int.tdiv_one, ne_eq,
      not_true_eq_false, if_false]
    omega
  rw [(C04.ctor_spec n i1 i2 1).1 (by simp only [C04.Accept, hr1, hr2, hc]; omega), C04.built, hr1, hr2, hc]

/-- `D.slice(…) = S.slice(s1, s2)` throws when the source range starts at or beyond `S.size()` (for `s1 ≥ 0`): the source slice is
constructed first and is rejected -/
theorem arrSliceAssign_src_reject {β : Type} (dst src : Array β) (d1 d2 s1 s2 : Int) (h0 : 0 ≤ s1) (h : Gen.arrSize src ≤ s1) :
    ∃ e, Gen.arrSliceAssign dst d1 d2 src s1 s2 = .error e := by
  obtain ⟨e, he⟩ := (C04.ctor_spec (Gen.arrSize src) s1 s2 1).2 fun ha => ha.2.2.1 (Or.inr (by rw [C04.res, if_neg (by omega)]; exact h))
  exact ⟨e, by rw [Gen.arrSliceAssign, he]⟩

/-- `a.slice(i1, i2)` whose index expressions denote naturals `k1 ≤ k2 ≤ a.size()`, `k1 < a.size()`: accepted, and it is the
cells `[k1, k2)` -/
theorem arrSlice_range {β : Type} (a : Array β) (i1 i2 : Int) (k1 k2 : ℕ) (e1 : i1 = (k1 : Int)) (e2 : i2 = (k2 : Int))
    (h1 : k1 ≤ k2) (h2 : k2 ≤ a.size) (h3 : k1 < a.size) : Gen.arrSlice a i1 i2 = .ok (a.extract k1 k2) := by
  subst e1 e2
  unfold Gen.arrSlice
  simp only [Gen.arrSize, Int.ofNat_eq_natCast]
  rw [ctor_range _ _ _ (Int.natCast_nonneg k1) (Int.ofNat_le.2 h1) (Int.ofNat_le.2 h2) (Int.ofNat_lt.2 h3)]
  simp only [Int.toNat_natCast, add_sub_cancel]

end Dsp.GenBridge
