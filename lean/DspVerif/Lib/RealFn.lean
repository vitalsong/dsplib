import DspVerif.Gen.Cmplx
import Mathlib.Analysis.SpecialFunctions.Trigonometric.Arctan
import Mathlib.Analysis.SpecialFunctions.Pow.Real
import Mathlib.Analysis.SpecialFunctions.Log.Basic
import Mathlib.Analysis.SpecialFunctions.Trigonometric.DerivHyp
import Mathlib.Analysis.Complex.Basic
import Mathlib.Tactic.Ring
import Mathlib.Tactic.FieldSimp
/-!
# The exact-arithmetic instantiation of the scalar layer

`Fn ℝ`: the model definitions that are run at `Float` by the driver are reasoned about at `ℝ`.
`toC : Cx ℝ → ℂ` and its homomorphism lemmas for the REGENERATED `cmplx_t` operators (T03.1: each is the field
operation of ℂ, quotients under a non-zero divisor).
-/
namespace Dsp

noncomputable instance : Fn ℝ where
  ofNat n := (n : ℝ)
  ofInt i := (i : ℝ)
  pi      := Real.pi
  sqrt    := Real.sqrt
  abs     := fun x => |x|
  cos     := Real.cos
  sin     := Real.sin
  exp     := Real.exp
  log     := Real.log
  log10   := fun x => Real.log x / Real.log 10
  atan    := Real.arctan
  pow     := fun x y => x ^ y
  floor   := fun x => (⌊x⌋ : ℝ)
  round   := fun x => if 0 ≤ x then (⌊x + 1 / 2⌋ : ℝ) else (⌈x - 1 / 2⌉ : ℝ)   -- C `round`: half away from zero
  tanh    := Real.tanh

@[simp] theorem fn_ofNat (n : Nat) : (Fn.ofNat n : ℝ) = n := rfl
@[simp] theorem fn_ofInt (i : Int) : (Fn.ofInt i : ℝ) = i := rfl
@[simp] theorem fn_pi : (Fn.pi : ℝ) = Real.pi := rfl
@[simp] theorem fn_sqrt (x : ℝ) : Fn.sqrt x = Real.sqrt x := rfl
@[simp] theorem fn_abs (x : ℝ) : Fn.abs x = |x| := rfl
@[simp] theorem fn_cos (x : ℝ) : Fn.cos x = Real.cos x := rfl
@[simp] theorem fn_sin (x : ℝ) : Fn.sin x = Real.sin x := rfl
@[simp] theorem fn_exp (x : ℝ) : Fn.exp x = Real.exp x := rfl
@[simp] theorem fn_log (x : ℝ) : Fn.log x = Real.log x := rfl
@[simp] theorem fn_log10 (x : ℝ) : Fn.log10 x = Real.log x / Real.log 10 := rfl
@[simp] theorem fn_atan (x : ℝ) : Fn.atan x = Real.arctan x := rfl
@[simp] theorem fn_pow (x y : ℝ) : Fn.pow x y = x ^ y := rfl
theorem fn_round (x : ℝ) : Fn.round x = if 0 ≤ x then (⌊x + 1 / 2⌋ : ℝ) else (⌈x - 1 / 2⌉ : ℝ) := rfl
theorem fn_floor (x : ℝ) : Fn.floor x = (⌊x⌋ : ℝ) := rfl

namespace Cx

/-- the complex number a `cmplx_t` value denotes -/
def toC (z : Cx ℝ) : ℂ := ⟨z.re, z.im⟩

@[simp] theorem toC_re (z : Cx ℝ) : (toC z).re = z.re := rfl
@[simp] theorem toC_im (z : Cx ℝ) : (toC z).im = z.im := rfl

@[simp] theorem add_re (a b : Cx ℝ) : (a + b).re = a.re + b.re := rfl
@[simp] theorem add_im (a b : Cx ℝ) : (a + b).im = a.im + b.im := rfl
@[simp] theorem sub_re (a b : Cx ℝ) : (a - b).re = a.re - b.re := rfl
@[simp] theorem sub_im (a b : Cx ℝ) : (a - b).im = a.im - b.im := rfl
@[simp] theorem mul_re (a b : Cx ℝ) : (a * b).re = a.re * b.re - a.im * b.im := rfl
@[simp] theorem mul_im (a b : Cx ℝ) : (a * b).im = a.re * b.im + a.im * b.re := rfl
@[simp] theorem neg_re (a : Cx ℝ) : (-a).re = -a.re := rfl
@[simp] theorem neg_im (a : Cx ℝ) : (-a).im = -a.im := rfl

theorem toC_add (a b : Cx ℝ) : toC (a + b) = toC a + toC b := by apply Complex.ext <;> simp
theorem toC_sub (a b : Cx ℝ) : toC (a - b) = toC a - toC b := by apply Complex.ext <;> simp
theorem toC_mul (a b : Cx ℝ) : toC (a * b) = toC a * toC b := by apply Complex.ext <;> simp
theorem toC_neg (a : Cx ℝ) : toC (-a) = -toC a := by apply Complex.ext <;> simp
theorem toC_conj (a : Cx ℝ) : toC (conj a) = (starRingEnd ℂ) (toC a) := by apply Complex.ext <;> simp [conj]
theorem abs2_eq (a : Cx ℝ) : abs2 a = Complex.normSq (toC a) := by simp [abs2, Complex.normSq_apply]

/-- the generated `cmplx_t / cmplx_t` formula is the quotient of ℂ.  No hypothesis on the divisor: at `b = 0` both sides are
`x / 0 = 0` of Lean's fields, which says nothing about the C++ there (NaN/inf); the statements of T03.1 carry `toC b ≠ 0`. -/
theorem toC_div (a b : Cx ℝ) : toC (a / b) = toC a / toC b := by
  apply Complex.ext
  · rw [Complex.div_re, ← add_div]; rfl
  · rw [Complex.div_im, ← sub_div, mul_comm (toC a).im]; rfl

/-- T03.1: the complex-with-real operators `cmplx_t ∘ real_t` are the operations of ℂ with the embedded real -/
theorem toC_addr (a : Cx ℝ) (x : ℝ) : toC (addr a x) = toC a + (x : ℂ) := by apply Complex.ext <;> simp [addr]
theorem toC_subr (a : Cx ℝ) (x : ℝ) : toC (subr a x) = toC a - (x : ℂ) := by apply Complex.ext <;> simp [subr]
theorem toC_mulr (a : Cx ℝ) (x : ℝ) : toC (mulr a x) = toC a * (x : ℂ) := by apply Complex.ext <;> simp [mulr]
theorem toC_divr (a : Cx ℝ) (x : ℝ) : toC (divr a x) = toC a / (x : ℂ) :=
  Complex.ext (Complex.div_ofReal_re (toC a) x).symm (Complex.div_ofReal_im (toC a) x).symm
theorem toC_rmul (x : ℝ) (b : Cx ℝ) : toC (rmul x b) = (x : ℂ) * toC b := by rw [rmul, toC_mulr, mul_comm]
/-- real-on-the-left `real / cmplx_t` is `cmplx_t(lhs) / rhs` -/
theorem toC_rdiv (x : ℝ) (b : Cx ℝ) : toC (rdiv x b) = (x : ℂ) / toC b := by
  rw [rdiv, toC_div]; congr 1; apply Complex.ext <;> simp

theorem toC_injective : Function.Injective toC := by
  intro a b h
  have h1 := congrArg Complex.re h
  have h2 := congrArg Complex.im h
  simp at h1 h2
  exact Cx.ext' h1 h2

end Cx
end Dsp
