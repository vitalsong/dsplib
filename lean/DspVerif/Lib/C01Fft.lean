import DspVerif.Model.Fft
import DspVerif.Lib.RealFn
import DspVerif.Lib.Dft
import DspVerif.Lib.ArrayGetD
import Mathlib.Tactic.Linarith
import Mathlib.Tactic.NormNum
import Mathlib.Tactic.LinearCombination
/-!
# C01 support: the array layer of `Model/Fft.lean` (`rd`/`mk`), the denotation of a vector as a
complex sequence, and what the model's scalar operations and twiddle table denote in `ℂ`.
-/
open Finset Complex

namespace Dsp

/-- `std::atan2(y, x)` on the reals: the argument of `x + iy` (range `(-π, π]`) -/
noncomputable instance : Atan2 ℝ := ⟨fun y x => Complex.arg ⟨x, y⟩⟩

namespace Fft

section generic
variable {α : Type} [Fn α]

@[simp] theorem size_mk (n : Nat) (f : Nat → Cx α) : (mk n f).size = n := by simp [mk]

theorem rd_mk (n : Nat) (f : Nat → Cx α) (i : Nat) : rd (mk n f) i = if i < n then f i else zero :=
  getD_ofFn_val n f i zero

theorem rd_mk_lt (n : Nat) (f : Nat → Cx α) (i : Nat) (h : i < n) : rd (mk n f) i = f i := by
  rw [rd_mk, if_pos h]

theorem rd2_mkRows (R : Nat) (g : Nat → Vec α) (r c : Nat) (h : r < R) : rd2 (mkRows R g) r c = rd (g r) c := by
  unfold rd2 mkRows
  simp [h, Array.getD]

end generic

/-- the complex sequence a vector denotes (zero outside the array) -/
noncomputable def seq (x : Vec ℝ) : ℕ → ℂ := fun i => Cx.toC (rd x i)

/-- a real array as a complex sequence -/
noncomputable def seqR (x : Array ℝ) : ℕ → ℂ := fun i => ((rdR x i : ℝ) : ℂ)

@[simp] theorem toC_zero : Cx.toC (zero : Cx ℝ) = 0 := by
  apply Complex.ext <;> simp [zero]


theorem toC_untangle (a b : Cx ℝ) : Cx.toC ⟨a.re - b.im, a.im + b.re⟩ = Cx.toC a + I * Cx.toC b := by
  apply Complex.ext <;> simp <;> ring

theorem toC_ofReal (v : ℝ) : Cx.toC (Fft.ofReal v) = (v : ℂ) := by
  apply Complex.ext <;> simp [Fft.ofReal]

theorem toC_expj (t : ℝ) : Cx.toC (expj t) = Complex.exp ((t : ℂ) * I) := by
  apply Complex.ext
  · rw [Complex.exp_ofReal_mul_I_re]; rfl
  · rw [Complex.exp_ofReal_mul_I_im]; rfl

/-- entry `i` of `expj(-2 * pi * arange(·) / n)` denotes `ω n i` -/
theorem toC_twiddle (n i : ℕ) : Cx.toC (twiddle (α := ℝ) n i) = ω n i := by
  unfold twiddle ω
  rw [toC_expj]
  congr 2
  simp only [fn_ofInt, fn_ofNat, fn_pi]
  push_cast
  ring

end Fft
end Dsp
