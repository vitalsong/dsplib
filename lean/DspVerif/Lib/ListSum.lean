import Mathlib.Algebra.BigOperators.Group.List.Basic
import Mathlib.Algebra.Order.BigOperators.Group.List
import Mathlib.Data.Real.Basic
/-!
# Accumulation loops are list sums

`for (x : xs) acc += g(x)` is a left fold; the value theorems speak of `List.sum`.
-/
namespace Dsp

theorem foldl_add_map {γ δ : Type} [AddCommMonoid γ] (g : δ → γ) (l : List δ) (a : γ) :
    l.foldl (fun acc v => acc + g v) a = a + (l.map g).sum := by
  induction l generalizing a with
  | nil => simp
  | cons y ys ih => simp [ih, add_assoc]

theorem sum_map_nonneg {β : Type} (f : β → ℝ) (hf : ∀ v, 0 ≤ f v) (l : List β) : 0 ≤ (l.map f).sum :=
  List.sum_nonneg (List.forall_mem_map.mpr fun v _ => hf v)

end Dsp
