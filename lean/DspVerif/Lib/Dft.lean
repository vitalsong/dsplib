import Mathlib.Analysis.SpecialFunctions.Complex.Log
import Mathlib.Analysis.SpecialFunctions.Trigonometric.Basic
import Mathlib.Algebra.BigOperators.Intervals
import Mathlib.Tactic.Ring
import Mathlib.Tactic.FieldSimp
import Mathlib.Tactic.Push
/-!
# Discrete Fourier transform: definitions and the identities the FFT family is proved against

`ω n j = exp(-2πi j/n)`;  `dft n x k = ∑_{m<n} x m · ω n (m·k)` over `ℕ → ℂ` (range sums): the roots of unity as a
character of `ℕ` modulo `n`, the Cooley–Tukey index arithmetic, and what the transform does to sums, multiples, conjugates and
real sequences.  The inverse transform and everything that needs orthogonality is in `Lib/C07Dft.lean`.
-/
open Finset Complex

namespace Dsp

noncomputable def ω (n : ℕ) (j : ℕ) : ℂ := exp (-(2 * Real.pi * j / n : ℝ) * I)

noncomputable def dft (n : ℕ) (x : ℕ → ℂ) (k : ℕ) : ℂ := ∑ m ∈ range n, x m * ω n (m * k)

theorem ω_zero (n : ℕ) : ω n 0 = 1 := by simp [ω]

theorem ω_add (n a b : ℕ) : ω n (a + b) = ω n a * ω n b := by
  unfold ω; rw [← Complex.exp_add]; congr 1; push_cast; ring

theorem ω_pow (n j : ℕ) : ω n j = (ω n 1) ^ j := by
  induction j with
  | zero => rw [ω_zero, pow_zero]
  | succ j ih => rw [ω_add, ih, pow_succ]

theorem ω_self_mul (n a : ℕ) (hn : 0 < n) : ω n (n * a) = 1 := by
  unfold ω
  have hn' : (n : ℝ) ≠ 0 := Nat.cast_ne_zero.mpr hn.ne'
  have : (-(2 * Real.pi * ((n * a : ℕ) : ℝ) / n : ℝ) : ℂ) * I = ((-(a : ℤ) : ℤ) : ℂ) * (2 * Real.pi * I) := by
    rw [Nat.cast_mul, mul_div_assoc, mul_div_cancel_left₀ _ hn']
    push_cast; ring
  rw [this]; exact Complex.exp_int_mul_two_pi_mul_I _

theorem ω_scale (n c j : ℕ) (hc : 0 < c) : ω (n * c) (j * c) = ω n j := by
  unfold ω
  have hc' : (c : ℝ) ≠ 0 := by exact_mod_cast hc.ne'
  have : (2 * Real.pi * ((j * c : ℕ) : ℝ) / ((n * c : ℕ) : ℝ)) = 2 * Real.pi * (j : ℝ) / (n : ℝ) := by
    push_cast
    rw [← mul_assoc, mul_div_mul_right _ _ hc']
  rw [this]

theorem sum_range_mul (P Q : ℕ) (f : ℕ → ℂ) :
    ∑ m ∈ range (P * Q), f m = ∑ j ∈ range Q, ∑ i ∈ range P, f (i * Q + j) := by
  rw [Finset.sum_comm]
  induction P with
  | zero => simp
  | succ P ih =>
    rw [Nat.succ_mul, Finset.sum_range_add, ih, Finset.sum_range_succ]

/-- general Cooley–Tukey step: the index arithmetic of `_facfft` -/
theorem cooley_tukey (P Q : ℕ) (hP : 0 < P) (hQ : 0 < Q) (x : ℕ → ℂ) (s p : ℕ) :
    dft (P * Q) x (s * P + p) =
      ∑ j ∈ range Q, (ω (P * Q) (j * p) * ∑ i ∈ range P, x (i * Q + j) * ω P (i * p)) * ω Q (j * s) := by
  unfold dft
  rw [sum_range_mul]
  apply Finset.sum_congr rfl; intro j _
  rw [Finset.mul_sum, Finset.sum_mul]
  apply Finset.sum_congr rfl; intro i _
  have e : (i * Q + j) * (s * P + p) = (P * Q) * (i * s) + ((i * p) * Q + ((j * s) * P + j * p)) := by ring
  rw [e, ω_add, ω_add, ω_add, ω_self_mul _ _ (Nat.mul_pos hP hQ), ω_scale P Q _ hQ]
  have : ω (P * Q) (j * s * P) = ω Q (j * s) := by rw [mul_comm P Q]; exact ω_scale Q P _ hP
  rw [this]; ring

/-! ## the roots of unity: period, inverse, conjugate -/

theorem ω_ne_zero (n j : ℕ) : ω n j ≠ 0 := Complex.exp_ne_zero _

theorem ω_norm (n j : ℕ) : ‖ω n j‖ = 1 := by
  unfold ω
  rw [← Complex.ofReal_neg]
  exact Complex.norm_exp_ofReal_mul_I _

theorem ω_conj (n j : ℕ) : (starRingEnd ℂ) (ω n j) = (ω n j)⁻¹ := (Complex.inv_eq_conj (ω_norm n j)).symm

theorem ω_mod (n j : ℕ) (hn : 0 < n) : ω n (j % n) = ω n j := by
  conv_rhs => rw [← Nat.div_add_mod j n]
  rw [ω_add, ω_self_mul _ _ hn, one_mul]

theorem ω_inv_of_dvd (n a b : ℕ) (hn : 0 < n) (h : n ∣ a + b) : (ω n a)⁻¹ = ω n b := by
  obtain ⟨c, hc⟩ := h
  exact inv_eq_of_mul_eq_one_right (by rw [← ω_add, hc, ω_self_mul _ _ hn])

theorem ω_conj_of_dvd (n a b : ℕ) (hn : 0 < n) (h : n ∣ a + b) : (starRingEnd ℂ) (ω n a) = ω n b := by
  rw [ω_conj, ω_inv_of_dvd n a b hn h]

theorem ω_inv (n k t : ℕ) (hn : 0 < n) (ht : t ≤ n) : (ω n (k * t))⁻¹ = ω n (k * (n - t)) :=
  ω_inv_of_dvd n _ _ hn ⟨k, by rw [← Nat.mul_add, Nat.add_sub_cancel' ht, Nat.mul_comm]⟩

theorem ω_half (h : ℕ) (hh : 0 < h) : ω (h * 2) h = -1 := by
  have : ω (h * 2) (1 * h) = ω 2 1 := by rw [Nat.mul_comm h 2]; exact ω_scale 2 h 1 hh
  rw [Nat.one_mul] at this
  rw [this]
  unfold ω
  have e : -(((2 * Real.pi * ((1 : ℕ) : ℝ) / ((2 : ℕ) : ℝ)) : ℝ) : ℂ) * I = -((Real.pi : ℂ) * I) := by
    push_cast; ring
  rw [e, Complex.exp_neg, Complex.exp_pi_mul_I]; norm_num

theorem ω_two_one : ω 2 1 = -1 := ω_half 1 one_pos

/-! ## the transform: dependence on the input, linearity, period of the bins -/

theorem dft_congr (n : ℕ) (x y : ℕ → ℂ) (h : ∀ i < n, x i = y i) (k : ℕ) : dft n x k = dft n y k :=
  Finset.sum_congr rfl fun m hm => by rw [h m (Finset.mem_range.mp hm)]

theorem dft_add (n : ℕ) (x y : ℕ → ℂ) (k : ℕ) : dft n (fun m => x m + y m) k = dft n x k + dft n y k := by
  unfold dft
  rw [← Finset.sum_add_distrib]
  exact Finset.sum_congr rfl fun m _ => add_mul _ _ _

theorem dft_smul (n : ℕ) (c : ℂ) (x : ℕ → ℂ) (k : ℕ) : dft n (fun m => c * x m) k = c * dft n x k := by
  unfold dft
  rw [Finset.mul_sum]
  exact Finset.sum_congr rfl fun m _ => mul_assoc _ _ _

theorem dft_support (n L : ℕ) (hL : L ≤ n) (g : ℕ → ℂ) (k : ℕ) :
    dft n (fun m => if m < L then g m else 0) k = ∑ m ∈ range L, g m * ω n (m * k) := by
  unfold dft
  rw [← Finset.sum_subset (Finset.range_subset_range.2 hL)]
  · exact Finset.sum_congr rfl fun m hm => by
      show (if m < L then g m else 0) * _ = _
      rw [if_pos (mem_range.mp hm)]
  · intro m _ hm
    show (if m < L then g m else 0) * _ = _
    rw [if_neg (hm ∘ mem_range.mpr), zero_mul]

theorem dft_mod (n : ℕ) (hn : 0 < n) (x : ℕ → ℂ) (k : ℕ) : dft n x (k % n) = dft n x k :=
  Finset.sum_congr rfl fun m _ => by rw [← ω_mod n (m * (k % n)) hn, Nat.mul_mod_mod, ω_mod n _ hn]

theorem dft_period (n : ℕ) (hn : 0 < n) (x : ℕ → ℂ) : dft n x n = dft n x 0 := by
  rw [← dft_mod n hn x n, Nat.mod_self]

theorem dft_zero_ofReal (n : ℕ) (r : ℕ → ℝ) : dft n (fun m => ((r m : ℝ) : ℂ)) 0 = ((∑ m ∈ range n, r m : ℝ) : ℂ) := by
  rw [Complex.ofReal_sum]
  exact Finset.sum_congr rfl fun m _ => by rw [Nat.mul_zero, ω_zero, mul_one]

theorem dft_conj (n : ℕ) (hn : 0 < n) (y : ℕ → ℂ) (k : ℕ) (hk : k ≤ n) :
    dft n (fun t => (starRingEnd ℂ) (y t)) k = (starRingEnd ℂ) (dft n y (n - k)) := by
  unfold dft
  rw [map_sum]
  refine Finset.sum_congr rfl fun t _ => ?_
  rw [map_mul, ω_conj, ω_inv n t (n - k) hn (Nat.sub_le _ _), Nat.sub_sub_self hk]

/-- the transform of a real sequence is conjugate-symmetric -/
theorem dft_conj_symm (n : ℕ) (hn : 0 < n) (r : ℕ → ℝ) (k : ℕ) (hk : k ≤ n) :
    (starRingEnd ℂ) (dft n (fun m => ((r m : ℝ) : ℂ)) (n - k)) = dft n (fun m => ((r m : ℝ) : ℂ)) k := by
  rw [← dft_conj n hn _ k hk]
  exact dft_congr n _ _ (fun m _ => Complex.conj_ofReal _) k

/-- radix-2 decimation in frequency: the even and the odd outputs of a transform of length `2h` are the transforms
    of length `h` of the folded input (`cooley_tukey` with two rows) -/
theorem dft_dif (h : ℕ) (hh : 0 < h) (x : ℕ → ℂ) (s : ℕ) :
    dft (2 * h) x (s * 2) = dft h (fun j => x j + x (h + j)) s ∧
    dft (2 * h) x (s * 2 + 1) = dft h (fun j => (x j - x (h + j)) * ω (2 * h) j) s := by
  have e := cooley_tukey 2 h Nat.two_pos hh x s
  constructor
  · rw [← Nat.add_zero (s * 2), e 0]
    refine Finset.sum_congr rfl fun j _ => ?_
    simp [Finset.sum_range_succ, ω_zero]
  · rw [e 1]
    refine Finset.sum_congr rfl fun j _ => ?_
    simp only [Finset.sum_range_succ, Finset.sum_range_zero, Nat.zero_mul, Nat.one_mul, Nat.mul_one, zero_add, ω_zero, ω_two_one]; ring

end Dsp
