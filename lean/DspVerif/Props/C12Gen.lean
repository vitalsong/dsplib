import DspVerif.Props.C12
import DspVerif.Props.C12More
import DspVerif.Gen.StepsAdaptive
import DspVerif.Gen.CtorAdaptive
import DspVerif.Lib.C12Loops
/-!
# C12 — bridge: the hand-written LMS / NLMS and RLS models ARE the regenerated sample loops of `LmsFilter<T>` / `RlsFilter<T>`

`Gen/StepsAdaptive.lean` is written by `tools/cxx2lean.py` on every check run from the C++ AST of `include/dsplib/lms.h`
(both instantiations, `T = real_t` and `T = cmplx_t`): the body of the sample loop `for (int k = 0; k < nx; k++)` as
`Gen.lmsRStep` / `Gen.lmsCStep`, its four inner loops over the taps as `Gen.lms?Step_loop1 … 4` (one iteration each, folded
over `List.range _len`), the members read (`_mu _len _locked _method _lk`, C++ types checked) and written (`_w`).
The statements of `process` in front of and behind that loop (`tu = _u | x`, `tu2 = abs2(tu)` for NLMS, `_u = tu.slice(…)`,
the size guard, `return {y, e}`) are NOT translated: they are pinned by an AST digest in the translator (any change makes
the GEN obligation fail) and remain modelled by hand in `lmsProcess`, tied by the correspondence run.

This file proves that `lmsIter` of `Model/Adaptive.lean` (`lmsOut`, `lmsUpd`) — about which T12.1 / T12.2 of
`Props/C12.lean` are stated — equals the generated loop body, for EVERY parameter record, lock flag, coefficient vector of
length `_len`, working buffer and sample index; that `lmsProcess` is the (hand-modelled) preamble followed by the generated
loop body folded over `k = 0 … nx-1`; and transports the error clause of T12.1 and the locked clause
of T12.2 to that generated run.

`RlsFilter<T>::process` (second half of this file) is regenerated as well (both instantiations): the body of its sample loop
as `Gen.rlsRStep` / `Gen.rlsCStep` with the eight inner loops over the flat `_p[i * _n + k]` matrix, `std::memmove` on the
delay line and `std::fill` on the working arrays as the documented array primitives of `Gen/StepsArray.lean`
(`arrMove`, `arrFill`, index arithmetic explicit), `dot` of lib/math.cpp translated (`Gen.dotRR` / `Gen.dotCC`, with its
throwing guard as `Gen.dot??Throws`), `Pu / (_mu + dot(uTP, _u))` as `arrDivRR` / `arrDivCC`.  The working arrays
`g, Pu, uTP, guP` are declared in FRONT of the sample loop, i.e. they are loop-carried: they are fields of the generated
state (no "rewritten before read" guess), `Gen.rls?Enter` (generated from their declarations) gives their values at loop
entry, and the bridge proves that the members and outputs do not depend on what they held: generated body = `rlsStep` of
`Model/Adaptive.lean` for every length, forgetting factor, lock flag and state of the right sizes; the model of `process` =
pinned size guard + generated loop.  T12.4 (`rls_is_wls`: the real RLS coefficients are THE minimiser of the exponentially
weighted, regularised least-squares cost) and the locked clause of T12.2 are transported to the generated run.  The last
part bridges the regenerated constructors (`Gen/CtorAdaptive.lean`) to `lmsInit` / `rlsInit`.

The one-sample bridges have two halves.  `lms?Step_work` / `rls?Step_work` (here): the real and the complex generated body
are the two instances of `lmsWStep` / `rlsWStep` of `Lib/C12Loops.lean`, the loops written once over natural-number indices
and the mixed operations.  `lmsWStep_eq` / `rlsWStep_spec` (there, for every sample type): those compute `lmsIter` / `rlsStep`.
-/
namespace Dsp.C12Gen
open Dsp Dsp.Adaptive Dsp.Adaptive.Mixed Matrix

set_option linter.unusedSectionVars false
set_option linter.unusedSimpArgs false

/-! ## the sample loop: a generated body folded over `k = 0 … nx-1` -/

section fold
variable {σ τ' ι A B : Type}

/-- one iteration on the accumulator (members, `y` so far, `e` so far) -/
def pushStep (f : σ → ι → σ × A × B) (acc : σ × Array A × Array B) (k : ι) : σ × Array A × Array B :=
  ((f acc.1 k).1, acc.2.1.push (f acc.1 k).2.1, acc.2.2.push (f acc.1 k).2.2)

/-- `for (int k = 0; k < nx; k++) BODY` with `BODY = f` -/
def runIdx (f : σ → Nat → σ × A × B) (s : σ) (nx : Nat) : σ × Array A × Array B :=
  (List.range nx).foldl (pushStep f) (s, #[], #[])

/-- two loops whose bodies keep a relation between their states and produce the same outputs -/
theorem foldl_pushStep_rel (f : σ → ι → σ × A × B) (g : τ' → ι → τ' × A × B) (R : σ → τ' → Prop)
    (h : ∀ s t k, R s t → R (f s k).1 (g t k).1 ∧ (f s k).2 = (g t k).2) :
    ∀ (l : List ι) (s : σ) (t : τ') (ya : Array A) (ea : Array B), R s t →
      R (l.foldl (pushStep f) (s, ya, ea)).1 (l.foldl (pushStep g) (t, ya, ea)).1 ∧
      (l.foldl (pushStep f) (s, ya, ea)).2 = (l.foldl (pushStep g) (t, ya, ea)).2 := by
  intro l s t ya ea hR
  exact GenBridge.foldl_rel (fun (a : σ × Array A × Array B) (b : τ' × Array A × Array B) => R a.1 b.1 ∧ a.2 = b.2) _ _
    (fun a b k hab => by
      obtain ⟨h1, h2⟩ := h a.1 b.1 k hab.1
      exact ⟨h1, by simp only [pushStep, h2, hab.2]⟩) l _ _ ⟨hR, rfl⟩

end fold

section generic
variable {ρ τ S : Type} [Add ρ] [Div ρ] [Fn ρ] [Add τ] [Sub τ] [Mul τ] [Div τ] [Mixed ρ τ]

theorem lmsIter_eq_pushStep (p : LmsP ρ) (locked : Bool) (tu d : Array τ) :
    lmsIter p locked tu d = pushStep (lmsStepM p locked tu d) := rfl

theorem lmsStepM_size (p : LmsP ρ) (locked : Bool) (tu d : Array τ) (w : Array τ) (k : Nat) (hw : w.size = p.len) :
    (lmsStepM p locked tu d w k).1.size = p.len := by
  simp only [lmsStepM, lmsIter]
  split
  · exact hw
  · exact C12.lmsUpd_size p w tu k _

/-- a loop body on a state that wraps `_w` (`mk`) and is `lmsWStep` on it: folded over the sample indices it is the model's loop -/
theorem lmsRun_of_work (p : LmsP ρ) (locked : Bool) (tu d : Array τ) (tu2 : Array ρ) (mk : Array τ → S)
    (f : S → Nat → S × τ × τ)
    (hf : ∀ w k, f (mk w) k = (mk (lmsWStep p locked tu d tu2 w k).1, (lmsWStep p locked tu d tu2 w k).2))
    (htu2 : p.nlms = true → ∀ j, tu2.getD j (Fn.ofNat 0) = abs2 (rd (ρ := ρ) tu j))
    (w : Array τ) (hw : w.size = p.len) (nx : Nat) :
    runIdx f (mk w) nx =
      (mk ((List.range nx).foldl (lmsIter p locked tu d) (w, #[], #[])).1,
        ((List.range nx).foldl (lmsIter p locked tu d) (w, #[], #[])).2) := by
  rw [lmsIter_eq_pushStep]
  obtain ⟨⟨h1, _⟩, h2⟩ := foldl_pushStep_rel f (lmsStepM p locked tu d) (fun g w => g = mk w ∧ w.size = p.len)
    (fun g w k h => by
      rw [h.1, hf, lmsWStep_eq p locked tu d tu2 w k h.2 htu2]
      exact ⟨⟨rfl, lmsStepM_size p locked tu d w k h.2⟩, rfl⟩) (List.range nx) _ w #[] #[] ⟨rfl, hw⟩
  exact Prod.ext h1 h2

/-- the model's loop iteration without the output arrays -/
def rlsStepM (P : RlsP ρ) (x d : Array τ) (s : RlsState τ) (k : Nat) : RlsState τ × τ × τ :=
  ((rlsStep P s (rd (ρ := ρ) x k) (rd (ρ := ρ) d k)).s, (rlsStep P s (rd (ρ := ρ) x k) (rd (ρ := ρ) d k)).y,
    (rlsStep P s (rd (ρ := ρ) x k) (rd (ρ := ρ) d k)).e)

theorem rlsIter_eq_pushStep (P : RlsP ρ) (x d : Array τ) : rlsIter P x d = pushStep (rlsStepM P x d) := rfl

/-- a loop body that, seen through `view` as the seven arrays it works on, is `rlsWStep`: folded over the sample indices
from a state that holds the members of `s` (and working arrays of the declared lengths) it computes the model's loop -/
theorem rlsRun_of_work (P : RlsP ρ) (s : RlsState τ) (x d : Array τ) (view : S → RlsWork τ) (f : S → Nat → S × τ × τ)
    (hf : ∀ g k, (view (f g k).1, (f g k).2) = rlsWStep P s.locked (view g) (rd (ρ := ρ) x k) (rd (ρ := ρ) d k))
    (g0 : S) (h0 : (view g0).Rel P s.locked s) (nx : Nat) :
    (view (runIdx f g0 nx).1).Rel P s.locked ((List.range nx).foldl (rlsIter P x d) (s, #[], #[])).1 ∧
    (runIdx f g0 nx).2 = ((List.range nx).foldl (rlsIter P x d) (s, #[], #[])).2 := by
  rw [rlsIter_eq_pushStep]
  exact foldl_pushStep_rel f (rlsStepM P x d) (fun g m => (view g).Rel P s.locked m)
    (fun g m k h => by
      have := rlsWStep_rel P s.locked (view g) m (rd (ρ := ρ) x k) (rd (ρ := ρ) d k) h
      rw [← hf g k] at this
      exact this) _ g0 s #[] #[] h0

/-- … and the model of `process` is the size guard followed by that loop -/
theorem rlsProcess_of_work (P : RlsP ρ) (s : RlsState τ) (x d : Array τ) (view : S → RlsWork τ) (f : S → Nat → S × τ × τ)
    (hf : ∀ g k, (view (f g k).1, (f g k).2) = rlsWStep P s.locked (view g) (rd (ρ := ρ) x k) (rd (ρ := ρ) d k))
    (g0 : S) (h0 : (view g0).Rel P s.locked s) (hxd : x.size = d.size) :
    rlsProcess P s x d =
      .ok (⟨(view (runIdx f g0 x.size).1).u, (view (runIdx f g0 x.size).1).w, (view (runIdx f g0 x.size).1).p, s.locked⟩,
           (runIdx f g0 x.size).2.1, (runIdx f g0 x.size).2.2) := by
  obtain ⟨⟨_, h1, h2, h3, h4⟩, h5⟩ := rlsRun_of_work P s x d view f hf g0 h0 x.size
  rw [C12.rlsProcess_ok P s x d hxd]
  generalize runIdx f g0 x.size = G at h1 h2 h3 h4 h5 ⊢
  generalize (List.range x.size).foldl (rlsIter P x d) (s, #[], #[]) = M at h1 h2 h3 h4 h5 ⊢
  rw [h1, h2, h3, ← h4, h5]

end generic

theorem natCast_mul_add (i n k : Nat) : ((i : Int) * (n : Int) + (k : Int)) = ((i * n + k : Nat) : Int) := by
  rw [Nat.cast_add, Nat.cast_mul]

/-! ## `LmsFilter<real_t>` -/

noncomputable section

/-- the members the generated loop body reads, from the model's parameter record and the lock flag -/
def toGenR (p : LmsP ℝ) (locked : Bool) : Gen.LmsFilterRStepParams ℝ :=
  { mu := p.mu, len := (p.len : Int), locked := locked,
    method := if p.nlms then Gen.LmsType_NLMS else Gen.LmsType_LMS, lk := p.lk }

/-- inner loop 1 (`y[k] += _w[i] * tu[i + k]`) -/
theorem lmsR_loop1 (w tu : Array ℝ) (k : ℕ) :
    Gen.lmsRStep_loop1 ⟨w⟩ tu (k : Int) = fun y i => y + rd (ρ := ℝ) w i * rd (ρ := ℝ) tu (i + k) := by
  funext y i
  simp only [Gen.lmsRStep_loop1, Gen.zeroR, Int.ofNat_eq_natCast, ← Nat.cast_add, GenBridge.arrGet_natCast, rd, C12.zero_real,
    fn_ofInt, Int.cast_zero]

/-- inner loop 2 (`_w[i] = _w[i] * _lk + _mu * e[k] * conj(tu[i + k])`) -/
theorem lmsR_loop2 (p : LmsP ℝ) (locked : Bool) (tu : Array ℝ) (k : ℕ) (e : ℝ) (l : List ℕ) (w : Array ℝ) :
    l.foldl (Gen.lmsRStep_loop2 (toGenR p locked) e tu (k : Int)) ⟨w⟩ =
      ⟨l.foldl (fun (w : Array ℝ) i => w.setIfInBounds i
        (mulr (rd (ρ := ℝ) w i) p.lk + rmul p.mu e * conj ℝ (rd (ρ := ℝ) tu (i + k)))) w⟩ :=
  List.foldl_hom Gen.LmsFilterRStepState.mk fun w i => by
    simp only [Gen.lmsRStep_loop2, Gen.zeroR, Gen.conjr, Int.ofNat_eq_natCast, ← Nat.cast_add, GenBridge.arrGet_natCast,
      GenBridge.arrSet_natCast, rd, C12.zero_real, fn_ofInt, Int.cast_zero, toGenR, Mixed.mulr, Mixed.rmul, Mixed.conj]

/-- inner loop 3 (`pu += tu2[i + k]`) -/
theorem lmsR_loop3 (tu2 : Array ℝ) (k : ℕ) :
    Gen.lmsRStep_loop3 tu2 (k : Int) = fun pu i => pu + tu2.getD (i + k) (Fn.ofNat 0) := by
  funext pu i
  simp only [Gen.lmsRStep_loop3, Gen.zeroR, Int.ofNat_eq_natCast, ← Nat.cast_add, GenBridge.arrGet_natCast, fn_ofInt, fn_ofNat,
    Int.cast_zero, Nat.cast_zero]

/-- inner loop 4 (the NLMS coefficient update) -/
theorem lmsR_loop4 (p : LmsP ℝ) (locked : Bool) (tu : Array ℝ) (k : ℕ) (e norm : ℝ) (l : List ℕ) (w : Array ℝ) :
    l.foldl (Gen.lmsRStep_loop4 (toGenR p locked) e tu (k : Int) norm) ⟨w⟩ =
      ⟨l.foldl (fun (w : Array ℝ) i => w.setIfInBounds i
        (mulr (rd (ρ := ℝ) w i) p.lk + divr (rmul p.mu e * conj ℝ (rd (ρ := ℝ) tu (i + k))) norm)) w⟩ :=
  List.foldl_hom Gen.LmsFilterRStepState.mk fun w i => by
    simp only [Gen.lmsRStep_loop4, Gen.zeroR, Gen.conjr, Int.ofNat_eq_natCast, ← Nat.cast_add, GenBridge.arrGet_natCast,
      GenBridge.arrSet_natCast, rd, C12.zero_real, fn_ofInt, Int.cast_zero, toGenR, Mixed.mulr, Mixed.rmul, Mixed.conj,
      Mixed.divr]

theorem lmsType_ne : ¬ Gen.LmsType_NLMS = Gen.LmsType_LMS := by decide

/-- the generated loop body of `LmsFilter<real_t>::process` is `lmsWStep` at `T = real_t` -/
theorem lmsRStep_work (p : LmsP ℝ) (locked : Bool) (w tu tu2 d : Array ℝ) (k : ℕ) :
    Gen.lmsRStep eps (toGenR p locked) ⟨w⟩ d tu tu2 k =
      (⟨(lmsWStep p locked tu d tu2 w k).1⟩, (lmsWStep p locked tu d tu2 w k).2) := by
  simp only [Gen.lmsRStep, lmsR_loop1, lmsR_loop2, lmsR_loop3, lmsR_loop4]
  cases locked
  · cases hn : p.nlms <;>
      simp only [toGenR, lmsWStep, hn, lmsType_ne, Bool.false_eq_true, if_true, if_false, Int.toNat_natCast, Gen.zeroR,
        GenBridge.arrGet_natCast, rd, C12.zero_real, fn_ofInt, fn_ofNat, Int.cast_zero, Nat.cast_zero]
  · simp only [toGenR, lmsWStep, if_true, Int.toNat_natCast, Gen.zeroR, GenBridge.arrGet_natCast, rd, C12.zero_real, fn_ofInt,
      Int.cast_zero]

/-- the generated loop body as a function of the members written and the sample index -/
def genStepR (p : LmsP ℝ) (locked : Bool) (tu tu2 d : Array ℝ) (s : Gen.LmsFilterRStepState ℝ) (k : Nat) :
    Gen.LmsFilterRStepState ℝ × ℝ × ℝ :=
  Gen.lmsRStep eps (toGenR p locked) s d tu tu2 (k : Int)

/-- `tu2 = abs2(tu)` (element-wise) satisfies the hypothesis on `tu2` -/
theorem abs2_map_getD (tu : Array ℝ) (j : ℕ) :
    (tu.map (fun v => v * v)).getD j (Fn.ofNat 0) = Mixed.abs2 (rd (ρ := ℝ) tu j) := by
  simp only [rd, C12.zero_real, Mixed.abs2, Array.getD_eq_getD_getElem?, Array.getElem?_map, fn_ofNat, Nat.cast_zero]
  cases tu[j]? <;> simp

/-- **`lmsProcess` = hand-modelled preamble + GENERATED loop, real data.**  For every parameter record and every state
with `_w.size() == _len`: the model of `LmsFilter<real_t>::process` is the size guard, the three pinned statements
(`tu = _u | x`, `tu2 = abs2(tu)`, `_u = tu.slice(nx, nx + _len - 1)`) and then the generated loop body run over all samples. -/
theorem lmsProcess_genR (p : LmsP ℝ) (s : LmsState ℝ) (x d : Array ℝ) (hxd : x.size = d.size) (hw : s.w.size = p.len) :
    lmsProcess p s x d =
      .ok ({ s with u := (s.u ++ x).extract x.size (x.size + p.len - 1),
                    w := (runIdx (genStepR p s.locked (s.u ++ x) ((s.u ++ x).map fun v => v * v) d) ⟨s.w⟩ x.size).1.w },
           (runIdx (genStepR p s.locked (s.u ++ x) ((s.u ++ x).map fun v => v * v) d) ⟨s.w⟩ x.size).2.1,
           (runIdx (genStepR p s.locked (s.u ++ x) ((s.u ++ x).map fun v => v * v) d) ⟨s.w⟩ x.size).2.2) := by
  rw [lmsRun_of_work p s.locked (s.u ++ x) d _ Gen.LmsFilterRStepState.mk (genStepR p s.locked (s.u ++ x) _ d)
    (fun w k => lmsRStep_work p s.locked w _ _ d k) (fun _ j => abs2_map_getD _ j) s.w hw]
  exact C12.lmsProcess_ok p s x d hxd

/-- **T12.1, error clause, transported to the regenerated loop (real data):** in every call, `e[k] = d[k] − y[k]` for the
arrays the GENERATED loop body produces. -/
theorem lmsR_gen_error_exact (p : LmsP ℝ) (s : LmsState ℝ) (x d : Array ℝ)
    (hlen : 1 ≤ p.len) (hu : s.u.size = p.len - 1) (hw : s.w.size = p.len) (hxd : x.size = d.size) :
    (runIdx (genStepR p s.locked (s.u ++ x) ((s.u ++ x).map fun v => v * v) d) ⟨s.w⟩ x.size).2.2.toList =
      List.zipWith (fun dk yk => dk - yk) d.toList
        (runIdx (genStepR p s.locked (s.u ++ x) ((s.u ++ x).map fun v => v * v) d) ⟨s.w⟩ x.size).2.1.toList :=
  C12.lms_error_exact p s _ x d _ _ hlen hu hw (lmsProcess_genR p s x d hxd hw)

/-- **T12.2 transported (real data):** with adaptation locked the GENERATED loop leaves `_w` untouched and every output
is the fixed inner product `y[k] = Σ_i _w[i]·tu[i+k]`. -/
theorem lmsR_gen_locked (p : LmsP ℝ) (s : LmsState ℝ) (x d : Array ℝ) (hl : s.locked = true)
    (hw : s.w.size = p.len) (hxd : x.size = d.size) :
    (runIdx (genStepR p s.locked (s.u ++ x) ((s.u ++ x).map fun v => v * v) d) ⟨s.w⟩ x.size).1.w = s.w ∧
    (runIdx (genStepR p s.locked (s.u ++ x) ((s.u ++ x).map fun v => v * v) d) ⟨s.w⟩ x.size).2.1.toList =
      (List.range x.size).map (fun k => lmsOut (ρ := ℝ) p.len s.w (s.u ++ x) k) := by
  obtain ⟨h1, _, _, h4⟩ := C12.lms_locked p s _ x d _ _ hl (lmsProcess_genR p s x d hxd hw)
  exact ⟨h1, h4⟩

end

/-! ## `LmsFilter<cmplx_t>` -/

noncomputable section

def toGenC (p : LmsP ℝ) (locked : Bool) : Gen.LmsFilterCStepParams ℝ :=
  { mu := p.mu, len := (p.len : Int), locked := locked,
    method := if p.nlms then Gen.LmsType_NLMS else Gen.LmsType_LMS, lk := p.lk }

/-- `cmplx_t()` of the generated code is the model's `T(0)` -/
theorem zeroC_eq : (Gen.zeroC : Cx ℝ) = Mixed.zero ℝ := by
  simp [Gen.zeroC, Mixed.zero]

theorem lmsC_loop1 (w tu : Array (Cx ℝ)) (k : ℕ) :
    Gen.lmsCStep_loop1 ⟨w⟩ tu (k : Int) = fun y i => y + rd (ρ := ℝ) w i * rd (ρ := ℝ) tu (i + k) := by
  funext y i
  simp only [Gen.lmsCStep_loop1, zeroC_eq, Int.ofNat_eq_natCast, ← Nat.cast_add, GenBridge.arrGet_natCast, rd, Cx.addAssign]

theorem lmsC_loop2 (p : LmsP ℝ) (locked : Bool) (tu : Array (Cx ℝ)) (k : ℕ) (e : Cx ℝ) (l : List ℕ) (w : Array (Cx ℝ)) :
    l.foldl (Gen.lmsCStep_loop2 (toGenC p locked) e tu (k : Int)) ⟨w⟩ =
      ⟨l.foldl (fun (w : Array (Cx ℝ)) i => w.setIfInBounds i
        (mulr (rd (ρ := ℝ) w i) p.lk + rmul p.mu e * conj ℝ (rd (ρ := ℝ) tu (i + k)))) w⟩ :=
  List.foldl_hom Gen.LmsFilterCStepState.mk fun w i => by
    simp only [Gen.lmsCStep_loop2, zeroC_eq, Gen.conjc, Int.ofNat_eq_natCast, ← Nat.cast_add, GenBridge.arrGet_natCast,
      GenBridge.arrSet_natCast, rd, toGenC, Mixed.mulr, Mixed.rmul, Mixed.conj]

theorem lmsC_loop3 (tu2 : Array ℝ) (k : ℕ) :
    Gen.lmsCStep_loop3 tu2 (k : Int) = fun pu i => pu + tu2.getD (i + k) (Fn.ofNat 0) := by
  funext pu i
  simp only [Gen.lmsCStep_loop3, Gen.zeroR, Int.ofNat_eq_natCast, ← Nat.cast_add, GenBridge.arrGet_natCast, fn_ofInt, fn_ofNat,
    Int.cast_zero, Nat.cast_zero]

theorem lmsC_loop4 (p : LmsP ℝ) (locked : Bool) (tu : Array (Cx ℝ)) (k : ℕ) (e : Cx ℝ) (norm : ℝ) (l : List ℕ)
    (w : Array (Cx ℝ)) :
    l.foldl (Gen.lmsCStep_loop4 (toGenC p locked) e tu (k : Int) norm) ⟨w⟩ =
      ⟨l.foldl (fun (w : Array (Cx ℝ)) i => w.setIfInBounds i
        (mulr (rd (ρ := ℝ) w i) p.lk + divr (rmul p.mu e * conj ℝ (rd (ρ := ℝ) tu (i + k))) norm)) w⟩ :=
  List.foldl_hom Gen.LmsFilterCStepState.mk fun w i => by
    simp only [Gen.lmsCStep_loop4, zeroC_eq, Gen.conjc, Int.ofNat_eq_natCast, ← Nat.cast_add, GenBridge.arrGet_natCast,
      GenBridge.arrSet_natCast, rd, toGenC, Mixed.mulr, Mixed.rmul, Mixed.conj, Mixed.divr]

/-- the generated loop body of `LmsFilter<cmplx_t>::process` is `lmsWStep` at `T = cmplx_t` (`real_t * cmplx_t`,
`cmplx_t * real_t`, `cmplx_t / real_t` are the regenerated operators of `Gen/Cmplx` on both sides) -/
theorem lmsCStep_work (p : LmsP ℝ) (locked : Bool) (w tu d : Array (Cx ℝ)) (tu2 : Array ℝ) (k : ℕ) :
    Gen.lmsCStep eps (toGenC p locked) ⟨w⟩ d tu tu2 k =
      (⟨(lmsWStep p locked tu d tu2 w k).1⟩, (lmsWStep p locked tu d tu2 w k).2) := by
  simp only [Gen.lmsCStep, lmsC_loop1, lmsC_loop2, lmsC_loop3, lmsC_loop4]
  cases locked
  · cases hn : p.nlms <;>
      simp only [toGenC, lmsWStep, hn, lmsType_ne, Bool.false_eq_true, if_true, if_false, Int.toNat_natCast, zeroC_eq,
        GenBridge.arrGet_natCast, rd, fn_ofInt, fn_ofNat, Int.cast_zero, Nat.cast_zero]
  · simp only [toGenC, lmsWStep, if_true, Int.toNat_natCast, zeroC_eq, GenBridge.arrGet_natCast, rd]

def genStepC (p : LmsP ℝ) (locked : Bool) (tu : Array (Cx ℝ)) (tu2 : Array ℝ) (d : Array (Cx ℝ))
    (s : Gen.LmsFilterCStepState ℝ) (k : Nat) : Gen.LmsFilterCStepState ℝ × Cx ℝ × Cx ℝ :=
  Gen.lmsCStep eps (toGenC p locked) s d tu tu2 (k : Int)

/-- `tu2 = abs2(tu)` (element-wise, `abs2(cmplx_t)` = the generated `Gen.abs2c`) satisfies the hypothesis on `tu2` -/
theorem abs2c_map_getD (tu : Array (Cx ℝ)) (j : ℕ) :
    (tu.map Gen.abs2c).getD j (Fn.ofNat 0) = Mixed.abs2 (rd (ρ := ℝ) tu j) := by
  simp only [rd, Mixed.abs2, Array.getD_eq_getD_getElem?, Array.getElem?_map, Gen.abs2c]
  cases tu[j]? <;> simp [Mixed.zero, Cx.abs2, Gen.abs2c]

/-- **`lmsProcess` = hand-modelled preamble + GENERATED loop, complex data** -/
theorem lmsProcess_genC (p : LmsP ℝ) (s : LmsState (Cx ℝ)) (x d : Array (Cx ℝ)) (hxd : x.size = d.size)
    (hw : s.w.size = p.len) :
    lmsProcess p s x d =
      .ok ({ s with u := (s.u ++ x).extract x.size (x.size + p.len - 1),
                    w := (runIdx (genStepC p s.locked (s.u ++ x) ((s.u ++ x).map Gen.abs2c) d) ⟨s.w⟩ x.size).1.w },
           (runIdx (genStepC p s.locked (s.u ++ x) ((s.u ++ x).map Gen.abs2c) d) ⟨s.w⟩ x.size).2.1,
           (runIdx (genStepC p s.locked (s.u ++ x) ((s.u ++ x).map Gen.abs2c) d) ⟨s.w⟩ x.size).2.2) := by
  rw [lmsRun_of_work p s.locked (s.u ++ x) d _ Gen.LmsFilterCStepState.mk (genStepC p s.locked (s.u ++ x) _ d)
    (fun w k => lmsCStep_work p s.locked w _ d _ k) (fun _ j => abs2c_map_getD _ j) s.w hw]
  exact C12.lmsProcess_ok p s x d hxd

/-- **T12.1, error clause, transported (complex data)** -/
theorem lmsC_gen_error_exact (p : LmsP ℝ) (s : LmsState (Cx ℝ)) (x d : Array (Cx ℝ))
    (hlen : 1 ≤ p.len) (hu : s.u.size = p.len - 1) (hw : s.w.size = p.len) (hxd : x.size = d.size) :
    (runIdx (genStepC p s.locked (s.u ++ x) ((s.u ++ x).map Gen.abs2c) d) ⟨s.w⟩ x.size).2.2.toList =
      List.zipWith (fun dk yk => dk - yk) d.toList
        (runIdx (genStepC p s.locked (s.u ++ x) ((s.u ++ x).map Gen.abs2c) d) ⟨s.w⟩ x.size).2.1.toList :=
  C12.lms_error_exact p s _ x d _ _ hlen hu hw (lmsProcess_genC p s x d hxd hw)

/-- **T12.2 transported (complex data)** -/
theorem lmsC_gen_locked (p : LmsP ℝ) (s : LmsState (Cx ℝ)) (x d : Array (Cx ℝ)) (hl : s.locked = true)
    (hw : s.w.size = p.len) (hxd : x.size = d.size) :
    (runIdx (genStepC p s.locked (s.u ++ x) ((s.u ++ x).map Gen.abs2c) d) ⟨s.w⟩ x.size).1.w = s.w ∧
    (runIdx (genStepC p s.locked (s.u ++ x) ((s.u ++ x).map Gen.abs2c) d) ⟨s.w⟩ x.size).2.1.toList =
      (List.range x.size).map (fun k => lmsOut (ρ := ℝ) p.len s.w (s.u ++ x) k) := by
  obtain ⟨h1, _, _, h4⟩ := C12.lms_locked p s _ x d _ _ hl (lmsProcess_genC p s x d hxd hw)
  exact ⟨h1, h4⟩

/-- non-vacuity: the size hypotheses hold for a freshly constructed filter (`lmsInit`), real and complex -/
example (p : LmsP ℝ) : (lmsInit (τ := ℝ) p).w.size = p.len ∧ (lmsInit (τ := ℝ) p).u.size = p.len - 1 := by
  simp [lmsInit]

example (p : LmsP ℝ) : (lmsInit (τ := Cx ℝ) p).w.size = p.len ∧ (lmsInit (τ := Cx ℝ) p).u.size = p.len - 1 := by
  simp [lmsInit]

end


/-! # `RlsFilter<T>::process` -/

theorem arrFill_eq {β : Type} (a : Array β) (v : β) : Gen.arrFill a v = Array.replicate a.size v :=
  GenBridge.arrFill_eq a v

/-! ## `RlsFilter<real_t>::process`: the generated loop body -/

noncomputable section

/-- the members the generated RLS loop body reads -/
def toGenRlsR (P : RlsP ℝ) (locked : Bool) : Gen.RlsFilterRStepParams ℝ :=
  { n := (P.n : Int), mu := P.mu, locked := locked }

/-- sizes of the members and of the loop-carried locals (`g` is assigned as a whole before it is read: no condition) -/
def RlsInvR (n : Nat) (g : Gen.RlsFilterRStepState ℝ) : Prop :=
  g.u.size = n ∧ g.w.size = n ∧ g.p.size = n * n ∧ g.Pu.size = n ∧ g.uTP.size = n ∧ g.guP.size = n * n

/-- the generated state as the arrays it holds -/
def workR (g : Gen.RlsFilterRStepState ℝ) : RlsWork ℝ := ⟨g.u, g.w, g.p, g.g, g.Pu, g.uTP, g.guP⟩

/-- `dot(a, b)` of lib/math.cpp (generated) is the model's `dot` over the length of `a` -/
theorem dotRR_eq (a b : Array ℝ) : Gen.dotRR a b = Adaptive.dot (ρ := ℝ) a.size a b := by
  have h : Gen.dotRR_loop1 a b = fun v i => v + rd (ρ := ℝ) a i * rd (ρ := ℝ) b i := by
    funext v i
    simp only [Gen.dotRR_loop1, Gen.zeroR, Int.ofNat_eq_natCast, GenBridge.arrGet_natCast, rd, C12.zero_real, fn_ofInt,
      Int.cast_zero]
  simp only [Gen.dotRR, Adaptive.dot, acc_eq_foldl, h, Gen.arrSize, Int.ofNat_eq_natCast, Int.toNat_natCast, fn_ofInt,
    Int.cast_zero, C12.zero_real]

/-- the call `dot(a, b)` does not throw when both arrays have length `n` -/
theorem dotRR_noThrow (n : Nat) (a b : Array ℝ) (ha : a.size = n) (hb : b.size = n) : ¬ Gen.dotRRThrows a b := by
  simp [Gen.dotRRThrows, Gen.arrSize, ha, hb]

section loops
variable (P : RlsP ℝ) (locked : Bool) (u w p g Pu uTP guP : Array ℝ) (l : List ℕ)

/-- `Pu[i] += _p[i * _n + k] * _u[k]` over `k` … -/
theorem rlsR_loop1 (i : ℕ) :
    l.foldl (Gen.rlsRStep_loop1 (i : Int) (toGenRlsR P locked)) ⟨u, w, p, g, Pu, uTP, guP⟩ =
      ⟨u, w, p, g, l.foldl (fun (a : Array ℝ) k =>
        a.setIfInBounds i (rd (ρ := ℝ) a i + rd (ρ := ℝ) p (i * P.n + k) * rd (ρ := ℝ) u k)) Pu, uTP, guP⟩ :=
  List.foldl_hom (fun a => Gen.RlsFilterRStepState.mk u w p g a uTP guP) fun a k => by
    simp only [Gen.rlsRStep_loop1, Gen.zeroR, Int.ofNat_eq_natCast, toGenRlsR, natCast_mul_add, GenBridge.arrGet_natCast,
      GenBridge.arrSet_natCast, rd, C12.zero_real, fn_ofInt, Int.cast_zero]

/-- … and over `i` -/
theorem rlsR_loop2 :
    l.foldl (Gen.rlsRStep_loop2 (toGenRlsR P locked)) ⟨u, w, p, g, Pu, uTP, guP⟩ =
      ⟨u, w, p, g, l.foldl (fun (a : Array ℝ) i => (List.range P.n).foldl (fun (a : Array ℝ) k =>
        a.setIfInBounds i (rd (ρ := ℝ) a i + rd (ρ := ℝ) p (i * P.n + k) * rd (ρ := ℝ) u k)) a) Pu, uTP, guP⟩ :=
  List.foldl_hom (fun a => Gen.RlsFilterRStepState.mk u w p g a uTP guP) fun a i => by
    simp only [Gen.rlsRStep_loop2, Int.ofNat_eq_natCast, rlsR_loop1]
    rfl

/-- `uTP[i] += conj(_u[k]) * _p[k * _n + i]` over `k` … -/
theorem rlsR_loop3 (i : ℕ) :
    l.foldl (Gen.rlsRStep_loop3 (i : Int) (toGenRlsR P locked)) ⟨u, w, p, g, Pu, uTP, guP⟩ =
      ⟨u, w, p, g, Pu, l.foldl (fun (a : Array ℝ) k =>
        a.setIfInBounds i (rd (ρ := ℝ) a i + conj ℝ (rd (ρ := ℝ) u k) * rd (ρ := ℝ) p (k * P.n + i))) uTP, guP⟩ :=
  List.foldl_hom (fun a => Gen.RlsFilterRStepState.mk u w p g Pu a guP) fun a k => by
    simp only [Gen.rlsRStep_loop3, Gen.zeroR, Gen.conjr, Int.ofNat_eq_natCast, toGenRlsR, natCast_mul_add,
      GenBridge.arrGet_natCast, GenBridge.arrSet_natCast, rd, C12.zero_real, fn_ofInt, Int.cast_zero, Mixed.conj]

/-- … and over `i` -/
theorem rlsR_loop4 :
    l.foldl (Gen.rlsRStep_loop4 (toGenRlsR P locked)) ⟨u, w, p, g, Pu, uTP, guP⟩ =
      ⟨u, w, p, g, Pu, l.foldl (fun (a : Array ℝ) i => (List.range P.n).foldl (fun (a : Array ℝ) k =>
        a.setIfInBounds i (rd (ρ := ℝ) a i + conj ℝ (rd (ρ := ℝ) u k) * rd (ρ := ℝ) p (k * P.n + i))) a) uTP, guP⟩ :=
  List.foldl_hom (fun a => Gen.RlsFilterRStepState.mk u w p g Pu a guP) fun a i => by
    simp only [Gen.rlsRStep_loop4, Int.ofNat_eq_natCast, rlsR_loop3]
    rfl

/-- `guP[i * _n + k] = g[i] * uTP[k]` over `k` … -/
theorem rlsR_loop5 (i : ℕ) :
    l.foldl (Gen.rlsRStep_loop5 (i : Int) (toGenRlsR P locked)) ⟨u, w, p, g, Pu, uTP, guP⟩ =
      ⟨u, w, p, g, Pu, uTP, l.foldl (fun (a : Array ℝ) k =>
        a.setIfInBounds (i * P.n + k) (rd (ρ := ℝ) g i * rd (ρ := ℝ) uTP k)) guP⟩ :=
  List.foldl_hom (fun a => Gen.RlsFilterRStepState.mk u w p g Pu uTP a) fun a k => by
    simp only [Gen.rlsRStep_loop5, Gen.zeroR, Int.ofNat_eq_natCast, toGenRlsR, natCast_mul_add, GenBridge.arrGet_natCast,
      GenBridge.arrSet_natCast, rd, C12.zero_real, fn_ofInt, Int.cast_zero]

/-- … and over `i` -/
theorem rlsR_loop6 :
    l.foldl (Gen.rlsRStep_loop6 (toGenRlsR P locked)) ⟨u, w, p, g, Pu, uTP, guP⟩ =
      ⟨u, w, p, g, Pu, uTP, l.foldl (fun (a : Array ℝ) i => (List.range P.n).foldl (fun (a : Array ℝ) k =>
        a.setIfInBounds (i * P.n + k) (rd (ρ := ℝ) g i * rd (ρ := ℝ) uTP k)) a) guP⟩ :=
  List.foldl_hom (fun a => Gen.RlsFilterRStepState.mk u w p g Pu uTP a) fun a i => by
    simp only [Gen.rlsRStep_loop6, Int.ofNat_eq_natCast, rlsR_loop5]
    rfl

/-- `_p[i] = (1 / _mu) * (_p[i] - guP[i])` -/
theorem rlsR_loop7 :
    l.foldl (Gen.rlsRStep_loop7 (toGenRlsR P locked)) ⟨u, w, p, g, Pu, uTP, guP⟩ =
      ⟨u, w, l.foldl (fun (a : Array ℝ) i =>
        a.setIfInBounds i (rmul (Fn.ofNat 1 / P.mu) (rd (ρ := ℝ) a i - rd (ρ := ℝ) guP i))) p, g, Pu, uTP, guP⟩ :=
  List.foldl_hom (fun a => Gen.RlsFilterRStepState.mk u w a g Pu uTP guP) fun a i => by
    simp only [Gen.rlsRStep_loop7, Gen.zeroR, Int.ofNat_eq_natCast, toGenRlsR, GenBridge.arrGet_natCast,
      GenBridge.arrSet_natCast, rd, C12.zero_real, fn_ofInt, fn_ofNat, Int.cast_zero, Int.cast_one, Nat.cast_one, Mixed.rmul]

/-- `_w[i] += conj(g[i]) * e[idx]` -/
theorem rlsR_loop8 (e : ℝ) :
    l.foldl (Gen.rlsRStep_loop8 e) ⟨u, w, p, g, Pu, uTP, guP⟩ =
      ⟨u, l.foldl (fun (a : Array ℝ) i =>
        a.setIfInBounds i (rd (ρ := ℝ) a i + conj ℝ (rd (ρ := ℝ) g i) * e)) w, p, g, Pu, uTP, guP⟩ :=
  List.foldl_hom (fun a => Gen.RlsFilterRStepState.mk u a p g Pu uTP guP) fun a i => by
    simp only [Gen.rlsRStep_loop8, Gen.zeroR, Gen.conjr, Int.ofNat_eq_natCast, GenBridge.arrGet_natCast,
      GenBridge.arrSet_natCast, rd, C12.zero_real, fn_ofInt, Int.cast_zero, Mixed.conj]

end loops

/-- the generated loop body of `RlsFilter<real_t>::process`, seen as the arrays it works on, is `rlsWStep` at `T = real_t` -/
theorem rlsRStep_work (P : RlsP ℝ) (locked : Bool) (g : Gen.RlsFilterRStepState ℝ) (x d : Array ℝ) (k : ℕ) :
    (workR (Gen.rlsRStep (toGenRlsR P locked) g x d (k : Int)).1, (Gen.rlsRStep (toGenRlsR P locked) g x d (k : Int)).2) =
      rlsWStep P locked (workR g) (rd (ρ := ℝ) x k) (rd (ρ := ℝ) d k) := by
  obtain ⟨u, w, p, g, Pu, uTP, guP⟩ := g
  simp only [Gen.rlsRStep, rlsR_loop2, rlsR_loop4, rlsR_loop6, rlsR_loop7, rlsR_loop8, dotRR_eq, Gen.arrDivRR, arrFill_eq]
  cases locked <;>
    simp only [toGenRlsR, rlsWStep, workR, Bool.false_eq_true, if_true, if_false, Int.toNat_natCast, ← Nat.cast_mul,
      Gen.zeroR, GenBridge.arrGet_natCast, rd, C12.zero_real, fn_ofInt, Int.cast_zero, Mixed.radd]

end


noncomputable section

/-- the generated loop body as a function of the members written (and the loop-carried locals) and the sample index -/
def genRlsStepR (P : RlsP ℝ) (locked : Bool) (x d : Array ℝ) (s : Gen.RlsFilterRStepState ℝ) (k : Nat) :
    Gen.RlsFilterRStepState ℝ × ℝ × ℝ :=
  Gen.rlsRStep (toGenRlsR P locked) s x d (k : Int)

/-- the generated state at loop entry: the members of the model state, the working arrays as `rlsREnter` (GENERATED from
their declarations) leaves them — whatever `g0 … guP0` were -/
def rlsEnterR (P : RlsP ℝ) (s : RlsState ℝ) (g0 Pu0 uTP0 guP0 : Array ℝ) : Gen.RlsFilterRStepState ℝ :=
  Gen.rlsREnter (toGenRlsR P s.locked) ⟨s.u, s.w, s.p, g0, Pu0, uTP0, guP0⟩

theorem rlsEnterR_rel (P : RlsP ℝ) (s : RlsState ℝ) (g0 Pu0 uTP0 guP0 : Array ℝ)
    (hu : s.u.size = P.n) (hw : s.w.size = P.n) (hp : s.p.size = P.n * P.n) :
    (workR (rlsEnterR P s g0 Pu0 uTP0 guP0)).Rel P s.locked s := by
  refine ⟨⟨hu, hw, hp, ?_, ?_, ?_⟩, rfl, rfl, rfl, rfl⟩
  all_goals simp only [workR, rlsEnterR, Gen.rlsREnter, Gen.arrNew, toGenRlsR, ← Nat.cast_mul, Int.toNat_natCast, Array.size_replicate]

/-- **`rlsProcess` = size guard + GENERATED loop, real data.**  For every filter length, forgetting factor and every state
with `_u`, `_w` of length `_n` and `_p` of length `_n * _n`: the model of `RlsFilter<real_t>::process` is the (pinned) size
guard and then the generated loop body run over all samples from the generated loop-entry state. -/
theorem rlsProcess_genR (P : RlsP ℝ) (s : RlsState ℝ) (x d g0 Pu0 uTP0 guP0 : Array ℝ) (hxd : x.size = d.size)
    (hu : s.u.size = P.n) (hw : s.w.size = P.n) (hp : s.p.size = P.n * P.n) :
    rlsProcess P s x d =
      .ok (⟨(runIdx (genRlsStepR P s.locked x d) (rlsEnterR P s g0 Pu0 uTP0 guP0) x.size).1.u,
            (runIdx (genRlsStepR P s.locked x d) (rlsEnterR P s g0 Pu0 uTP0 guP0) x.size).1.w,
            (runIdx (genRlsStepR P s.locked x d) (rlsEnterR P s g0 Pu0 uTP0 guP0) x.size).1.p, s.locked⟩,
           (runIdx (genRlsStepR P s.locked x d) (rlsEnterR P s g0 Pu0 uTP0 guP0) x.size).2.1,
           (runIdx (genRlsStepR P s.locked x d) (rlsEnterR P s g0 Pu0 uTP0 guP0) x.size).2.2) :=
  rlsProcess_of_work P s x d workR (genRlsStepR P s.locked x d) (fun g k => rlsRStep_work P s.locked g x d k) _
    (rlsEnterR_rel P s g0 Pu0 uTP0 guP0 hu hw hp) hxd

/-- **T12.4 `rls_is_wls`, transported to the regenerated loop (ℝ).**  Start from a freshly constructed real `RlsFilter`
(`_p = δ·I`, `_w = 0`, unlocked; `λ > 0`, `δ > 0`, any length) and run the GENERATED loop body of `process` over any frame
`(x, d)`: the `_p` it ends with is the inverse of `R_k = (λ^k/δ)·I + Σ λ^{k-1-i} u_i u_iᵀ`, its `_w` solves the normal
equations and is THE minimiser of the exponentially weighted, diagonally regularised least-squares cost. -/
theorem rls_gen_is_wls (P : RlsP ℝ) (dl : ℝ) (hlam : 0 < P.mu) (hdl : 0 < dl) (x d g0 Pu0 uTP0 guP0 : Array ℝ)
    (hxd : x.size = d.size) :
    let run := runIdx (genRlsStepR P false x d) (rlsEnterR P (rlsInit P dl) g0 Pu0 uTP0 guP0) x.size
    let ud := C12.regs P.n (rlsInit P dl : RlsState ℝ).u (x.toList.zip d.toList)
    let Rk : Matrix (Fin P.n) (Fin P.n) ℝ := (P.mu ^ x.size / dl) • 1 + C12.wR P.mu ud
    let J : (Fin P.n → ℝ) → ℝ := fun v => P.mu ^ x.size / dl * (v ⬝ᵥ v) + C12.wJ P.mu ud v
    C12.Pm P.n run.1.p * Rk = 1 ∧ Rk *ᵥ C12.vecOf P.n run.1.w = C12.wB P.mu ud ∧
    C12.vecOf P.n run.1.w = C12.Pm P.n run.1.p *ᵥ C12.wB P.mu ud ∧
    (∀ v, J (C12.vecOf P.n run.1.w) ≤ J v) ∧ (∀ v, J v = J (C12.vecOf P.n run.1.w) → v = C12.vecOf P.n run.1.w) := by
  intro run ud Rk J
  have hs : (rlsInit P dl : RlsState ℝ).u.size = P.n ∧ (rlsInit P dl : RlsState ℝ).w.size = P.n ∧
      (rlsInit P dl : RlsState ℝ).p.size = P.n * P.n := by simp [rlsInit]
  have h := rlsProcess_genR P (rlsInit P dl) x d g0 Pu0 uTP0 guP0 hxd hs.1 hs.2.1 hs.2.2
  exact C12.rls_process_is_wls P dl hlam hdl ⟨run.1.u, run.1.w, run.1.p, false⟩ x d run.2.1 run.2.2 h

end

/-- `T(0)` for `T = cmplx_t` (the model's `Mixed.zero`) -/
local notation "Z" => (Mixed.zero ℝ : Cx ℝ)

noncomputable section

theorem rd_cx (a : Array (Cx ℝ)) (i : Nat) : rd (ρ := ℝ) a i = a.getD i Z := rfl

/-- the value `std::fill(…, 0)` / `cmplx_t acc = 0` writes: `cmplx_t(const int&)` = `(0, 0)` -/
theorem fillC_eq : (Cx.mk (Fn.ofInt (0 : Int)) (Fn.ofInt (0 : Int)) : Cx ℝ) = Z := by simp [Mixed.zero]

/-- the members the generated RLS loop body reads -/
def toGenRlsC (P : RlsP ℝ) (locked : Bool) : Gen.RlsFilterCStepParams ℝ :=
  { n := (P.n : Int), mu := P.mu, locked := locked }

/-- the generated state as the arrays it holds -/
def workC (g : Gen.RlsFilterCStepState ℝ) : RlsWork (Cx ℝ) := ⟨g.u, g.w, g.p, g.g, g.Pu, g.uTP, g.guP⟩

/-- `dot(a, b)` of lib/math.cpp (generated) is the model's `dot` over the length of `a` -/
theorem dotCC_eq (a b : Array (Cx ℝ)) : Gen.dotCC a b = Adaptive.dot (ρ := ℝ) a.size a b := by
  have h : Gen.dotCC_loop1 a b = fun v i => v + rd (ρ := ℝ) a i * rd (ρ := ℝ) b i := by
    funext v i
    simp only [Gen.dotCC_loop1, zeroC_eq, Int.ofNat_eq_natCast, GenBridge.arrGet_natCast, rd, Cx.addAssign]
  simp only [Gen.dotCC, Adaptive.dot, acc_eq_foldl, h, Gen.arrSize, Int.ofNat_eq_natCast, Int.toNat_natCast, fillC_eq]

/-- the call `dot(a, b)` does not throw when both arrays have length `n` -/
theorem dotCC_noThrow (n : Nat) (a b : Array (Cx ℝ)) (ha : a.size = n) (hb : b.size = n) : ¬ Gen.dotCCThrows a b := by
  simp [Gen.dotCCThrows, Gen.arrSize, ha, hb]

section loops
variable (P : RlsP ℝ) (locked : Bool) (u w p g Pu uTP guP : Array (Cx ℝ)) (l : List ℕ)

theorem rlsC_loop1 (i : ℕ) :
    l.foldl (Gen.rlsCStep_loop1 (i : Int) (toGenRlsC P locked)) ⟨u, w, p, g, Pu, uTP, guP⟩ =
      ⟨u, w, p, g, l.foldl (fun (a : Array (Cx ℝ)) k =>
        a.setIfInBounds i (rd (ρ := ℝ) a i + rd (ρ := ℝ) p (i * P.n + k) * rd (ρ := ℝ) u k)) Pu, uTP, guP⟩ :=
  List.foldl_hom (fun a => Gen.RlsFilterCStepState.mk u w p g a uTP guP) fun a k => by
    simp only [Gen.rlsCStep_loop1, zeroC_eq, Cx.addAssign, Int.ofNat_eq_natCast, toGenRlsC, natCast_mul_add,
      GenBridge.arrGet_natCast, GenBridge.arrSet_natCast, rd]

theorem rlsC_loop2 :
    l.foldl (Gen.rlsCStep_loop2 (toGenRlsC P locked)) ⟨u, w, p, g, Pu, uTP, guP⟩ =
      ⟨u, w, p, g, l.foldl (fun (a : Array (Cx ℝ)) i => (List.range P.n).foldl (fun (a : Array (Cx ℝ)) k =>
        a.setIfInBounds i (rd (ρ := ℝ) a i + rd (ρ := ℝ) p (i * P.n + k) * rd (ρ := ℝ) u k)) a) Pu, uTP, guP⟩ :=
  List.foldl_hom (fun a => Gen.RlsFilterCStepState.mk u w p g a uTP guP) fun a i => by
    simp only [Gen.rlsCStep_loop2, Int.ofNat_eq_natCast, rlsC_loop1]
    rfl

theorem rlsC_loop3 (i : ℕ) :
    l.foldl (Gen.rlsCStep_loop3 (i : Int) (toGenRlsC P locked)) ⟨u, w, p, g, Pu, uTP, guP⟩ =
      ⟨u, w, p, g, Pu, l.foldl (fun (a : Array (Cx ℝ)) k =>
        a.setIfInBounds i (rd (ρ := ℝ) a i + conj ℝ (rd (ρ := ℝ) u k) * rd (ρ := ℝ) p (k * P.n + i))) uTP, guP⟩ :=
  List.foldl_hom (fun a => Gen.RlsFilterCStepState.mk u w p g Pu a guP) fun a k => by
    simp only [Gen.rlsCStep_loop3, zeroC_eq, Cx.addAssign, Gen.conjc, Int.ofNat_eq_natCast, toGenRlsC, natCast_mul_add,
      GenBridge.arrGet_natCast, GenBridge.arrSet_natCast, rd, Mixed.conj]

theorem rlsC_loop4 :
    l.foldl (Gen.rlsCStep_loop4 (toGenRlsC P locked)) ⟨u, w, p, g, Pu, uTP, guP⟩ =
      ⟨u, w, p, g, Pu, l.foldl (fun (a : Array (Cx ℝ)) i => (List.range P.n).foldl (fun (a : Array (Cx ℝ)) k =>
        a.setIfInBounds i (rd (ρ := ℝ) a i + conj ℝ (rd (ρ := ℝ) u k) * rd (ρ := ℝ) p (k * P.n + i))) a) uTP, guP⟩ :=
  List.foldl_hom (fun a => Gen.RlsFilterCStepState.mk u w p g Pu a guP) fun a i => by
    simp only [Gen.rlsCStep_loop4, Int.ofNat_eq_natCast, rlsC_loop3]
    rfl

theorem rlsC_loop5 (i : ℕ) :
    l.foldl (Gen.rlsCStep_loop5 (i : Int) (toGenRlsC P locked)) ⟨u, w, p, g, Pu, uTP, guP⟩ =
      ⟨u, w, p, g, Pu, uTP, l.foldl (fun (a : Array (Cx ℝ)) k =>
        a.setIfInBounds (i * P.n + k) (rd (ρ := ℝ) g i * rd (ρ := ℝ) uTP k)) guP⟩ :=
  List.foldl_hom (fun a => Gen.RlsFilterCStepState.mk u w p g Pu uTP a) fun a k => by
    simp only [Gen.rlsCStep_loop5, zeroC_eq, Int.ofNat_eq_natCast, toGenRlsC, natCast_mul_add, GenBridge.arrGet_natCast,
      GenBridge.arrSet_natCast, rd]

theorem rlsC_loop6 :
    l.foldl (Gen.rlsCStep_loop6 (toGenRlsC P locked)) ⟨u, w, p, g, Pu, uTP, guP⟩ =
      ⟨u, w, p, g, Pu, uTP, l.foldl (fun (a : Array (Cx ℝ)) i => (List.range P.n).foldl (fun (a : Array (Cx ℝ)) k =>
        a.setIfInBounds (i * P.n + k) (rd (ρ := ℝ) g i * rd (ρ := ℝ) uTP k)) a) guP⟩ :=
  List.foldl_hom (fun a => Gen.RlsFilterCStepState.mk u w p g Pu uTP a) fun a i => by
    simp only [Gen.rlsCStep_loop6, Int.ofNat_eq_natCast, rlsC_loop5]
    rfl

theorem rlsC_loop7 :
    l.foldl (Gen.rlsCStep_loop7 (toGenRlsC P locked)) ⟨u, w, p, g, Pu, uTP, guP⟩ =
      ⟨u, w, l.foldl (fun (a : Array (Cx ℝ)) i =>
        a.setIfInBounds i (rmul (Fn.ofNat 1 / P.mu) (rd (ρ := ℝ) a i - rd (ρ := ℝ) guP i))) p, g, Pu, uTP, guP⟩ :=
  List.foldl_hom (fun a => Gen.RlsFilterCStepState.mk u w a g Pu uTP guP) fun a i => by
    simp only [Gen.rlsCStep_loop7, zeroC_eq, Int.ofNat_eq_natCast, toGenRlsC, GenBridge.arrGet_natCast,
      GenBridge.arrSet_natCast, rd, fn_ofInt, fn_ofNat, Int.cast_one, Nat.cast_one, Mixed.rmul]

theorem rlsC_loop8 (e : Cx ℝ) :
    l.foldl (Gen.rlsCStep_loop8 e) ⟨u, w, p, g, Pu, uTP, guP⟩ =
      ⟨u, l.foldl (fun (a : Array (Cx ℝ)) i =>
        a.setIfInBounds i (rd (ρ := ℝ) a i + conj ℝ (rd (ρ := ℝ) g i) * e)) w, p, g, Pu, uTP, guP⟩ :=
  List.foldl_hom (fun a => Gen.RlsFilterCStepState.mk u a p g Pu uTP guP) fun a i => by
    simp only [Gen.rlsCStep_loop8, zeroC_eq, Cx.addAssign, Gen.conjc, Int.ofNat_eq_natCast, GenBridge.arrGet_natCast,
      GenBridge.arrSet_natCast, rd, Mixed.conj]

end loops

/-- the generated loop body of `RlsFilter<cmplx_t>::process`, seen as the arrays it works on, is `rlsWStep` at `T = cmplx_t` -/
theorem rlsCStep_work (P : RlsP ℝ) (locked : Bool) (g : Gen.RlsFilterCStepState ℝ) (x d : Array (Cx ℝ)) (k : ℕ) :
    (workC (Gen.rlsCStep (toGenRlsC P locked) g x d (k : Int)).1, (Gen.rlsCStep (toGenRlsC P locked) g x d (k : Int)).2) =
      rlsWStep P locked (workC g) (rd (ρ := ℝ) x k) (rd (ρ := ℝ) d k) := by
  obtain ⟨u, w, p, g, Pu, uTP, guP⟩ := g
  simp only [Gen.rlsCStep, rlsC_loop2, rlsC_loop4, rlsC_loop6, rlsC_loop7, rlsC_loop8, dotCC_eq, Gen.arrDivCC, arrFill_eq]
  cases locked <;>
    simp only [toGenRlsC, rlsWStep, workC, Bool.false_eq_true, if_true, if_false, Int.toNat_natCast, ← Nat.cast_mul,
      zeroC_eq, fillC_eq, Cx.divAssign, GenBridge.arrGet_natCast, rd, Mixed.radd]

/-- the generated loop body as a function of the members written (and the loop-carried locals) and the sample index -/
def genRlsStepC (P : RlsP ℝ) (locked : Bool) (x d : Array (Cx ℝ)) (s : Gen.RlsFilterCStepState ℝ) (k : Nat) :
    Gen.RlsFilterCStepState ℝ × Cx ℝ × Cx ℝ :=
  Gen.rlsCStep (toGenRlsC P locked) s x d (k : Int)

/-- the generated state at loop entry: the members of the model state, the working arrays as `rlsCEnter` (GENERATED from
their declarations) leaves them — whatever `g0 … guP0` were -/
def rlsEnterC (P : RlsP ℝ) (s : RlsState (Cx ℝ)) (g0 Pu0 uTP0 guP0 : Array (Cx ℝ)) : Gen.RlsFilterCStepState ℝ :=
  Gen.rlsCEnter (toGenRlsC P s.locked) ⟨s.u, s.w, s.p, g0, Pu0, uTP0, guP0⟩

theorem rlsEnterC_rel (P : RlsP ℝ) (s : RlsState (Cx ℝ)) (g0 Pu0 uTP0 guP0 : Array (Cx ℝ))
    (hu : s.u.size = P.n) (hw : s.w.size = P.n) (hp : s.p.size = P.n * P.n) :
    (workC (rlsEnterC P s g0 Pu0 uTP0 guP0)).Rel P s.locked s := by
  refine ⟨⟨hu, hw, hp, ?_, ?_, ?_⟩, rfl, rfl, rfl, rfl⟩
  all_goals simp only [workC, rlsEnterC, Gen.rlsCEnter, Gen.arrNew, toGenRlsC, ← Nat.cast_mul, Int.toNat_natCast, Array.size_replicate]

/-- **`rlsProcess` = size guard + GENERATED loop, complex data.**  For every filter length, forgetting factor and every state
with `_u`, `_w` of length `_n` and `_p` of length `_n * _n`: the model of `RlsFilter<cmplx_t>::process` is the (pinned) size
guard and then the generated loop body run over all samples from the generated loop-entry state. -/
theorem rlsProcess_genC (P : RlsP ℝ) (s : RlsState (Cx ℝ)) (x d g0 Pu0 uTP0 guP0 : Array (Cx ℝ)) (hxd : x.size = d.size)
    (hu : s.u.size = P.n) (hw : s.w.size = P.n) (hp : s.p.size = P.n * P.n) :
    rlsProcess P s x d =
      .ok (⟨(runIdx (genRlsStepC P s.locked x d) (rlsEnterC P s g0 Pu0 uTP0 guP0) x.size).1.u,
            (runIdx (genRlsStepC P s.locked x d) (rlsEnterC P s g0 Pu0 uTP0 guP0) x.size).1.w,
            (runIdx (genRlsStepC P s.locked x d) (rlsEnterC P s g0 Pu0 uTP0 guP0) x.size).1.p, s.locked⟩,
           (runIdx (genRlsStepC P s.locked x d) (rlsEnterC P s g0 Pu0 uTP0 guP0) x.size).2.1,
           (runIdx (genRlsStepC P s.locked x d) (rlsEnterC P s g0 Pu0 uTP0 guP0) x.size).2.2) :=
  rlsProcess_of_work P s x d workC (genRlsStepC P s.locked x d) (fun g k => rlsCStep_work P s.locked g x d k) _
    (rlsEnterC_rel P s g0 Pu0 uTP0 guP0 hu hw hp) hxd

end


noncomputable section

/-- **T12.2 (RLS) transported, real and complex:** with adaptation locked the GENERATED loop leaves `_w` and `_p` untouched -/
theorem rlsR_gen_locked (P : RlsP ℝ) (s : RlsState ℝ) (x d g0 Pu0 uTP0 guP0 : Array ℝ) (hl : s.locked = true)
    (hxd : x.size = d.size) (hu : s.u.size = P.n) (hw : s.w.size = P.n) (hp : s.p.size = P.n * P.n) :
    (runIdx (genRlsStepR P s.locked x d) (rlsEnterR P s g0 Pu0 uTP0 guP0) x.size).1.w = s.w ∧
    (runIdx (genRlsStepR P s.locked x d) (rlsEnterR P s g0 Pu0 uTP0 guP0) x.size).1.p = s.p := by
  obtain ⟨h1, h2, _⟩ := C12.rls_locked P s _ x d _ _ hl (rlsProcess_genR P s x d g0 Pu0 uTP0 guP0 hxd hu hw hp)
  exact ⟨h1, h2⟩

theorem rlsC_gen_locked (P : RlsP ℝ) (s : RlsState (Cx ℝ)) (x d g0 Pu0 uTP0 guP0 : Array (Cx ℝ)) (hl : s.locked = true)
    (hxd : x.size = d.size) (hu : s.u.size = P.n) (hw : s.w.size = P.n) (hp : s.p.size = P.n * P.n) :
    (runIdx (genRlsStepC P s.locked x d) (rlsEnterC P s g0 Pu0 uTP0 guP0) x.size).1.w = s.w ∧
    (runIdx (genRlsStepC P s.locked x d) (rlsEnterC P s g0 Pu0 uTP0 guP0) x.size).1.p = s.p := by
  obtain ⟨h1, h2, _⟩ := C12.rls_locked P s _ x d _ _ hl (rlsProcess_genC P s x d g0 Pu0 uTP0 guP0 hxd hu hw hp)
  exact ⟨h1, h2⟩

/-- the two `dot` calls of the generated loop body never take their throwing branch on states of the right sizes:
`dot(_w, _u)` (after the shift `_u` keeps its length) … -/
theorem rlsR_dot_noThrow (P : RlsP ℝ) (g : Gen.RlsFilterRStepState ℝ) (v : ℝ) (h : RlsInvR P.n g) :
    ¬ Gen.dotRRThrows g.w (Gen.arrSet (Gen.arrMove g.u (1 : Int) (0 : Int) ((P.n : Int) - (1 : Int))) (0 : Int) v) := by
  apply dotRR_noThrow P.n _ _ h.2.1
  rw [GenBridge.shift_eq (0 : ℝ) g.u P.n v h.1, Array.size_ofFn]

/-- … and `dot(uTP, _u)` (`uTP` keeps its declared length `_n` under `std::fill` and the cell updates) -/
theorem rlsR_dot_noThrow' (P : RlsP ℝ) (g : Gen.RlsFilterRStepState ℝ) (h : RlsInvR P.n g) :
    ¬ Gen.dotRRThrows g.uTP g.u := dotRR_noThrow P.n _ _ h.2.2.2.2.1 h.1

/-- non-vacuity: the size hypotheses hold for a freshly constructed filter (`rlsInit`), real and complex -/
example (P : RlsP ℝ) (dl : ℝ) : (rlsInit P dl : RlsState ℝ).u.size = P.n ∧ (rlsInit P dl : RlsState ℝ).w.size = P.n ∧
    (rlsInit P dl : RlsState ℝ).p.size = P.n * P.n := by simp [rlsInit]

example (P : RlsP ℝ) (dl : ℝ) : (rlsInit P dl : RlsState (Cx ℝ)).u.size = P.n ∧ (rlsInit P dl : RlsState (Cx ℝ)).w.size = P.n ∧
    (rlsInit P dl : RlsState (Cx ℝ)).p.size = P.n * P.n := by simp [rlsInit]

end


/-! ## Constructors of `LmsFilter<T>`, `RlsFilter<T>` (regenerated: `Gen/CtorAdaptive.lean`) -/

noncomputable section

/-! ### `LmsFilter<real_t>` -/

/-- the object `LmsFilter<real_t>(len, step_size, method, leak)` leaves, from the model's parameter record and state -/
def lmsObjR (p : LmsP ℝ) (s : LmsState ℝ) : Gen.LmsFilterRObj ℝ :=
  { u := s.u, w := s.w, mu := p.mu, len := (p.len : Int), locked := s.locked,
    method := if p.nlms then Gen.LmsType_NLMS else Gen.LmsType_LMS, lk := p.lk }

/-- members of a constructed `LmsFilter<real_t>` that the generated loop body reads / writes -/
def lmsObjRP (o : Gen.LmsFilterRObj ℝ) : Gen.LmsFilterRStepParams ℝ :=
  { mu := o.mu, len := o.len, locked := o.locked, method := o.method, lk := o.lk }

theorem lmsObjRP_obj (p : LmsP ℝ) (s : LmsState ℝ) : lmsObjRP (lmsObjR p s) = toGenR p s.locked := rfl

/-- **bridge, `LmsFilter<real_t>::LmsFilter`:** for every length `len ≥ 0`, step size, method and leakage the generated constructor
leaves the object of `lmsInit` (zero-filled `_u` of `len - 1`, `_w` of `len` cells, unlocked) -/
theorem lmsRCtor_eq (p : LmsP ℝ) :
    Gen.lmsRCtor (p.len : Int) p.mu (if p.nlms then Gen.LmsType_NLMS else Gen.LmsType_LMS) p.lk = lmsObjR p (lmsInit p) := by
  have h1 : ((p.len : Int) - 1).toNat = p.len - 1 := by omega
  simp only [Gen.lmsRCtor, lmsObjR, lmsInit, Gen.arrNew, Gen.zeroR, h1, C12.zero_real, Int.toNat_natCast, fn_ofInt, Int.cast_zero]

/-- **T12.1 (error clause) from the GENERATED constructor through the GENERATED loop, real data:** construct by the regenerated
constructor (any `len ≥ 1`, step size, method, leakage), run the regenerated loop body over any frame: `e[k] = d[k] − y[k]`. -/
theorem lmsR_gen_from_ctor_error_exact (p : LmsP ℝ) (hlen : 1 ≤ p.len) (x d : Array ℝ) (hxd : x.size = d.size) :
    let o := Gen.lmsRCtor (p.len : Int) p.mu (if p.nlms then Gen.LmsType_NLMS else Gen.LmsType_LMS) p.lk
    let run := runIdx (fun s k => Gen.lmsRStep Adaptive.eps (lmsObjRP o) s d (o.u ++ x) ((o.u ++ x).map fun v => v * v) (k : Int))
      ⟨o.w⟩ x.size
    run.2.2.toList = List.zipWith (fun dk yk => dk - yk) d.toList run.2.1.toList := by
  intro o run
  have ho : o = lmsObjR p (lmsInit p) := lmsRCtor_eq p
  have hs := C12.lmsInit_sizes (ρ := ℝ) (τ := ℝ) p
  have := lmsR_gen_error_exact p (lmsInit p) x d hlen hs.1 hs.2.1 hxd
  simp only [run, ho]
  exact this

/-! ### `LmsFilter<cmplx_t>` -/

def lmsObjC (p : LmsP ℝ) (s : LmsState (Cx ℝ)) : Gen.LmsFilterCObj ℝ :=
  { u := s.u, w := s.w, mu := p.mu, len := (p.len : Int), locked := s.locked,
    method := if p.nlms then Gen.LmsType_NLMS else Gen.LmsType_LMS, lk := p.lk }

def lmsObjCP (o : Gen.LmsFilterCObj ℝ) : Gen.LmsFilterCStepParams ℝ :=
  { mu := o.mu, len := o.len, locked := o.locked, method := o.method, lk := o.lk }

theorem lmsObjCP_obj (p : LmsP ℝ) (s : LmsState (Cx ℝ)) : lmsObjCP (lmsObjC p s) = toGenC p s.locked := rfl

/-- **bridge, `LmsFilter<cmplx_t>::LmsFilter`** -/
theorem lmsCCtor_eq (p : LmsP ℝ) :
    Gen.lmsCCtor (p.len : Int) p.mu (if p.nlms then Gen.LmsType_NLMS else Gen.LmsType_LMS) p.lk = lmsObjC p (lmsInit p) := by
  have h1 : ((p.len : Int) - 1).toNat = p.len - 1 := by omega
  simp only [Gen.lmsCCtor, lmsObjC, lmsInit, Gen.arrNew, h1, zeroC_eq, Int.toNat_natCast]

/-- **T12.1 (error clause) from the GENERATED constructor through the GENERATED loop, complex data** -/
theorem lmsC_gen_from_ctor_error_exact (p : LmsP ℝ) (hlen : 1 ≤ p.len) (x d : Array (Cx ℝ)) (hxd : x.size = d.size) :
    let o := Gen.lmsCCtor (p.len : Int) p.mu (if p.nlms then Gen.LmsType_NLMS else Gen.LmsType_LMS) p.lk
    let run := runIdx (fun s k => Gen.lmsCStep Adaptive.eps (lmsObjCP o) s d (o.u ++ x) ((o.u ++ x).map Gen.abs2c) (k : Int))
      ⟨o.w⟩ x.size
    run.2.2.toList = List.zipWith (fun dk yk => dk - yk) d.toList run.2.1.toList := by
  intro o run
  have ho : o = lmsObjC p (lmsInit p) := lmsCCtor_eq p
  have hs := C12.lmsInit_sizes (ρ := ℝ) (τ := Cx ℝ) p
  have := lmsC_gen_error_exact p (lmsInit p) x d hlen hs.1 hs.2.1 hxd
  simp only [run, ho]
  exact this

/-! ### `RlsFilter<real_t>` -/

def rlsObjR (P : RlsP ℝ) (s : RlsState ℝ) : Gen.RlsFilterRObj ℝ :=
  { n := (P.n : Int), mu := P.mu, u := s.u, w := s.w, p := s.p, locked := s.locked }

def rlsObjRP (o : Gen.RlsFilterRObj ℝ) : Gen.RlsFilterRStepParams ℝ := { n := o.n, mu := o.mu, locked := o.locked }

/-- **bridge, `RlsFilter<real_t>::RlsFilter`:** for every length, forgetting factor and diagonal load the generated constructor
(zero-filled `_u`, `_w`, `_p`, then the loop `_p[i * _n + i] = diag_load`) leaves the object of `rlsInit`: `_p = diag_load · I`
in the flat row-major layout -/
theorem rlsRCtor_eq (P : RlsP ℝ) (dl : ℝ) : Gen.rlsRCtor (P.n : Int) P.mu dl = rlsObjR P (rlsInit P dl) := by
  have hf : (Gen.rlsRCtor_loop1 dl (P.n : Int) : Array ℝ → Nat → Array ℝ) =
      fun acc i => acc.setIfInBounds (i * P.n + i) dl := by
    funext acc i
    exact GenBridge.arrSet_eq _ _ _ _ (by simp only [Int.ofNat_eq_natCast]; push_cast; ring)
  simp only [Gen.rlsRCtor, rlsObjR, rlsInit, Gen.arrNew, Int.toNat_natCast, ← Nat.cast_mul, Gen.zeroR, fn_ofInt, Int.cast_zero,
    C12.zero_real, hf, GenBridge.foldl_diag_eq_ofFn, Mixed.ofReal]

/-- **T12.4 from the GENERATED constructor through the GENERATED loop (ℝ).**  Construct a real `RlsFilter` by the regenerated
constructor (`λ > 0`, `δ > 0`, any length), run the regenerated loop body of `process` over any frame `(x, d)`: the `_p` it ends
with is the inverse of `R_k = (λ^k/δ)·I + Σ λ^{k-1-i} u_i u_iᵀ`, its `_w` solves the normal equations and is THE minimiser of the
exponentially weighted, diagonally regularised least-squares cost. -/
theorem rls_gen_from_ctor_is_wls (P : RlsP ℝ) (dl : ℝ) (hlam : 0 < P.mu) (hdl : 0 < dl) (x d g0 Pu0 uTP0 guP0 : Array ℝ)
    (hxd : x.size = d.size) :
    let o := Gen.rlsRCtor (P.n : Int) P.mu dl
    let run := runIdx (fun s k => Gen.rlsRStep (rlsObjRP o) s x d (k : Int))
      (Gen.rlsREnter (rlsObjRP o) ⟨o.u, o.w, o.p, g0, Pu0, uTP0, guP0⟩) x.size
    let ud := C12.regs P.n o.u (x.toList.zip d.toList)
    let Rk : Matrix (Fin P.n) (Fin P.n) ℝ := (P.mu ^ x.size / dl) • 1 + C12.wR P.mu ud
    let J : (Fin P.n → ℝ) → ℝ := fun v => P.mu ^ x.size / dl * (v ⬝ᵥ v) + C12.wJ P.mu ud v
    C12.Pm P.n run.1.p * Rk = 1 ∧ Rk *ᵥ C12.vecOf P.n run.1.w = C12.wB P.mu ud ∧
    C12.vecOf P.n run.1.w = C12.Pm P.n run.1.p *ᵥ C12.wB P.mu ud ∧
    (∀ v, J (C12.vecOf P.n run.1.w) ≤ J v) ∧ (∀ v, J v = J (C12.vecOf P.n run.1.w) → v = C12.vecOf P.n run.1.w) := by
  intro o
  have ho : o = rlsObjR P (rlsInit P dl) := rlsRCtor_eq P dl
  rw [ho]
  exact rls_gen_is_wls P dl hlam hdl x d g0 Pu0 uTP0 guP0 hxd

/-! ### `RlsFilter<cmplx_t>` -/

def rlsObjC (P : RlsP ℝ) (s : RlsState (Cx ℝ)) : Gen.RlsFilterCObj ℝ :=
  { n := (P.n : Int), mu := P.mu, u := s.u, w := s.w, p := s.p, locked := s.locked }

def rlsObjCP (o : Gen.RlsFilterCObj ℝ) : Gen.RlsFilterCStepParams ℝ := { n := o.n, mu := o.mu, locked := o.locked }

/-- **bridge, `RlsFilter<cmplx_t>::RlsFilter`** (`_p[i * _n + i] = diag_load` converts the real to `cmplx_t(diag_load, 0)`) -/
theorem rlsCCtor_eq (P : RlsP ℝ) (dl : ℝ) : Gen.rlsCCtor (P.n : Int) P.mu dl = rlsObjC P (rlsInit P dl) := by
  have hf : (Gen.rlsCCtor_loop1 dl (P.n : Int) : Array (Cx ℝ) → Nat → Array (Cx ℝ)) =
      fun acc i => acc.setIfInBounds (i * P.n + i) (Mixed.ofReal dl) := by
    funext acc i
    simp only [Gen.rlsCCtor_loop1]
    rw [GenBridge.arrSet_eq _ _ (i * P.n + i) _ (by simp only [Int.ofNat_eq_natCast]; push_cast; ring)]
    simp [Mixed.ofReal]
  simp only [Gen.rlsCCtor, rlsObjC, rlsInit, Gen.arrNew, Int.toNat_natCast, ← Nat.cast_mul, zeroC_eq, hf, GenBridge.foldl_diag_eq_ofFn]

/-- the default arguments of the four constructors in `lms.h` / `rls.h` -/
theorem ctor_defaults :
    (Gen.lmsRCtorDefault_method, (Gen.lmsRCtorDefault_leak : ℝ)) = (Gen.LmsType_LMS, 1) ∧
    (Gen.lmsCCtorDefault_method, (Gen.lmsCCtorDefault_leak : ℝ)) = (Gen.LmsType_LMS, 1) ∧
    ((Gen.rlsRCtorDefault_forget_factor : ℝ), (Gen.rlsRCtorDefault_diag_load : ℝ)) = (9 / 10, 1) ∧
    ((Gen.rlsCCtorDefault_forget_factor : ℝ), (Gen.rlsCCtorDefault_diag_load : ℝ)) = (9 / 10, 1) := by
  simp [Gen.lmsRCtorDefault_method, Gen.lmsRCtorDefault_leak, Gen.lmsCCtorDefault_method, Gen.lmsCCtorDefault_leak,
    Gen.rlsRCtorDefault_forget_factor, Gen.rlsRCtorDefault_diag_load, Gen.rlsCCtorDefault_forget_factor,
    Gen.rlsCCtorDefault_diag_load]

end

end Dsp.C12Gen
