import DspVerif.Model.Window
import DspVerif.Lib.Guard
import DspVerif.Lib.RealFn
import Mathlib.Tactic.Linarith
import Mathlib.Tactic.Ring
import Mathlib.Tactic.Positivity
import Mathlib.Data.List.Basic
import Mathlib.Algebra.BigOperators.Ring.List
import Mathlib.Algebra.BigOperators.Group.Finset.Basic
import Mathlib.Algebra.BigOperators.Intervals
/-!
# C11 — FIR and window designs meet their closed-form specifications

Theorems about the hand-written executable model `Model/Window.lean` (tied to `lib/window.cpp` / `lib/fir.cpp`
by the correspondence run of `harness/c11.cpp`).  Structural statements hold for every scalar type `α`
(in particular for `Float`, i.e. for the bit patterns the C++ code produces, as far as the model corresponds);
statements that need arithmetic are exact over `ℝ`.  Floating-point rounding, the Hamming-design masks and the
Kaiser series' convergence are measured by the harness ORACLE, not proved.

`fir1 ft n w1 w2 win`: `ft` = 0 low, 1 high, 2 band-pass, 3 band-stop; the overloads without a window are
`fir1Default` = `fir1 … (hamming (firLen ft n) true)`, so every `fir1` theorem covers the default window too.
-/
set_option linter.unusedSectionVars false
namespace Dsp.C11
open Dsp Dsp.Window

section structural
variable {α : Type}

/-- the symmetric length of which `_sym_window(n, sym, ·)` computes points: `n`, or `n+1` for the periodic variant -/
def npOf (n : Nat) (sym : Bool) : Nat := if sym then n else n + 1

theorem le_npOf (n : Nat) (sym : Bool) : n ≤ npOf n sym := by unfold npOf; split <;> omega

/-- `_sym_window` without the case distinctions: the half window has `(N+1)/2` points for both parities of `N`,
and the mirrored part drops the centre point when `N` is odd -/
theorem symWindow_eq (n : Nat) (sym : Bool) (f : Nat → Nat → List α) :
    symWindow n sym f = f (npOf n sym) ((npOf n sym + 1) / 2) ++
      ((f (npOf n sym) ((npOf n sym + 1) / 2)).reverse.take ((npOf n sym + 1) / 2 - (npOf n sym - n))).drop
        (npOf n sym % 2) := by
  have h2 : (if sym = true then 0 else 1) = npOf n sym - n := by
    cases sym; exacts [(Nat.add_sub_cancel_left ..).symm, (Nat.sub_self n).symm]
  generalize hN : npOf n sym = N at h2
  have h1 : (if sym = true then n else n + 1) = N := hN
  simp only [symWindow, h1, h2]
  rcases Nat.mod_two_eq_zero_or_one N with h | h
  · rw [if_pos h, h, List.drop_zero, show (N + 1) / 2 = N / 2 by omega]
  · rw [if_neg (by omega), h]

theorem mirror_tail (h : Nat → α) (m t d : Nat) (ht : t ≤ m) :
    (((List.range m).map h).reverse.take t).drop d = (List.range (t - d)).map fun j => h (m - 1 - d - j) := by
  apply List.ext_getElem
  · simp only [List.length_drop, List.length_take, List.length_reverse, List.length_map, List.length_range]; omega
  intro j h1 h2
  simp only [List.getElem_drop, List.getElem_take, List.getElem_reverse, List.getElem_map, List.getElem_range,
    List.length_map, List.length_range]
  congr 1; omega

/-- the shape of every half-window generator of the model (`hannwin = ofPt hannPt`, …): the first `m` values of
the point function `g N` of the symmetric length `N` -/
def ofPt (g : Nat → Nat → α) (N m : Nat) : List α := (List.range m).map (g N)

/-- The assembled window as one index map: point `k` is the generator's point `min k (N-1-k)` of the symmetric
length `N`. -/
theorem symWindow_map (g : Nat → Nat → α) (n : Nat) (sym : Bool) (hn : sym = true ∨ 1 ≤ n) :
    symWindow n sym (ofPt g) = (List.range n).map fun k => g (npOf n sym) (min k (npOf n sym - 1 - k)) := by
  unfold ofPt
  have hN : npOf n sym = n ∨ npOf n sym = n + 1 ∧ 1 ≤ n := by
    rcases hn with rfl | hn
    · exact .inl rfl
    · cases sym; exacts [.inr ⟨rfl, hn⟩, .inl rfl]
  rw [symWindow_eq]
  generalize npOf n sym = N at hN
  have hm := Nat.div_add_mod (N + 1) 2
  have hd := Nat.succ_mod_two_add_mod_two N
  generalize (N + 1) / 2 = m at hm ⊢
  generalize N % 2 = d at hd ⊢
  generalize (N + 1) % 2 = e at hm hd
  have ht : m - (N - n) ≤ m ∧ d ≤ m - (N - n) ∧ n + d = m + (m - (N - n)) := by
    rcases hN with rfl | ⟨rfl, h1⟩
    · rw [Nat.sub_self, Nat.sub_zero]; omega
    · rw [Nat.add_sub_cancel_left]; omega
  generalize m - (N - n) = t at ht
  obtain rfl : n = m + (t - d) := by omega
  rw [mirror_tail _ _ _ _ ht.1, List.range_add, List.map_append, List.map_map]
  congr 1 <;> apply List.map_congr_left <;> intro k hk <;> rw [List.mem_range] at hk
  · rw [Nat.min_eq_left (by omega)]
  · simp only [Function.comp]; rw [Nat.min_eq_right (by omega)]; congr 1; omega

/-- T11.2 (structural, ∀α): `_sym_window` returns `n` points, both variants -/
theorem symWindow_length (g : Nat → Nat → α) (n : Nat) (sym : Bool) (hn : sym = true ∨ 1 ≤ n) :
    (symWindow n sym (ofPt g)).length = n := by
  rw [symWindow_map g n sym hn, List.length_map, List.length_range]

/-- T11.2 (structural, ∀α, every `n`): the symmetric variant is a palindrome — the second half is a copy of the
first, so this holds bit-for-bit in `Float` -/
theorem symWindow_symmetric (g : Nat → Nat → α) (n : Nat) :
    (symWindow n true (ofPt g)).reverse = symWindow n true (ofPt g) := by
  rw [symWindow_map g n true (.inl rfl)]
  apply List.ext_getElem (List.length_reverse ..)
  intro k h1 h2
  simp only [List.length_map, List.length_range] at h2
  simp only [List.getElem_reverse, List.getElem_map, List.getElem_range, List.length_map, List.length_range]
  congr 1
  show min (n - 1 - k) (n - 1 - (n - 1 - k)) = min k (n - 1 - k)
  rw [Nat.sub_sub_self (by omega), Nat.min_comm]

/-- T11.2 (structural, ∀α, every `n ≥ 1`): the periodic variant of length `n` is the first `n` points of the
symmetric window of length `n+1` -/
theorem symWindow_periodic_prefix (g : Nat → Nat → α) (n : Nat) (hn : 1 ≤ n) :
    symWindow n false (ofPt g) = (symWindow (n + 1) true (ofPt g)).take n := by
  rw [symWindow_map g n false (.inr hn), symWindow_map g (n + 1) true (.inl rfl), ← List.map_take,
    List.take_range, Nat.min_eq_left (Nat.le_succ n)]
  rfl

/-- T11.1 in general: if the generator's point function agrees with `F` on the first half of every symmetric
length and `F` is symmetric about the centre, the assembled window is `F` at every point, both variants -/
theorem symWindow_closed_form (g F : Nat → Nat → α)
    (hg : ∀ N k, 2 ≤ N → 2 * k ≤ N - 1 → g N k = F N k)
    (hF : ∀ N k, 2 ≤ N → k ≤ N - 1 → F N (N - 1 - k) = F N k)
    (n : Nat) (hn : 2 ≤ n) (sym : Bool) (k : Nat) (hk : k < n) :
    (symWindow n sym (ofPt g))[k]? = some (F (npOf n sym) k) := by
  rw [symWindow_map g n sym (.inr (by omega)), List.getElem?_map, List.getElem?_range hk, Option.map_some]
  have hN : 2 ≤ npOf n sym := hn.trans (le_npOf n sym)
  have hk' : k ≤ npOf n sym - 1 := Nat.le_sub_one_of_lt (hk.trans_le (le_npOf n sym))
  generalize npOf n sym = N at hN hk'
  rcases le_total k (N - 1 - k) with h | h
  · rw [min_eq_left h, hg N k hN (by omega)]
  · rw [min_eq_right h, hg N _ hN (by omega), hF N k hN hk']

/-- T11.3 in general: a property of the generator's points on the first half holds of every element -/
theorem symWindow_forall (g : Nat → Nat → α) (P : α → Prop) (n : Nat) (sym : Bool)
    (hP : ∀ i, i < (npOf n sym + 1) / 2 → P (g (npOf n sym) i)) :
    ∀ x ∈ symWindow n sym (ofPt g), P x := by
  intro x hx
  rw [symWindow_eq] at hx
  have : x ∈ ofPt g (npOf n sym) ((npOf n sym + 1) / 2) :=
    (List.mem_append.mp hx).elim id fun h => List.mem_reverse.mp (List.mem_of_mem_take (List.mem_of_mem_drop h))
  obtain ⟨i, hi, rfl⟩ := List.mem_map.mp this
  exact hP i (List.mem_range.mp hi)

theorem get_of_reverse_eq (l : List α) (h : l.reverse = l) (k : Nat) (hk : k < l.length) :
    l[k]? = l[l.length - 1 - k]? := by
  conv_lhs => rw [← h]
  exact List.getElem?_reverse hk

end structural

section perWindowStructural
variable {α : Type} [Add α] [Sub α] [Mul α] [Div α] [Neg α] [LT α] [LE α] [Fn α] [OfScientific α]
  [DecidableRel (· < · : α → α → Prop)] [DecidableRel (· ≤ · : α → α → Prop)]

/-! ### T11.2 per window (structural, every scalar type): length, palindrome, periodic = prefix of symmetric `n+1` -/
theorem hann_length (n : Nat) (hn : 3 ≤ n) (sym : Bool) : (hann n sym : List α).length = n :=
  symWindow_length hannPt n sym (.inr (by omega))

theorem hann_symmetric (n : Nat) : (hann n true : List α).reverse = hann n true :=
  symWindow_symmetric hannPt n

theorem hann_periodic_prefix (n : Nat) (hn : 3 ≤ n) :
    (hann n false : List α) = (hann (n + 1) true : List α).take n :=
  symWindow_periodic_prefix hannPt n (by omega)

theorem hamming_length (n : Nat) (hn : 3 ≤ n) (sym : Bool) : (hamming n sym : List α).length = n :=
  symWindow_length hammingPt n sym (.inr (by omega))

theorem hamming_symmetric (n : Nat) : (hamming n true : List α).reverse = hamming n true :=
  symWindow_symmetric hammingPt n

theorem hamming_periodic_prefix (n : Nat) (hn : 3 ≤ n) :
    (hamming n false : List α) = (hamming (n + 1) true : List α).take n :=
  symWindow_periodic_prefix hammingPt n (by omega)

theorem blackman_length (n : Nat) (hn : 3 ≤ n) (sym : Bool) : (blackman n sym : List α).length = n :=
  symWindow_length blackmanPt n sym (.inr (by omega))

theorem blackman_symmetric (n : Nat) : (blackman n true : List α).reverse = blackman n true :=
  symWindow_symmetric blackmanPt n

theorem blackman_periodic_prefix (n : Nat) (hn : 3 ≤ n) :
    (blackman n false : List α) = (blackman (n + 1) true : List α).take n :=
  symWindow_periodic_prefix blackmanPt n (by omega)

theorem blackmanharris_length (n : Nat) (hn : 3 ≤ n) (sym : Bool) : (blackmanharris n sym : List α).length = n :=
  symWindow_length blackmanharrisPt n sym (.inr (by omega))

theorem blackmanharris_symmetric (n : Nat) : (blackmanharris n true : List α).reverse = blackmanharris n true :=
  symWindow_symmetric blackmanharrisPt n

theorem blackmanharris_periodic_prefix (n : Nat) (hn : 3 ≤ n) :
    (blackmanharris n false : List α) = (blackmanharris (n + 1) true : List α).take n :=
  symWindow_periodic_prefix blackmanharrisPt n (by omega)

theorem cosine_length (n : Nat) (hn : 3 ≤ n) (sym : Bool) : (cosine n sym : List α).length = n :=
  symWindow_length cosinePt n sym (.inr (by omega))

theorem cosine_symmetric (n : Nat) : (cosine n true : List α).reverse = cosine n true :=
  symWindow_symmetric cosinePt n

theorem cosine_periodic_prefix (n : Nat) (hn : 3 ≤ n) :
    (cosine n false : List α) = (cosine (n + 1) true : List α).take n :=
  symWindow_periodic_prefix cosinePt n (by omega)

theorem gauss_length (a : α) (n : Nat) (hn : 3 ≤ n) (sym : Bool) : (gauss n a sym : List α).length = n :=
  symWindow_length (gaussPt a) n sym (.inr (by omega))

theorem gauss_symmetric (a : α) (n : Nat) : (gauss n a true : List α).reverse = gauss n a true :=
  symWindow_symmetric (gaussPt a) n

theorem gauss_periodic_prefix (a : α) (n : Nat) (hn : 3 ≤ n) :
    (gauss n a false : List α) = (gauss (n + 1) a true : List α).take n :=
  symWindow_periodic_prefix (gaussPt a) n (by omega)

/-- only the symmetric form exists -/
theorem tukey_length (r : α) (n : Nat) (hn : 3 ≤ n) : (tukey n r : List α).length = n :=
  symWindow_length (tukeyPt r) n true (.inl rfl)

theorem tukey_symmetric (r : α) (n : Nat) : (tukey n r : List α).reverse = tukey n r :=
  symWindow_symmetric (tukeyPt r) n

/-! ### kaiser -/
theorem kaiserHalf_length (beta : α) (nw : Nat) : (kaiserHalf nw beta : List α).length = (nw + 1) / 2 := by
  simp only [kaiserHalf, List.length_map, List.length_range]

theorem kaiser_length (beta : α) (nw : Nat) : (kaiser nw beta : List α).length = nw := by
  simp only [kaiser, List.length_append, List.length_reverse, List.length_drop, kaiserHalf_length]; omega

theorem kaiser_mem_half (nw : Nat) (beta x : α) (hx : x ∈ kaiser nw beta) : x ∈ kaiserHalf nw beta := by
  rcases List.mem_append.mp hx with h | h
  · exact List.mem_of_mem_drop (List.mem_reverse.mp h)
  · exact h

/-- T11.2: `flip(w.slice(odd, n)) | w` is a palindrome -/
theorem kaiser_symmetric (beta : α) (nw : Nat) : (kaiser nw beta : List α).reverse = kaiser nw beta := by
  unfold kaiser
  generalize kaiserHalf nw beta = w
  rcases Nat.mod_two_eq_zero_or_one nw with h | h <;> rw [h]
  · simp
  · cases w <;> simp

end perWindowStructural

section real
open Real

/-- `real_t(n - 1)` over ℝ -/
theorem ofNat_pred (N : ℕ) (hN : 1 ≤ N) : (Fn.ofNat (N - 1) : ℝ) = (N : ℝ) - 1 := by
  simp [Nat.cast_sub hN]

theorem cast_mirror {N k : ℕ} (hN : 1 ≤ N) (hk : k ≤ N - 1) : ((N - 1 - k : ℕ) : ℝ) = (N : ℝ) - 1 - k := by
  rw [Nat.cast_sub hk, Nat.cast_sub hN, Nat.cast_one]

theorem cast_pred_pos {N : ℕ} (hN : 2 ≤ N) : 0 < (N : ℝ) - 1 :=
  sub_pos.mpr (Nat.one_lt_cast.mpr hN)

/-- cosine symmetry used for the mirrored half: `cos(cπ(N-1-k)/(N-1)) = cos(cπk/(N-1))` for an even harmonic
number `c = 2j`, because the two phases add up to `j · 2π` -/
theorem cos_mirror (c : ℝ) (j : ℕ) (hc : c = 2 * j) {N k : ℕ} (hN : 2 ≤ N) (hk : k ≤ N - 1) :
    Real.cos (c * π * ((N - 1 - k : ℕ) : ℝ) / ((N : ℝ) - 1)) = Real.cos (c * π * (k : ℝ) / ((N : ℝ) - 1)) := by
  have hN' := (cast_pred_pos hN).ne'
  rw [cast_mirror (by omega) hk, ← Real.cos_nat_mul_two_pi_sub _ j]
  congr 1; rw [hc]; field_simp; ring

theorem sub_mul_cos_range (a b x : ℝ) (hb : 0 ≤ b) (h0 : b ≤ a) (h1 : a + b ≤ 1) :
    0 ≤ a - b * Real.cos x ∧ a - b * Real.cos x ≤ 1 := by
  have hu := mul_le_mul_of_nonneg_left (Real.cos_le_one x) hb
  have hl := mul_le_mul_of_nonneg_left (Real.neg_one_le_cos x) hb
  exact ⟨by linear_combination h0 + hu, by linear_combination h1 + hl⟩

theorem half_one_add_cos_range (x : ℝ) : 0 ≤ (1 + Real.cos x) / 2 ∧ (1 + Real.cos x) / 2 ≤ 1 :=
  ⟨by linear_combination (1 / 2) * Real.neg_one_le_cos x, by linear_combination (1 / 2) * Real.cos_le_one x⟩

/-! ### Hann -/

/-- textbook Hann window: `0.5 - 0.5 cos(2πk/(N-1))` -/
noncomputable def hannF (N k : ℕ) : ℝ := 0.5 - 0.5 * Real.cos (2 * π * k / (N - 1))

theorem hannPt_eq (N k : ℕ) (hN : 1 ≤ N) : (hannPt N k : ℝ) = hannF N k := by
  simp only [hannPt, hannF, fn_cos, fn_pi, fn_ofNat, ofNat_pred N hN, Nat.cast_ofNat]

theorem hannF_mirror (N k : ℕ) (hN : 2 ≤ N) (hk : k ≤ N - 1) : hannF N (N - 1 - k) = hannF N k := by
  unfold hannF; rw [cos_mirror 2 1 (by norm_num) hN hk]

/-- T11.1 Hann, ∀ n ≥ 3, both variants, ∀ k < n: point `k` equals `0.5 − 0.5 cos(2πk/(N−1))`, `N = n` (symmetric) or `n+1` (periodic) -/
theorem hann_closed_form (n : ℕ) (hn : 3 ≤ n) (sym : Bool) (k : ℕ) (hk : k < n) :
    (hann n sym : List ℝ)[k]? = some (hannF (npOf n sym) k) :=
  symWindow_closed_form hannPt hannF (fun N k hN _ => hannPt_eq N k (by omega))
    hannF_mirror n (by omega) sym k hk

theorem hannPt_range (N i : ℕ) : 0 ≤ (hannPt N i : ℝ) ∧ (hannPt N i : ℝ) ≤ 1 := by
  unfold hannPt; exact sub_mul_cos_range 0.5 0.5 _ (by norm_num) (by norm_num) (by norm_num)

/-! ### Hamming -/
noncomputable def hammingF (N k : ℕ) : ℝ := 0.54 - 0.46 * Real.cos (2 * π * k / (N - 1))

theorem hammingPt_eq (N k : ℕ) (hN : 1 ≤ N) : (hammingPt N k : ℝ) = hammingF N k := by
  simp only [hammingPt, hammingF, fn_cos, fn_pi, fn_ofNat, ofNat_pred N hN, Nat.cast_ofNat]

theorem hammingF_mirror (N k : ℕ) (hN : 2 ≤ N) (hk : k ≤ N - 1) : hammingF N (N - 1 - k) = hammingF N k := by
  unfold hammingF; rw [cos_mirror 2 1 (by norm_num) hN hk]

/-- T11.1 Hamming, ∀ n ≥ 3, both variants, ∀ k < n -/
theorem hamming_closed_form (n : ℕ) (hn : 3 ≤ n) (sym : Bool) (k : ℕ) (hk : k < n) :
    (hamming n sym : List ℝ)[k]? = some (hammingF (npOf n sym) k) :=
  symWindow_closed_form hammingPt hammingF (fun N k hN _ => hammingPt_eq N k (by omega))
    hammingF_mirror n (by omega) sym k hk

theorem hammingPt_range (N i : ℕ) : 0 ≤ (hammingPt N i : ℝ) ∧ (hammingPt N i : ℝ) ≤ 1 := by
  unfold hammingPt; exact sub_mul_cos_range 0.54 0.46 _ (by norm_num) (by norm_num) (by norm_num)

/-! ### Blackman -/
noncomputable def blackmanF (N k : ℕ) : ℝ :=
  0.42 - 0.5 * Real.cos (2 * π * k / (N - 1)) + 0.08 * Real.cos (4 * π * k / (N - 1))

theorem blackmanPt_eq (N k : ℕ) (hN : 1 ≤ N) : (blackmanPt N k : ℝ) = blackmanF N k := by
  simp only [blackmanPt, blackmanF, fn_cos, fn_pi, fn_ofNat, ofNat_pred N hN, Nat.cast_ofNat]

theorem blackmanF_mirror (N k : ℕ) (hN : 2 ≤ N) (hk : k ≤ N - 1) : blackmanF N (N - 1 - k) = blackmanF N k := by
  unfold blackmanF; rw [cos_mirror 2 1 (by norm_num) hN hk, cos_mirror 4 2 (by norm_num) hN hk]

/-- T11.1 Blackman, ∀ n ≥ 3, both variants, ∀ k < n -/
theorem blackman_closed_form (n : ℕ) (hn : 3 ≤ n) (sym : Bool) (k : ℕ) (hk : k < n) :
    (blackman n sym : List ℝ)[k]? = some (blackmanF (npOf n sym) k) :=
  symWindow_closed_form blackmanPt blackmanF
    (fun N k hN _ => blackmanPt_eq N k (by omega)) blackmanF_mirror n (by omega) sym k hk

/-- Blackman in `c = cos θ` (`cos 2θ = 2c² − 1`): `0.34 − 0.5c + 0.16c²` is `0.16(1−c)² + 0.18(1−c)`, and its
distance to 1 is `(1+c)(0.16(1−c) + 0.5)`; the minimum 0 is attained at `c = 1` -/
theorem blackman_poly_range (c : ℝ) (h1 : -1 ≤ c) (h2 : c ≤ 1) :
    0 ≤ 0.42 - 0.5 * c + 0.08 * (2 * c ^ 2 - 1) ∧ 0.42 - 0.5 * c + 0.08 * (2 * c ^ 2 - 1) ≤ 1 := by
  have a : 0 ≤ 1 - c := sub_nonneg.mpr h2
  have b : 0 ≤ c + 1 := neg_le_iff_add_nonneg.mp h1
  constructor
  · linear_combination 0.16 * mul_nonneg a a + 0.18 * a
  · linear_combination 0.16 * mul_nonneg a b + 0.5 * b

theorem blackmanF_range (N k : ℕ) : 0 ≤ blackmanF N k ∧ blackmanF N k ≤ 1 := by
  unfold blackmanF
  rw [show (4 : ℝ) * π * k / (N - 1) = 2 * (2 * π * k / (N - 1)) by ring, Real.cos_two_mul]
  exact blackman_poly_range _ (Real.neg_one_le_cos _) (Real.cos_le_one _)

/-! ### Blackman–Harris -/
noncomputable def blackmanharrisF (N k : ℕ) : ℝ :=
  0.35875 - 0.48829 * Real.cos (2 * π * k / (N - 1)) + 0.14128 * Real.cos (4 * π * k / (N - 1))
    - 0.01168 * Real.cos (6 * π * k / (N - 1))

theorem blackmanharrisPt_eq (N k : ℕ) (hN : 1 ≤ N) : (blackmanharrisPt N k : ℝ) = blackmanharrisF N k := by
  simp only [blackmanharrisPt, blackmanharrisF, fn_cos, fn_pi, fn_ofNat, ofNat_pred N hN, Nat.cast_ofNat]

theorem blackmanharrisF_mirror (N k : ℕ) (hN : 2 ≤ N) (hk : k ≤ N - 1) :
    blackmanharrisF N (N - 1 - k) = blackmanharrisF N k := by
  unfold blackmanharrisF
  rw [cos_mirror 2 1 (by norm_num) hN hk, cos_mirror 4 2 (by norm_num) hN hk, cos_mirror 6 3 (by norm_num) hN hk]

/-- T11.1 Blackman–Harris (4-term), ∀ n ≥ 3, both variants, ∀ k < n -/
theorem blackmanharris_closed_form (n : ℕ) (hn : 3 ≤ n) (sym : Bool) (k : ℕ) (hk : k < n) :
    (blackmanharris n sym : List ℝ)[k]? = some (blackmanharrisF (npOf n sym) k) :=
  symWindow_closed_form blackmanharrisPt blackmanharrisF
    (fun N k hN _ => blackmanharrisPt_eq N k (by omega)) blackmanharrisF_mirror n (by omega) sym k hk

/-- Blackman–Harris as a cubic in `c = cos θ`, with `a = 1 − c` and `b = 1 + c`, both `≥ 0`: it is
`6e−5 + 0.02829a + 0.1424a² + 0.04672a³`, and its distance to 1 is `b(0.49997 + 0.23584a + 0.04672a²)` -/
theorem blackmanharris_poly_range (c : ℝ) (h1 : -1 ≤ c) (h2 : c ≤ 1) :
    0 ≤ 0.35875 - 0.48829 * c + 0.14128 * (2 * c ^ 2 - 1) - 0.01168 * (4 * c ^ 3 - 3 * c) ∧
      0.35875 - 0.48829 * c + 0.14128 * (2 * c ^ 2 - 1) - 0.01168 * (4 * c ^ 3 - 3 * c) ≤ 1 := by
  have a : 0 ≤ 1 - c := sub_nonneg.mpr h2
  have b : 0 ≤ c + 1 := neg_le_iff_add_nonneg.mp h1
  constructor
  · linear_combination 0.04672 * mul_nonneg a (mul_nonneg a a) + 0.1424 * mul_nonneg a a + 0.02829 * a
  · linear_combination 0.04672 * mul_nonneg b (mul_nonneg a a) + 0.23584 * mul_nonneg a b + 0.49997 * b

theorem blackmanharrisF_range (N k : ℕ) : 0 ≤ blackmanharrisF N k ∧ blackmanharrisF N k ≤ 1 := by
  unfold blackmanharrisF
  rw [show (4 : ℝ) * π * k / (N - 1) = 2 * (2 * π * k / (N - 1)) by ring,
    show (6 : ℝ) * π * k / (N - 1) = 3 * (2 * π * k / (N - 1)) by ring, Real.cos_two_mul, Real.cos_three_mul]
  exact blackmanharris_poly_range _ (Real.neg_one_le_cos _) (Real.cos_le_one _)

/-! ### cosine -/
noncomputable def cosineF (N k : ℕ) : ℝ := Real.sin (π * (k + 0.5) / N)

theorem cosinePt_eq (N k : ℕ) : (cosinePt N k : ℝ) = cosineF N k := by
  simp only [cosinePt, cosineF, fn_sin, fn_pi, fn_ofNat]
  congr 1; ring

/-- `sin(π − x) = sin x` -/
theorem cosineF_mirror (N k : ℕ) (hN : 2 ≤ N) (hk : k ≤ N - 1) : cosineF N (N - 1 - k) = cosineF N k := by
  have hN0 : (N : ℝ) ≠ 0 := by positivity
  unfold cosineF
  rw [cast_mirror (by omega) hk, ← Real.sin_pi_sub]
  congr 1; field_simp; ring

/-- T11.1 cosine (sine) window `sin(π(k+½)/N)`, ∀ n ≥ 3, both variants, ∀ k < n (mirrored half by `sin(π − x) = sin x`) -/
theorem cosine_closed_form (n : ℕ) (hn : 3 ≤ n) (sym : Bool) (k : ℕ) (hk : k < n) :
    (cosine n sym : List ℝ)[k]? = some (cosineF (npOf n sym) k) :=
  symWindow_closed_form cosinePt cosineF (fun N k _ _ => cosinePt_eq N k)
    cosineF_mirror n (by omega) sym k hk

/-- T11.3 per point: cosine window at the points `k < N` (`0 ≤ π(k+½)/N ≤ π`) -/
theorem cosineF_range (N k : ℕ) (hk : k < N) : 0 ≤ cosineF N k ∧ cosineF N k ≤ 1 := by
  refine ⟨Real.sin_nonneg_of_nonneg_of_le_pi (by positivity) ?_, Real.sin_le_one _⟩
  have hN : (0 : ℝ) < N := by exact_mod_cast (by omega : 0 < N)
  have hk' : (k : ℝ) + 1 ≤ N := by exact_mod_cast hk
  rw [div_le_iff₀ hN]
  exact mul_le_mul_of_nonneg_left (by linear_combination hk') Real.pi_pos.le

/-! ### Gauss -/
noncomputable def gaussF (a : ℝ) (N k : ℕ) : ℝ :=
  Real.exp (-(1 / 2) * (a * ((k : ℝ) - ((N : ℝ) - 1) / 2) / (((N : ℝ) - 1) / 2)) ^ 2)

/-- the loop body of `_gausswin` over ℝ (`std::pow(x, 2.0)` is `x²`) -/
theorem gaussPt_eq (a : ℝ) (N k : ℕ) (hN : 1 ≤ N) : gaussPt a N k = gaussF a N k := by
  unfold gaussPt gaussF
  simp only [fn_exp, fn_pow, fn_ofNat, ofNat_pred N hN]
  rw [Real.rpow_natCast, Nat.cast_ofNat]; congr 1; ring

theorem gaussF_mirror (a : ℝ) (N k : ℕ) (hN : 2 ≤ N) (hk : k ≤ N - 1) : gaussF a N (N - 1 - k) = gaussF a N k := by
  unfold gaussF
  rw [cast_mirror (by omega) hk]; congr 1; ring

/-- T11.1 Gauss, every `alpha`, ∀ n ≥ 3, both variants, ∀ k < n: `exp(−½ (α (k − (N−1)/2)/((N−1)/2))²)` -/
theorem gauss_closed_form (a : ℝ) (n : ℕ) (hn : 3 ≤ n) (sym : Bool) (k : ℕ) (hk : k < n) :
    (gauss n a sym : List ℝ)[k]? = some (gaussF a (npOf n sym) k) :=
  symWindow_closed_form (gaussPt a) (gaussF a)
    (fun N k hN _ => gaussPt_eq a N k (by omega)) (gaussF_mirror a) n (by omega) sym k hk

theorem gaussPt_range (a : ℝ) (N i : ℕ) : 0 ≤ gaussPt a N i ∧ gaussPt a N i ≤ 1 := by
  unfold gaussPt
  simp only [fn_exp, fn_pow, fn_ofNat]
  rw [Real.rpow_natCast]
  refine ⟨(Real.exp_pos _).le, Real.exp_le_one_iff.mpr ?_⟩
  exact mul_nonpos_of_nonneg_of_nonpos (sq_nonneg _) (by norm_num)

end real

section tukeyReal
open Real

/-- textbook Tukey (tapered-cosine) window, `x = k/(N-1)`: rectangular for `r ≤ 0`, Hann for `r ≥ 1`, otherwise
cosine tapers on `x < r/2` and `x > 1 - r/2`, and 1 in between -/
noncomputable def tukeyF (r : ℝ) (N k : ℕ) : ℝ :=
  if r ≤ 0 then 1
  else if 1 ≤ r then hannF N k
  else if (k : ℝ) / ((N : ℝ) - 1) < r / 2 then
    (1 + Real.cos (2 * π / r * ((k : ℝ) / ((N : ℝ) - 1) - r / 2))) / 2
  else if 1 - r / 2 < (k : ℝ) / ((N : ℝ) - 1) then
    (1 + Real.cos (2 * π / r * ((k : ℝ) / ((N : ℝ) - 1) - 1 + r / 2))) / 2
  else 1

theorem fn_floor' (x : ℝ) : Fn.floor x = (⌊x⌋ : ℝ) := rfl

/-- the loop bound `i < floor(y) + 1` of `_tukeywin` is `i ≤ y` -/
theorem taper_cond (y : ℝ) (i : ℕ) : ((i : ℝ) < (⌊y⌋ : ℝ) + 1) ↔ (i : ℝ) ≤ y := by
  rw [← Int.cast_natCast i, ← Int.cast_one (R := ℝ), ← Int.cast_add, Int.cast_lt, Int.lt_add_one_iff, Int.le_floor]

/-- the rising cosine taper at relative position `x = k/(N-1)`: 0 at `x = 0`, 1 at `x = r/2` -/
noncomputable def taper (r x : ℝ) : ℝ := (1 + Real.cos (2 * π / r * (x - r / 2))) / 2

theorem taper_zero (r : ℝ) (hr : r ≠ 0) : taper r 0 = 0 := by
  unfold taper
  rw [show 2 * π / r * (0 - r / 2) = -π by field_simp; ring, Real.cos_neg, Real.cos_pi]; norm_num

theorem taper_half (r : ℝ) : taper r (r / 2) = 1 := by
  unfold taper; rw [sub_self, mul_zero, Real.cos_zero]; norm_num

/-- the textbook form for `0 < r < 1`; the right taper is the left one at the mirrored position (cosine is even) -/
theorem tukeyF_mid (r : ℝ) (h0 : 0 < r) (h1 : r < 1) (N k : ℕ) :
    tukeyF r N k =
      if (k : ℝ) / ((N : ℝ) - 1) < r / 2 then taper r ((k : ℝ) / ((N : ℝ) - 1))
      else if 1 - r / 2 < (k : ℝ) / ((N : ℝ) - 1) then taper r (1 - (k : ℝ) / ((N : ℝ) - 1)) else 1 := by
  unfold tukeyF taper
  rw [if_neg h0.not_ge, if_neg h1.not_ge, ← Real.cos_neg (_ * (1 - _ - _))]
  congr 6; ring

/-- the loop body of `_tukeywin` over ℝ, the loop bound `i < floor(per·(n−1)) + 1` written as `i ≤ per·(n−1)` -/
theorem tukeyPt_real (r : ℝ) (N i : ℕ) :
    tukeyPt r N i =
      if r ≤ 0 then 1 else if 1 ≤ r then hannPt N i else if i = 0 then 0
      else if (i : ℝ) ≤ r / 2 * ((N - 1 : ℕ) : ℝ) then
        (1 + Real.cos (π / (r / 2) * ((i : ℝ) / ((N - 1 : ℕ) : ℝ) - r / 2))) / 2
      else 1 := by
  simp only [tukeyPt, fn_floor', fn_ofNat, fn_cos, fn_pi, Nat.cast_ofNat, Nat.cast_one, Nat.cast_zero, taper_cond]

theorem tukeyPt_range (r : ℝ) (N i : ℕ) : 0 ≤ tukeyPt r N i ∧ tukeyPt r N i ≤ 1 := by
  rw [tukeyPt_real]
  split_ifs
  exacts [⟨zero_le_one, le_rfl⟩, hannPt_range N i, ⟨le_rfl, zero_le_one⟩, half_one_add_cos_range _,
    ⟨zero_le_one, le_rfl⟩]

/-- the loop body for `0 < r < 1` in the relative position `x = i/(N-1)`: `w[0] = 0` is the taper at 0, and at
`x = r/2`, the last point the loop may reach, the taper is 1 -/
theorem tukeyPt_mid (r : ℝ) (h0 : 0 < r) (h1 : r < 1) (N i : ℕ) (hN : 2 ≤ N) :
    tukeyPt r N i = if (i : ℝ) / ((N : ℝ) - 1) < r / 2 then taper r ((i : ℝ) / ((N : ℝ) - 1)) else 1 := by
  have hNr := cast_pred_pos hN
  rw [tukeyPt_real, if_neg h0.not_ge, if_neg h1.not_ge, Nat.cast_sub (by omega), Nat.cast_one]
  simp only [← div_le_iff₀ hNr]
  by_cases hi : i = 0
  · subst hi
    rw [if_pos rfl, Nat.cast_zero, zero_div, if_pos (half_pos h0), taper_zero r h0.ne']
  rw [if_neg hi, div_div_eq_mul_div, mul_comm π 2, ← taper]
  rcases lt_trichotomy ((i : ℝ) / ((N : ℝ) - 1)) (r / 2) with h | h | h
  · rw [if_pos h.le, if_pos h]
  · rw [if_pos h.le, if_neg h.not_lt, h, taper_half]
  · rw [if_neg h.not_ge, if_neg h.le.not_gt]

theorem tukeyPt_eq (r : ℝ) (N k : ℕ) (hN : 2 ≤ N) (hk : 2 * k ≤ N - 1) : tukeyPt r N k = tukeyF r N k := by
  rcases le_or_gt r 0 with hr0 | hr0
  · rw [tukeyPt_real, tukeyF, if_pos hr0, if_pos hr0]
  rcases le_or_gt 1 r with hr1 | hr1
  · rw [tukeyPt_real, tukeyF, if_neg hr0.not_ge, if_neg hr0.not_ge, if_pos hr1, if_pos hr1, hannPt_eq N k (by omega)]
  rw [tukeyPt_mid r hr0 hr1 N k hN, tukeyF_mid r hr0 hr1 N k]
  -- on the first half `x ≤ 1/2 < 1 - r/2`: the right taper is not reached
  have hk' : (2 * k + 1 : ℝ) ≤ N := by exact_mod_cast (by omega : 2 * k + 1 ≤ N)
  have hx : (k : ℝ) / ((N : ℝ) - 1) ≤ 1 / 2 := by
    rw [div_le_iff₀ (cast_pred_pos hN)]; linear_combination (1 / 2) * hk'
  rw [if_neg (not_lt.mpr (hx.trans (by linear_combination (1 / 2) * hr1.le)))]

theorem tukeyF_mirror (r : ℝ) (N k : ℕ) (hN : 2 ≤ N) (hk : k ≤ N - 1) : tukeyF r N (N - 1 - k) = tukeyF r N k := by
  rcases le_or_gt r 0 with hr0 | hr0
  · unfold tukeyF; rw [if_pos hr0, if_pos hr0]
  rcases le_or_gt 1 r with hr1 | hr1
  · unfold tukeyF; rw [if_neg hr0.not_ge, if_pos hr1, if_neg hr0.not_ge, if_pos hr1, hannF_mirror N k hN hk]
  rw [tukeyF_mid r hr0 hr1, tukeyF_mid r hr0 hr1, cast_mirror (by omega) hk, sub_div,
    div_self (cast_pred_pos hN).ne', sub_sub_cancel]
  generalize (k : ℝ) / ((N : ℝ) - 1) = x
  -- both sides test `x < r/2` and `1 - r/2 < x`, in opposite orders; the two exclude each other as `r < 1`
  rw [if_congr sub_lt_comm rfl (if_congr (sub_lt_sub_iff_left 1) rfl rfl)]
  by_cases hA : x < r / 2
  · rw [if_neg (not_lt.mpr (hA.le.trans (by linear_combination hr1.le))), if_pos hA, if_pos hA]
  · rw [if_neg hA, if_neg hA]

/-- T11.1 Tukey, EVERY `r` (≤ 0 rectangular, ≥ 1 Hann, tapered in between), ∀ n ≥ 3, ∀ k < n: the assembled window equals the textbook piecewise form (right taper = mirrored left taper by evenness of cosine) -/
theorem tukey_closed_form (r : ℝ) (n : ℕ) (hn : 3 ≤ n) (k : ℕ) (hk : k < n) :
    (tukey n r : List ℝ)[k]? = some (tukeyF r n k) :=
  symWindow_closed_form (tukeyPt r) (tukeyF r) (tukeyPt_eq r) (tukeyF_mirror r)
    n (by omega) true k hk

end tukeyReal

section rangesReal
open Real

/-! ### T11.3 per window: values in [0, 1] -/

theorem hann_range (n : ℕ) (sym : Bool) : ∀ x ∈ (hann n sym : List ℝ), 0 ≤ x ∧ x ≤ 1 :=
  symWindow_forall hannPt _ n sym (fun i _ => hannPt_range _ i)

theorem hamming_range (n : ℕ) (sym : Bool) : ∀ x ∈ (hamming n sym : List ℝ), 0 ≤ x ∧ x ≤ 1 :=
  symWindow_forall hammingPt _ n sym (fun i _ => hammingPt_range _ i)

/-- T11.3 (the exact minimum of the Blackman window is 0, at the end points: the `Float` value −1.4e−17 there
is a rounding residue) -/
theorem blackman_range (n : ℕ) (hn : 3 ≤ n) (sym : Bool) : ∀ x ∈ (blackman n sym : List ℝ), 0 ≤ x ∧ x ≤ 1 :=
  symWindow_forall blackmanPt _ n sym
    (fun i _ => blackmanPt_eq _ i (le_trans (by omega) (le_npOf n sym)) ▸ blackmanF_range _ i)

theorem blackmanharris_range (n : ℕ) (hn : 3 ≤ n) (sym : Bool) :
    ∀ x ∈ (blackmanharris n sym : List ℝ), 0 ≤ x ∧ x ≤ 1 :=
  symWindow_forall blackmanharrisPt _ n sym
    (fun i _ => blackmanharrisPt_eq _ i (le_trans (by omega) (le_npOf n sym)) ▸ blackmanharrisF_range _ i)

theorem cosine_range (n : ℕ) (sym : Bool) : ∀ x ∈ (cosine n sym : List ℝ), 0 ≤ x ∧ x ≤ 1 :=
  symWindow_forall cosinePt _ n sym
    (fun i hi => cosinePt_eq _ i ▸ cosineF_range _ i (by omega))

/-- T11.3, every `alpha` -/
theorem gauss_range (a : ℝ) (n : ℕ) (sym : Bool) : ∀ x ∈ (gauss n a sym : List ℝ), 0 ≤ x ∧ x ≤ 1 :=
  symWindow_forall (gaussPt a) _ n sym (fun i _ => gaussPt_range a _ i)

/-- T11.3, every `r` (also outside [0, 1]) -/
theorem tukey_range (r : ℝ) (n : ℕ) : ∀ x ∈ (tukey n r : List ℝ), 0 ≤ x ∧ x ≤ 1 :=
  symWindow_forall (tukeyPt r) _ n true (fun i _ => tukeyPt_range r _ i)

/-- T11.3 for Kaiser, the lower bound (every value is an absolute value).  `x ≤ 1` needs more: the series is cut by
the data-dependent stopping rule `term < r * eps`, so numerator and denominator may be partial sums of different
lengths; that the stopping index is monotone in the argument is `besselLoop_mono` in `Props/C11More`, where the full
statement is `kaiser_range`. -/
theorem kaiser_range_partial (beta : ℝ) (nw : ℕ) : ∀ x ∈ (kaiser nw beta : List ℝ), 0 ≤ x := by
  intro x hx
  obtain ⟨i, _, rfl⟩ := List.mem_map.mp (kaiser_mem_half nw beta x hx)
  exact abs_nonneg _

end rangesReal

section kaiserReal
open Real

/-- term `k` of the power series of I₀: `((x/2)^k / k!)²` -/
noncomputable def i0Term (x : ℝ) (k : ℕ) : ℝ := ((x / 2) ^ k / (k.factorial : ℝ)) ^ 2

/-- partial sum `∑_{k ≤ K}` of the I₀ series -/
noncomputable def i0Partial (x : ℝ) (K : ℕ) : ℝ := ∑ k ∈ Finset.range (K + 1), i0Term x k

/-- the update `term *= q / (k * k)` produces the next series term -/
theorem i0Term_succ (x : ℝ) (k : ℕ) :
    i0Term x k * ((x / 2) * (x / 2) / (((k + 1 : ℕ) : ℝ) * ((k + 1 : ℕ) : ℝ))) = i0Term x (k + 1) := by
  rw [i0Term, i0Term, Nat.factorial_succ, Nat.cast_mul, pow_succ]
  ring

/-- loop invariant of `_besseli0`: started on a partial sum, the loop returns a (longer) partial sum -/
theorem besselLoop_partial (x : ℝ) (fuel : ℕ) : ∀ k : ℕ,
    ∃ K, k ≤ K ∧ K ≤ k + fuel ∧
      besselLoop ((x / 2) * (x / 2)) fuel (k + 1) (i0Term x k) (i0Partial x k) = i0Partial x K := by
  induction fuel with
  | zero => intro k; exact ⟨k, le_refl _, le_refl _, rfl⟩
  | succ f ih =>
    intro k
    unfold besselLoop
    simp only [fn_ofNat]
    rw [i0Term_succ x k]
    have hS : i0Partial x k + i0Term x (k + 1) = i0Partial x (k + 1) := (Finset.sum_range_succ _ (k + 1)).symm
    rw [hS]
    split
    · exact ⟨k + 1, by omega, by omega, rfl⟩
    · obtain ⟨K, h1, h2, h3⟩ := ih (k + 1)
      exact ⟨K, by omega, by omega, h3⟩

/-- `_besseli0(x)` is a partial sum `∑_{k ≤ K} ((x/2)^k/k!)²` of the I₀ power series with `K ≤ 999`
(which `K` is decided by the stopping rule `term < r * eps`; how close that is to I₀ is measured by the ORACLE) -/
theorem besseli0_partial (x : ℝ) : ∃ K, K ≤ 999 ∧ besseli0 x = i0Partial x K := by
  obtain ⟨K, h1, h2, h3⟩ := besselLoop_partial x 999 0
  refine ⟨K, by omega, ?_⟩
  unfold besseli0
  simp only [fn_ofNat]
  have e1 : i0Term x 0 = 1 := by unfold i0Term; simp
  have e2 : i0Partial x 0 = 1 := by unfold i0Partial; simp [e1]
  rw [e1, e2] at h3
  simpa using h3

/-- Kaiser window formula with the model's own series `I₀ᵗ = besseli0` -/
noncomputable def kaiserF (beta : ℝ) (N k : ℕ) : ℝ :=
  abs (besseli0 (beta * Real.sqrt (1 - (2 * (k : ℝ) / ((N : ℝ) - 1) - 1) ^ 2)) / abs (besseli0 beta))

/-- point `i` of the upper half `w` of `kaiser`: with `nw = 2⌊nw/2⌋ + odd`, the code's `y = i + 0.5(1 − odd)`
is half of `2(⌊nw/2⌋ + i) − (nw − 1)` -/
theorem kaiserHalf_get (beta : ℝ) (nw : ℕ) (hn : 2 ≤ nw) (i : ℕ) (hi : i < (nw + 1) / 2) :
    (kaiserHalf nw beta : List ℝ)[i]? = some (kaiserF beta nw (nw / 2 + i)) := by
  have hNr := (cast_pred_pos hn).ne'
  have hc : (nw : ℝ) = 2 * ((nw / 2 : ℕ) : ℝ) + ((nw % 2 : ℕ) : ℝ) := by
    exact_mod_cast (Nat.div_add_mod nw 2).symm
  unfold kaiserHalf kaiserF
  simp only [List.getElem?_map, List.getElem?_range hi, Option.map_some, fn_abs, fn_sqrt, fn_ofNat,
    ofNat_pred nw (by omega), Nat.cast_sub (by omega : nw % 2 ≤ 1), Nat.cast_add, Nat.cast_one,
    Nat.cast_ofNat]
  congr 6
  rw [hc] at hNr ⊢
  field_simp; ring

/-- the Kaiser formula is symmetric about the centre: `2(N−1−k)/(N−1) − 1 = −(2k/(N−1) − 1)` -/
theorem kaiserF_mirror (beta : ℝ) (N k : ℕ) (hN : 2 ≤ N) (hk : k ≤ N - 1) :
    kaiserF beta N (N - 1 - k) = kaiserF beta N k := by
  have hNr := (cast_pred_pos hN).ne'
  unfold kaiserF
  rw [cast_mirror (by omega) hk, ← neg_sq (2 * (k : ℝ) / _ - 1)]
  congr 7
  field_simp; ring

/-- T11.1 for Kaiser, relative to the series the code sums: point `k` of `kaiser(nw, beta)` is
`|I₀ᵗ(β √(1 − (2k/(nw−1) − 1)²)) / |I₀ᵗ(β)||` -/
theorem kaiser_closed_form (beta : ℝ) (nw : ℕ) (hn : 3 ≤ nw) (k : ℕ) (hk : k < nw) :
    (kaiser nw beta : List ℝ)[k]? = some (kaiserF beta nw k) := by
  have key : ∀ k, nw / 2 ≤ k → k < nw → (kaiser nw beta : List ℝ)[k]? = some (kaiserF beta nw k) := by
    intro k h1 h2
    have hlen : ((kaiserHalf nw beta : List ℝ).drop (nw % 2)).reverse.length = nw / 2 := by
      rw [List.length_reverse, List.length_drop, kaiserHalf_length]; omega
    rw [kaiser, List.getElem?_append_right (hlen ▸ h1), hlen,
      kaiserHalf_get beta nw (by omega) (k - nw / 2) (by omega), Nat.add_sub_cancel' h1]
  by_cases h : nw / 2 ≤ k
  · exact key k h hk
  · have hl := kaiser_length beta nw
    rw [get_of_reverse_eq _ (kaiser_symmetric beta nw) k (hl.symm ▸ hk), hl,
      key (nw - 1 - k) (by omega) (by omega), kaiserF_mirror beta nw k (by omega) (by omega)]

end kaiserReal

section firStructural
variable {α : Type} [Add α] [Sub α] [Mul α] [Div α] [Neg α] [LT α] [LE α] [Fn α] [OfScientific α]
  [DecidableRel (· < · : α → α → Prop)] [DecidableRel (· ≤ · : α → α → Prop)]

/-- T11.4 length of the raw low-pass prototype: `n+1` (odd and even orders) -/
theorem lowpassTaps_length (n : Nat) (wn : α) (win : List α) (h : win.length = n + 1) :
    (lowpassTaps n wn win).length = n + 1 := by
  unfold lowpassTaps
  simp only []
  generalize hh : List.zipWith _ _ _ = h0
  have hl : h0.length = (n + 1) / 2 := by
    rw [← hh, List.length_zipWith, List.length_range, List.length_take, Nat.min_eq_left (Nat.div_le_self ..),
      Nat.min_self, h]
  split <;> simp only [List.length_append, List.length_reverse, List.length_cons, List.length_nil, hl] <;> omega

/-- T11.4 (structural, ∀α): the raw prototype is a palindrome (second half is a flipped copy) -/
theorem lowpassTaps_symmetric (n : Nat) (wn : α) (win : List α) :
    (lowpassTaps n wn win).reverse = lowpassTaps n wn win := by
  unfold lowpassTaps
  simp only []
  split <;> simp

/-- the normalised low-pass prototype `_lowpass_fir` returns on a window of the right length -/
def lowpassH (n : Nat) (wn : α) (win : List α) : List α :=
  (lowpassTaps n wn win).map (· / accumulate (lowpassTaps n wn win))

theorem lowpassH_length (n : Nat) (wn : α) (win : List α) (h : win.length = n + 1) :
    (lowpassH n wn win).length = n + 1 := by
  rw [lowpassH, List.length_map, lowpassTaps_length n wn win h]

/-- T11.4 (structural, ∀α): the normalised prototype is a palindrome (every tap divided by the same sum) -/
theorem lowpassH_symmetric (n : Nat) (wn : α) (win : List α) :
    (lowpassH n wn win).reverse = lowpassH n wn win := by
  unfold lowpassH; rw [← List.map_reverse, lowpassTaps_symmetric]

/-- T11.4: `_lowpass_fir` throws on a window that does not have `n+1` taps, and returns the normalised raw taps
on one that has -/
theorem lowpassFir_eq (n : Nat) (wn : α) (win : List α) :
    lowpassFir n wn win =
      if win.length = n + 1 then .ok (lowpassH n wn win) else .error "Window must be n+1 elements" :=
  ite_not ..

/-- the order `_highpass_fir` / `_bandstop_fir` actually design for: the next even number -/
def evenOrder (n : Nat) : Nat := if n % 2 = 1 then n + 1 else n

theorem evenOrder_even (n : Nat) : evenOrder n % 2 = 0 := by
  unfold evenOrder
  split
  · exact Nat.succ_mod_two_eq_zero_iff.mpr ‹_›
  · exact Nat.mod_two_ne_one.mp ‹_›

theorem highpassFir_eq (n : Nat) (wn : α) (win : List α) :
    highpassFir n wn win =
      if win.length = evenOrder n + 1 then
        .ok (modulate (if n % 2 = 1 then 1 else 0) (lowpassH (evenOrder n) (Fn.ofNat 1 - wn) win))
      else .error "Window must be n+1 elements" := by
  unfold highpassFir
  simp only []
  rw [show (if n % 2 = 1 then n + 1 else n) = evenOrder n from rfl, lowpassFir_eq]
  by_cases h : win.length = evenOrder n + 1
  · rw [if_pos h, if_pos h]
  · rw [if_neg h, if_neg h]

/-- the modulation `2 * h * cos(2 * pi * wc * t)` of `_bandpass_fir` -/
def bandpassMod (n : Nat) (wn1 wn2 : α) (h : List α) : List α :=
  let wn1 := wn1 / Fn.ofNat 2
  let wn2 := wn2 / Fn.ofNat 2
  let wp := (wn2 - wn1) / Fn.ofNat 2
  let wc := wn1 + wp
  let c := Fn.ofNat 2 * Fn.pi * wc
  h.mapIdx fun k x => x * Fn.ofNat 2 * Fn.cos ((Fn.ofNat k - Fn.ofNat n / Fn.ofNat 2) * c)

/-- cut-off handed to the low-pass prototype by `_bandpass_fir`: `2 * wp` -/
def bandpassProtoCut (wn1 wn2 : α) : α :=
  Fn.ofNat 2 * ((wn2 / Fn.ofNat 2 - wn1 / Fn.ofNat 2) / Fn.ofNat 2)

theorem bandpassFir_eq (n : Nat) (wn1 wn2 : α) (win : List α) :
    bandpassFir n wn1 wn2 win =
      if win.length = n + 1 then .ok (bandpassMod n wn1 wn2 (lowpassH n (bandpassProtoCut wn1 wn2) win))
      else .error "Window must be n+1 elements" := by
  unfold bandpassFir
  simp only []
  rw [show (Fn.ofNat 2 * ((wn2 / Fn.ofNat 2 - wn1 / Fn.ofNat 2) / Fn.ofNat 2) : α) = bandpassProtoCut wn1 wn2 from rfl,
    lowpassFir_eq]
  by_cases h : win.length = n + 1
  · rw [if_pos h, if_pos h]; rfl
  · rw [if_neg h, if_neg h]

/-- `(-1) * h; h(n/2) += 1` of `_bandstop_fir` -/
def bandstopFlip (n' : Nat) (h : List α) : List α :=
  (h.map (· * (-(Fn.ofNat 1)))).mapIdx fun k x => if k = n' / 2 then x + Fn.ofNat 1 else x

theorem bandstopFir_eq (n : Nat) (wn1 wn2 : α) (win : List α) :
    bandstopFir n wn1 wn2 win =
      if win.length = evenOrder n + 1 then
        .ok (bandstopFlip (evenOrder n)
          (bandpassMod (evenOrder n) wn1 wn2 (lowpassH (evenOrder n) (bandpassProtoCut wn1 wn2) win)))
      else .error "Window must be n+1 elements" := by
  unfold bandstopFir
  simp only []
  rw [show (if n % 2 = 1 then n + 1 else n) = evenOrder n from rfl, bandpassFir_eq]
  by_cases h : win.length = evenOrder n + 1
  · rw [if_pos h, if_pos h]; rfl
  · rw [if_neg h, if_neg h]

/-- what `fir1` returns on a window of the right length -/
def firH (ft n : Nat) (w1 w2 : α) (win : List α) : List α :=
  match ft with
  | 0 => lowpassH n w1 win
  | 1 => modulate (if n % 2 = 1 then 1 else 0) (lowpassH (evenOrder n) (Fn.ofNat 1 - w1) win)
  | 2 => bandpassMod n w1 w2 (lowpassH n (bandpassProtoCut w1 w2) win)
  | _ => bandstopFlip (evenOrder n)
      (bandpassMod (evenOrder n) w1 w2 (lowpassH (evenOrder n) (bandpassProtoCut w1 w2) win))

theorem firLen_low (n : Nat) : firLen 0 n = n + 1 := by simp [firLen]
theorem firLen_high (n : Nat) : firLen 1 n = evenOrder n + 1 := by
  unfold firLen evenOrder; by_cases h : n % 2 = 1 <;> simp [h]
theorem firLen_bandpass (n : Nat) : firLen 2 n = n + 1 := by simp [firLen]
theorem firLen_bandstop (n : Nat) : firLen 3 n = evenOrder n + 1 := by
  unfold firLen evenOrder; by_cases h : n % 2 = 1 <;> simp [h]

/-- `fir1` (the four filter types) succeeds exactly on windows of `firLen` taps -/
theorem fir1_eq (ft n : Nat) (hft : ft < 4) (w1 w2 : α) (win : List α) :
    fir1 ft n w1 w2 win =
      if win.length = firLen ft n then .ok (firH ft n w1 w2 win) else .error "Window must be n+1 elements" := by
  rcases (by omega : ft = 0 ∨ ft = 1 ∨ ft = 2 ∨ ft = 3) with rfl | rfl | rfl | rfl
  · rw [firLen_low]; exact lowpassFir_eq n w1 win
  · rw [firLen_high]; exact highpassFir_eq n w1 win
  · rw [firLen_bandpass]; exact bandpassFir_eq n w1 w2 win
  · rw [firLen_bandstop]; exact bandstopFir_eq n w1 w2 win

theorem firH_length (ft n : Nat) (hft : ft < 4) (w1 w2 : α) (win : List α) (hw : win.length = firLen ft n) :
    (firH ft n w1 w2 win).length = firLen ft n := by
  rcases (by omega : ft = 0 ∨ ft = 1 ∨ ft = 2 ∨ ft = 3) with rfl | rfl | rfl | rfl <;>
    simp only [firLen_low, firLen_high, firLen_bandpass, firLen_bandstop, firH, modulate, bandpassMod, bandstopFlip,
      List.length_mapIdx, List.length_map] at hw ⊢ <;>
    exact lowpassH_length _ _ _ hw

theorem fir1_ok (ft n : Nat) (w1 w2 : α) (win h : List α) (hok : fir1 ft n w1 w2 win = .ok h) :
    ft < 4 ∧ win.length = firLen ft n ∧ h = firH ft n w1 w2 win := by
  by_cases hft : ft < 4
  · rw [fir1_eq ft n hft] at hok
    obtain ⟨hw, rfl⟩ := ok_guard.mp hok
    exact ⟨hft, hw, rfl⟩
  · obtain ⟨j, rfl⟩ := Nat.exists_eq_add_of_le' (not_lt.mp hft)
    cases hok

/-- acceptance: `fir1` succeeds exactly on windows of `firLen` taps, and then returns `firLen` taps -/
theorem fir1_ok_length (ft n : Nat) (w1 w2 : α) (win h : List α) (hok : fir1 ft n w1 w2 win = .ok h) :
    win.length = firLen ft n ∧ h.length = firLen ft n := by
  obtain ⟨hft, hw, rfl⟩ := fir1_ok ft n w1 w2 win h hok
  exact ⟨hw, firH_length ft n hft w1 w2 win hw⟩

/-- a custom window of the wrong length is rejected (all four filter types, every order and cut-off) -/
theorem fir1_rejects_wrong_length (ft n : Nat) (w1 w2 : α) (win : List α) (hw : win.length ≠ firLen ft n) :
    ∃ e, fir1 ft n w1 w2 win = .error e := by
  cases hr : fir1 ft n w1 w2 win with
  | error e => exact ⟨e, rfl⟩
  | ok h => exact absurd (fir1_ok ft n w1 w2 win h hr).2.1 hw

theorem fir1_accepts (ft n : Nat) (hft : ft < 4) (w1 w2 : α) (win : List α) (hw : win.length = firLen ft n) :
    ∃ h, fir1 ft n w1 w2 win = .ok h :=
  ⟨_, by rw [fir1_eq ft n hft, if_pos hw]⟩

/-- re-indexing a palindrome by an index map that is itself mirror-symmetric gives a palindrome -/
theorem mapIdx_symmetric {β : Type} (f : Nat → β → β) (l : List β) (hl : l.reverse = l)
    (hf : ∀ i, i < l.length → ∀ x, f (l.length - 1 - i) x = f i x) :
    (l.mapIdx f).reverse = l.mapIdx f := by
  have h : l.mapIdx f = l.mapIdx fun i => f (l.length - 1 - i) :=
    List.mapIdx_eq_mapIdx_iff.mpr fun i hi => (hf i hi _).symm
  conv_lhs => rw [h, ← List.mapIdx_reverse, hl]

/-- T11.4 symmetry, low-pass (structural, ∀α): the impulse response is a palindrome -/
theorem fir1_low_symmetric (n : Nat) (w1 w2 : α) (win h : List α) (hok : fir1 0 n w1 w2 win = .ok h) :
    h.reverse = h := by
  obtain ⟨-, -, rfl⟩ := fir1_ok 0 n w1 w2 win h hok
  exact lowpassH_symmetric n w1 win

/-- negating every second tap of an odd-length palindrome keeps it a palindrome -/
theorem modulate_symmetric (t1 n' : Nat) (h : List α) (hs : h.reverse = h) (hl : h.length = n' + 1)
    (he : n' % 2 = 0) : (modulate t1 h).reverse = modulate t1 h := by
  unfold modulate
  apply mapIdx_symmetric _ _ hs
  intro i hi x
  rw [show (h.length - 1 - i) % 2 = i % 2 by omega]

/-- T11.4 symmetry, high-pass (structural, ∀α) — every order, also the even ones whose last tap the
old code left un-modulated -/
theorem fir1_high_symmetric (n : Nat) (w1 w2 : α) (win h : List α) (hok : fir1 1 n w1 w2 win = .ok h) :
    h.reverse = h := by
  obtain ⟨-, hw, rfl⟩ := fir1_ok 1 n w1 w2 win h hok
  rw [firLen_high] at hw
  exact modulate_symmetric _ _ _ (lowpassH_symmetric ..) (lowpassH_length _ _ _ hw) (evenOrder_even n)

/-- `δ − h` keeps an odd-length palindrome a palindrome (the unit is added at the centre tap) -/
theorem bandstopFlip_symmetric (n' : Nat) (h : List α) (hs : h.reverse = h) (hl : h.length = n' + 1)
    (he : n' % 2 = 0) : (bandstopFlip n' h).reverse = bandstopFlip n' h := by
  unfold bandstopFlip
  apply mapIdx_symmetric
  · rw [← List.map_reverse, hs]
  · intro i hi x
    simp only [List.length_map] at hi ⊢
    have : (h.length - 1 - i = n' / 2) ↔ (i = n' / 2) := by omega
    simp only [this]

end firStructural

section firReal
open Real

/-- `std::accumulate(…, 0.0)` over ℝ is the sum -/
theorem accumulate_eq_sum (l : List ℝ) : accumulate l = l.sum := by
  unfold accumulate
  rw [List.sum_eq_foldl]; simp

/-- the normalised prototype sums to 1 when the raw taps do not sum to 0 -/
theorem lowpassH_sum (n : ℕ) (wn : ℝ) (win : List ℝ) (hs : (lowpassTaps n wn win).sum ≠ 0) :
    (lowpassH n wn win).sum = 1 := by
  unfold lowpassH
  simp only [accumulate_eq_sum, div_eq_mul_inv, List.sum_map_mul_right, List.map_id', mul_inv_cancel₀ hs]

/-- T11.4, DC gain of the low-pass design: `∑ h = 1` — every order, every cut-off, every window of the right
length, under the hypothesis that `h /= sum(h)` does not divide by zero (spelled out on the raw taps) -/
theorem fir1_low_dc_gain (n : ℕ) (w1 w2 : ℝ) (win h : List ℝ) (hok : fir1 0 n w1 w2 win = .ok h)
    (hs : (lowpassTaps n w1 win).sum ≠ 0) : h.sum = 1 := by
  obtain ⟨-, -, rfl⟩ := fir1_ok 0 n w1 w2 win h hok
  exact lowpassH_sum n w1 win hs

/-- `∑ₖ (-1)ᵏ hₖ` — the frequency response at Nyquist -/
def altSum (l : List ℝ) : ℝ := (l.mapIdx fun k x => (-1 : ℝ) ^ k * x).sum

theorem mapIdx_eq_map {β γ : Type} (l : List β) (f : Nat → β → γ) (g : β → γ) (h : ∀ i x, f i x = g x) :
    l.mapIdx f = l.map g := by
  apply List.ext_getElem
  · simp
  · intro i h1 h2; simp [h]

/-- the alternating sum of the modulated taps is ± the plain sum: tap `k` carries the sign `(-1)ᵏ` from the sum
and another `-1` exactly when `k ≡ t1 (mod 2)`, so every tap ends with the sign `(-1)^(t1+1)` -/
theorem altSum_modulate (t1 : ℕ) (ht : t1 ≤ 1) (l : List ℝ) :
    altSum (modulate t1 l) = (-1) ^ (t1 + 1) * l.sum := by
  unfold altSum modulate
  rw [List.mapIdx_mapIdx, mapIdx_eq_map _ _ (fun x => (-1 : ℝ) ^ (t1 + 1) * id x), List.sum_map_mul_left, List.map_id]
  intro i x
  simp only [Function.comp, id]
  rw [neg_one_pow_eq_pow_mod_two (n := i)]
  have hj : i % 2 < 2 := Nat.mod_lt i Nat.two_pos
  generalize i % 2 = j at hj ⊢
  by_cases h : j = t1
  · rw [if_pos h, h, pow_succ, mul_neg, mul_neg_one, neg_mul]
  · rw [if_neg h, neg_one_pow_eq_pow_mod_two (n := t1 + 1), show (t1 + 1) % 2 = j by omega]

/-- T11.4, Nyquist gain of the high-pass design: `|∑ (-1)ᵏ hₖ| = 1` — every order (odd orders are designed
with `n+1`), every cut-off, every window of the right length; hypothesis: the prototype's raw taps do not sum
to zero (the division `h /= sum(h)`) -/
theorem fir1_high_nyquist_gain (n : ℕ) (w1 w2 : ℝ) (win h : List ℝ) (hok : fir1 1 n w1 w2 win = .ok h)
    (hs : (lowpassTaps (evenOrder n) (1 - w1) win).sum ≠ 0) : |altSum h| = 1 := by
  obtain ⟨-, -, rfl⟩ := fir1_ok 1 n w1 w2 win h hok
  have h1 : (Fn.ofNat 1 - w1 : ℝ) = 1 - w1 := by simp
  rw [firH, h1, altSum_modulate _ (by split <;> omega), lowpassH_sum _ _ _ hs, mul_one, abs_pow, abs_neg, abs_one,
    one_pow]

/-- modulation by `cos(2π wc (k − n/2))` keeps a palindrome of `n+1` taps a palindrome (cosine is even) -/
theorem bandpassMod_symmetric (n : ℕ) (wn1 wn2 : ℝ) (h : List ℝ) (hs : h.reverse = h) (hl : h.length = n + 1) :
    (bandpassMod n wn1 wn2 h).reverse = bandpassMod n wn1 wn2 h := by
  unfold bandpassMod
  simp only []
  apply mapIdx_symmetric _ _ hs
  intro i hi x
  have hc : ((h.length - 1 - i : ℕ) : ℝ) = (n : ℝ) - i := by
    rw [hl, Nat.add_sub_cancel, Nat.cast_sub (by omega)]
  simp only [fn_ofNat, fn_cos, hc]
  rw [← Real.cos_neg]
  congr 2; ring

/-- T11.4 symmetry, band-pass (ℝ: uses that cosine is even) -/
theorem fir1_bandpass_symmetric (n : ℕ) (w1 w2 : ℝ) (win h : List ℝ) (hok : fir1 2 n w1 w2 win = .ok h) :
    h.reverse = h := by
  obtain ⟨-, hw, rfl⟩ := fir1_ok 2 n w1 w2 win h hok
  rw [firLen_bandpass] at hw
  exact bandpassMod_symmetric n w1 w2 _ (lowpassH_symmetric _ _ _) (lowpassH_length _ _ _ hw)

/-- T11.4 symmetry, band-stop (ℝ) -/
theorem fir1_bandstop_symmetric (n : ℕ) (w1 w2 : ℝ) (win h : List ℝ) (hok : fir1 3 n w1 w2 win = .ok h) :
    h.reverse = h := by
  obtain ⟨-, hw, rfl⟩ := fir1_ok 3 n w1 w2 win h hok
  rw [firLen_bandstop] at hw
  have hl := lowpassH_length _ (bandpassProtoCut w1 w2) _ hw
  exact bandstopFlip_symmetric _ _ (bandpassMod_symmetric _ w1 w2 _ (lowpassH_symmetric _ _ _) hl)
    ((List.length_mapIdx ..).trans hl) (evenOrder_even n)

end firReal

section defaults
variable {α : Type} [Add α] [Sub α] [Mul α] [Div α] [Neg α] [LT α] [LE α] [Fn α] [OfScientific α]
  [DecidableRel (· < · : α → α → Prop)] [DecidableRel (· ≤ · : α → α → Prop)]

/-- the overloads without a window argument never throw for the four filter types: `window::hamming(nn)` has
the length the design asks for; the result has `n+1` taps (`n+2` for odd-order high-pass and band-stop) -/
theorem fir1Default_ok (ft n : Nat) (hft : ft < 4) (hn : 1 ≤ n) (w1 w2 : α) :
    ∃ h, fir1Default ft n w1 w2 = .ok h ∧ h.length = firLen ft n := by
  have hl : (hamming (firLen ft n) true : List α).length = firLen ft n :=
    symWindow_length hammingPt _ true (.inl rfl)
  obtain ⟨h, hh⟩ := fir1_accepts ft n hft w1 w2 _ hl
  exact ⟨h, hh, (fir1_ok_length ft n w1 w2 _ h hh).2⟩

end defaults

section examples
open Real

/-- non-vacuity: a concrete window -/
example : (hann 3 true : List ℝ) = [0, 1, 0] := by
  simp [hann, symWindow, hannwin, hannPt, List.range_succ]
  norm_num

/-- non-vacuity of the hypotheses of `fir1_low_dc_gain` / `fir1_high_nyquist_gain`: order 2, cut-off 1/2,
rectangular window: raw taps `[1, π/2, 1]` -/
theorem lowpassTaps_example : lowpassTaps 2 (1 / 2 : ℝ) [1, 1, 1] = [1, π / 2, 1] := by
  simp [lowpassTaps, List.range_succ]
  have e : 2 * π * ((2:ℝ)⁻¹ / 2) = π / 2 := by ring
  rw [e, Real.sin_pi_div_two]; simp

/-- non-vacuity: the raw taps of the example do not sum to zero -/
theorem lowpassTaps_example_sum : (lowpassTaps 2 (1 / 2 : ℝ) [1, 1, 1]).sum ≠ 0 := by
  rw [lowpassTaps_example]
  have := Real.pi_pos
  simp; positivity

/-- the hypotheses of `fir1_low_dc_gain` are satisfiable, and its conclusion applies -/
example : ∃ h, fir1 0 2 (1 / 2 : ℝ) 0 [1, 1, 1] = .ok h ∧ h.sum = 1 := by
  obtain ⟨h, hh⟩ := fir1_accepts 0 2 (by norm_num) (1 / 2 : ℝ) 0 [1, 1, 1] (by simp [firLen])
  exact ⟨h, hh, fir1_low_dc_gain 2 _ _ _ h hh lowpassTaps_example_sum⟩

/-- the hypotheses of `fir1_high_nyquist_gain` are satisfiable (even order 2: the case whose last tap the old
code left un-modulated) -/
example : ∃ h, fir1 1 2 (1 / 2 : ℝ) 0 [1, 1, 1] = .ok h ∧ |altSum h| = 1 ∧ h.reverse = h := by
  obtain ⟨h, hh⟩ := fir1_accepts 1 2 (by norm_num) (1 / 2 : ℝ) 0 [1, 1, 1] (by simp [firLen])
  refine ⟨h, hh, fir1_high_nyquist_gain 2 _ _ _ h hh ?_, fir1_high_symmetric 2 _ _ _ h hh⟩
  have : (1 : ℝ) - 1 / 2 = 1 / 2 := by norm_num
  rw [show evenOrder 2 = 2 from rfl, this]
  exact lowpassTaps_example_sum

/-- rejection is not vacuous -/
example : ∃ e, fir1 1 3 (0.3 : ℝ) 0 (hamming 4 true) = .error e :=
  fir1_rejects_wrong_length 1 3 _ _ _ (by
    rw [hamming_length 4 (by norm_num) true]; simp [firLen])

end examples

end Dsp.C11
