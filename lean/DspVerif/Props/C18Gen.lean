import DspVerif.Props.C18
import DspVerif.Props.C18Total
import DspVerif.Props.C07Gen
import DspVerif.Gen.StepsDetector
import DspVerif.Lib.RealFn
import DspVerif.Lib.GenBridge
/-!
# C18 — bridge: the hand-written preamble-detector model IS the regenerated code of `lib/detector.cpp`

`Gen/StepsDetector.lean` is written by `tools/cxx2lean.py` on every check run from `lib/detector.cpp` (and what it calls):
* `_is_valid` (`Gen.detIsValid`, over the documented primitives `stdIsinf` / `stdIsnan`);
* `CDelay<cmplx_t>`: constructor, `push`, `extract` (`Gen.cdelayCtor`, `cdelayPush`, `cdelayExtract` with its copy loop);
* `MAFilter<real_t>::process(const base_array<T>&)` (`Gen.maFilterProcess`, a fold of the scalar `Gen.maFilterStep` of unit StepsDyn);
* `FftFilter::block_size` (`Gen.fftFilterBlockSize`), `abs2(const arr_cmplx&)`, `rms(const arr_cmplx&)` of lib/math.cpp;
* `PreambleDetectorImpl`: `_convert_impulse`, the constructor (`Gen.detectorCtor`: the sub-objects built by the GENERATED constructors
  `fftFilterCtor`, `maFilterCtor`, `cdelayCtor`), `frame_len`, and the WHOLE `process` (`Gen.detectorProcess`): the frame-length guard,
  both filters through their generated `process` functions (`fftFilterProcess`, `maFilterProcess`), the normalised correlation
  `abs2(cx) / (pwx + eps())`, and the sample loop with its early `return` as a first-hit search (`Gen.firstHit` over
  `Gen.detectorProcess_loop1`); `reset()` (`Gen.detectorReset`, with `CDelay::reset` as `Gen.cdelayReset`).
Pinned by AST digest (not translated): `flip(const arr_cmplx&)`, `operator+(scalar)`, `operator/(array)`, `base_array(std::vector<T>&&)`.
The transforms (`fft(x)`, `ifft(x)`, `fft(x, n)`) and `nextpow2` are parameters, as in unit StepsFftFilter.

Proved here, over ℝ: each generated function equals its model counterpart.  The bridged DOMAIN of `process` / `reset()` is every
state whose correlation filter has the structural invariant `SInv` of `C07Gen` and whose delay line has `_idx < _size`; the
constructor lands in it (`detInit_gen_inv`) and accepted calls stay in it (`detProcess_inv`).  Every frame is covered, rejected
lengths included; the size check of the pinned quotient `abs2(cx) / (pwx + eps())` does not fire on an accepted call.  The T18.4
theorems of `Props/C18.lean` / `Props/C18Total.lean` are then transported to the generated code (`detector_gen_*`).
-/
namespace Dsp.C18Gen
open Dsp Dsp.Fir Dsp.Detect Dsp.MathFns Dsp.GenBridge Dsp.C07Gen

set_option linter.unusedSectionVars false
set_option linter.unusedSimpArgs false
set_option linter.unusedVariables false

noncomputable section

/-! ## `CDelay<cmplx_t>` -/

/-- the generated object of a model delay line (`_size = _buf.size()`) -/
def toGenD (d : CDelay (Cx ℝ)) : Gen.CDelayState ℝ := ⟨(d.idx : Int), (d.buf.size : Int), d.buf⟩

theorem gzeroC : (Gen.zeroC : Cx ℝ) = czero := by apply Cx.ext' <;> simp [Gen.zeroC, czero]

/-- **bridge, `CDelay<cmplx_t>::CDelay(int size)`** for `size ≥ 0` -/
theorem cdelayCtor_eq (n : ℕ) : (Gen.cdelayCtor (n : Int) : Gen.CDelayState ℝ) = toGenD (CDelay.init czero n) := by
  simp [Gen.cdelayCtor, toGenD, CDelay.init, Gen.vecNewC, gzeroC]

/-- **bridge, `CDelay<cmplx_t>::push`**, every state and sample -/
theorem cdelayPush_eq (d : CDelay (Cx ℝ)) (v : Cx ℝ) : Gen.cdelayPush (toGenD d) v = toGenD (d.push v) := by
  simp only [Gen.cdelayPush, toGenD, CDelay.push, ptrSet_natCast, Array.size_setIfInBounds]
  have hc : ((d.idx : Int) + 1 = (d.buf.size : Int)) ↔ (d.idx + 1 = d.buf.size) := by constructor <;> intro h <;> omega
  simp only [hc]
  split_ifs <;> simp

/-- **bridge, `CDelay<cmplx_t>::extract`**, every state with `_idx < _size` (the invariant `push` keeps) -/
theorem cdelayExtract_eq (d : CDelay (Cx ℝ)) (hi : d.idx < d.buf.size) : Gen.cdelayExtract (toGenD d) = d.extract czero := by
  unfold Gen.cdelayExtract CDelay.extract
  simp only [toGenD, Int.toNat_natCast, Gen.vecNewC]
  have key := foldl_range_rel
    (fun (k : ℕ) (G : Array (Cx ℝ) × Int) (a : Array (Cx ℝ)) => G.1 = a ∧ G.2 = (((d.idx + k) % d.buf.size : ℕ) : Int))
    (Gen.cdelayExtract_loop1 (toGenD d))
    (fun (a : Array (Cx ℝ)) i => a.setIfInBounds i ((fun (_ : Cx ℝ) i => d.buf.getD ((d.idx + i) % d.buf.size) czero) (a.getD i czero) i))
    d.buf.size
    (by
      rintro k ⟨r, p⟩ a hk ⟨h1, h2⟩
      simp only at h1 h2
      subst h1
      simp only [Gen.cdelayExtract_loop1, toGenD, Int.ofNat_eq_natCast, ptrSet_natCast, h2, ptrGet_natCast, gzeroC]
      refine ⟨by first | trivial | rfl, ?_⟩
      have hpos : 0 < d.buf.size := by omega
      rw [tmod_eq _ ((d.idx + k) % d.buf.size + 1) _ (Nat.cast_succ _).symm]
      congr 1
      rw [show d.idx + (k + 1) = (d.idx + k) + 1 by ring, Nat.add_mod ((d.idx + k)) 1, Nat.add_mod (((d.idx + k) % d.buf.size)) 1]
      simp)
    (Array.replicate d.buf.size Gen.zeroC, (d.idx : Int)) (Array.replicate d.buf.size Gen.zeroC)
    ⟨rfl, by simp [Nat.mod_eq_of_lt hi]⟩
  rw [show (toGenD d) = (⟨(d.idx : Int), (d.buf.size : Int), d.buf⟩ : Gen.CDelayState ℝ) from rfl] at key
  rw [key.1]
  exact foldl_set_eq_ofFn czero (fun (_ : Cx ℝ) i => d.buf.getD ((d.idx + i) % d.buf.size) czero) d.buf.size _ (by simp)

/-! ## `MAFilter<real_t>::process(const base_array<T>&)` -/

/-- the generated object of a model moving-average state -/
def toGenM (s : MaState ℝ) : Gen.MAFilterState ℝ := ⟨s.buf, (s.n : Int), (s.pos : Int), s.accum⟩

theorem sumR_eq_sumv (a : Array ℝ) : Gen.sumR a = sumv (0 : ℝ) a := by
  unfold Gen.sumR sumv
  rw [acc_eq_foldl, array_foldl_eq_range (0 : ℝ)]
  simp

/-- the scalar overload (`Gen.maFilterStep`, unit StepsDyn) is `Fir.maStep` -/
theorem maFilterStep_eqF (s : MaState ℝ) (x : ℝ) :
    Gen.maFilterStep (toGenM s) x = (toGenM (maStep (zeroR : ℝ) divnR s x).1, (maStep (zeroR : ℝ) divnR s x).2) := by
  have hc : ((s.pos : Int) + 1 = (s.n : Int)) ↔ (s.pos + 1 = s.n) := by constructor <;> intro h <;> omega
  simp only [Gen.maFilterStep, maStep, toGenM, Gen.zeroR, arrGet_natCast, arrSet_natCast, sumR_eq_sumv, fn_ofNat, fn_ofInt,
    hc, Nat.cast_zero, Int.cast_zero, zeroR, divnR]
  split_ifs <;> simp

/-- **bridge, `MAFilter<real_t>::process(const base_array<T>&)`:** every state, every frame -/
theorem maFilterProcess_eq (s : MaState ℝ) (x : Array ℝ) :
    Gen.maFilterProcess (toGenM s) x = (toGenM (maProcessR s x).1, (maProcessR s x).2) := by
  unfold Gen.maFilterProcess maProcessR maProcess
  rw [array_foldl_eq_range (0 : ℝ) _ x (s, #[])]
  simp only [Gen.arrSize, Int.ofNat_eq_natCast, Int.toNat_natCast, Gen.arrNew]
  have key := foldl_range_rel
    (fun (k : ℕ) (G : Gen.MAFilterState ℝ × Array ℝ) (M : MaState ℝ × Array ℝ) =>
      G.1 = toGenM M.1 ∧ G.2.size = x.size ∧ M.2.size = k ∧ ∀ j, j < k → G.2.getD j 0 = M.2.getD j 0)
    (Gen.maFilterProcess_loop1 x)
    (fun (so : MaState ℝ × Array ℝ) k => ((maStep (zeroR : ℝ) divnR so.1 (x.getD k 0)).1, so.2.push (maStep (zeroR : ℝ) divnR so.1 (x.getD k 0)).2))
    x.size
    (by
      rintro k ⟨G, y⟩ ⟨ms, out⟩ hk ⟨h1, h2, h3, h4⟩
      simp only at h1 h2 h3 h4
      subst h1
      simp only [Gen.maFilterProcess_loop1, Int.ofNat_eq_natCast, arrGet_natCast, arrSet_natCast, maFilterStep_eqF, Gen.zeroR, fn_ofInt,
        Int.cast_zero]
      refine ⟨by first | trivial | rfl, by simpa using h2, by simp [h3], ?_⟩
      intro j hj
      rw [getD_setIfInBounds, h2]
      by_cases hjk : k = j
      · subst hjk
        simp [hk, h3, Array.getD_eq_getD_getElem?]
        try (subst h3; simp)
      · have hj' : j < k := by omega
        rw [if_neg (by tauto), h4 j hj']
        simp [Array.getD_eq_getD_getElem?, Array.getElem?_push, h3, hj', show ¬ (j = k) by omega]
        try (intro h; omega))
    (toGenM s, Array.replicate x.size Gen.zeroR) (s, #[])
    ⟨rfl, by simp, rfl, by intro j hj; omega⟩
  obtain ⟨k1, k2, k3, k4⟩ := key
  generalize (List.range x.size).foldl (Gen.maFilterProcess_loop1 x) (toGenM s, Array.replicate x.size Gen.zeroR) = G at k1 k2 k4 ⊢
  generalize (List.range x.size).foldl
    (fun (so : MaState ℝ × Array ℝ) k => ((maStep (zeroR : ℝ) divnR so.1 (x.getD k 0)).1, so.2.push (maStep (zeroR : ℝ) divnR so.1 (x.getD k 0)).2))
    (s, #[]) = M at k1 k3 k4 ⊢
  obtain ⟨G1, Gy⟩ := G
  obtain ⟨M1, Mo⟩ := M
  simp only at k1 k2 k3 k4 ⊢
  rw [k1]
  congr 1
  apply ext_getD (0 : ℝ)
  · rw [k2, k3]
  · intro j hj
    rw [k2] at hj
    exact k4 j hj

/-- `abs2(const arr_cmplx&)` of lib/math.cpp (generated) is the element-wise `|·|²` -/
theorem abs2Arr_eq (x : Array (Cx ℝ)) : Gen.abs2Arr x = x.map Cx.abs2 := by
  unfold Gen.abs2Arr
  simp only [Gen.arrNew, Gen.arrSize, Int.ofNat_eq_natCast, Int.toNat_natCast]
  rw [foldl_loop_eq_ofFn (0 : ℝ) (fun (_ : ℝ) (k : Nat) => Cx.abs2 (x.getD k Gen.zeroC)) _
    (fun a i => by simp only [Gen.abs2Arr_loop1, Int.ofNat_eq_natCast, arrSet_natCast, arrGet_natCast, Cx.abs2]) x.size _ (by simp)]
  exact (map_eq_ofFn Gen.zeroC x _ x.size rfl).symm

/-! ## `_convert_impulse`, the constructor -/

/-- `rms(const arr_cmplx&)` of lib/math.cpp (generated) is the model's `crms` -/
theorem rmsC_eq (x : Array (Cx ℝ)) : Gen.rmsC x = crms x := by
  unfold Gen.rmsC crms
  simp only [Gen.arrSize, Int.ofNat_eq_natCast, Int.toNat_natCast, fn_ofInt, fn_ofNat, Int.cast_zero, Nat.cast_zero, Int.cast_natCast]
  rw [array_foldl_eq_range (Gen.zeroC : Cx ℝ)]
  congr 2
  all_goals
    apply foldl_range_congr
    intro v k hk
    simp only [Gen.rmsC_loop1, Int.ofNat_eq_natCast, arrGet_natCast]

theorem flip_eq_reverse {β : Type} (x : Array β) : MathFns.flip x = x.reverse := by
  apply Array.ext
  · simp [MathFns.flip]
  · intro i h1 h2
    simp [MathFns.flip]

/-- **bridge, `PreambleDetectorImpl::_convert_impulse`**, every preamble -/
theorem detConvertImpulse_eq (h : Array (Cx ℝ)) : Gen.detConvertImpulse h = convertImpulse h := by
  unfold Gen.detConvertImpulse convertImpulse
  simp only [Gen.arrDivCR, Gen.arrFlipC, rmsC_eq, flip_eq_reverse, Gen.arrSize, Int.ofNat_eq_natCast, fn_ofInt, fn_ofNat, Int.cast_natCast]
  congr 1
  all_goals
    funext v
    simp [Cx.divrAssign, Cx.divr]

/-- the generated object of a model detector state -/
def toGenDet (s : DetState ℝ) : Gen.DetectorState ℝ := ⟨toGenF s.corr, toGenM s.pow, s.thr2, toGenD s.delay⟩

/-- **bridge, `PreambleDetectorImpl::PreambleDetectorImpl(const arr_cmplx& h, real_t threshold)`:** with `nextpow2` and `fft(x, n)`
instantiated as in `C07Gen.fftFilterCtor_eq`, the generated constructor — `_corr_flt{_convert_impulse(h)}` through the generated
`FftFilter` constructor, `_pow_flt{h.size()}` through the generated `MAFilter` constructor, `_threshold{threshold * threshold}`,
`_delay{h.size()}` through the generated `CDelay` constructor — leaves the model's `detInit`, for EVERY preamble and threshold -/
theorem detectorCtor_eq (np : Int → Int) (fftN : Array (Cx ℝ) → Int → Array (Cx ℝ)) (fft : Array (Cx ℝ) → Array (Cx ℝ))
    (hnp : ∀ k : ℕ, np (k : Int) = (nextpow2 k : Int))
    (hfft : ∀ (x : Array (Cx ℝ)) (n : ℕ), x.size ≤ n → fftN x (n : Int) = fft (zeropad (0 : Cx ℝ) x n))
    (h : Array (Cx ℝ)) (thr : ℝ) :
    Gen.detectorCtor np fftN h thr = toGenDet (detInit fft h thr) := by
  unfold Gen.detectorCtor detInit toGenDet
  simp only [Gen.arrSize, Int.ofNat_eq_natCast, detConvertImpulse_eq, fftFilterCtor_eq np fftN fft hnp hfft, cdelayCtor_eq]
  congr 1
  all_goals
    first
      | rfl
      | simp only [fftInitC, Cx.zeroC_eq]
      | simp [Gen.maFilterCtor, toGenM, maInitR, maInit, Gen.arrNew, Gen.zeroR, zeroR]

/-! ## the sample loop with its early `return` -/

/-- the generated test `corr[i] > _threshold && _is_valid(corr[i])` is the model's (over ℝ `_is_valid` always holds) -/
theorem hit_iff (thr c : ℝ) : (c > thr ∧ Gen.detIsValid c) ↔ (decide (thr < c) && isValid c) = true := by
  simp [Gen.detIsValid, Gen.stdIsinf, Gen.stdIsnan, isValid]

theorem dok_push (d : CDelay (Cx ℝ)) (v : Cx ℝ) (h : d.idx < d.buf.size) : (d.push v).idx < (d.push v).buf.size := by
  simp only [CDelay.push, Array.size_setIfInBounds]; split_ifs <;> omega

/-- the model's result of a reporting scan -/
def mkRes (r : CDelay (Cx ℝ) × Option (ℕ × ℝ)) : Option (Gen.DetResult ℝ) :=
  r.2.map fun p => ⟨(p.1 : Int), r.1.extract czero, Real.sqrt p.2⟩

theorem scan_dok (thr : ℝ) : ∀ (L : List (Cx ℝ × ℝ)) (i : ℕ) (d : CDelay (Cx ℝ)), d.idx < d.buf.size →
    (scan thr L i d).1.idx < (scan thr L i d).1.buf.size := by
  intro L
  induction L with
  | nil => intro i d h; simpa [scan] using h
  | cons p L ih =>
    intro i d h
    obtain ⟨v, c⟩ := p
    simp only [scan]
    split_ifs
    · exact dok_push d v h
    · exact ih (i + 1) (d.push v) (dok_push d v h)

/-- **bridge, the sample loop of `process`** (`for (i < corr.size()) { _delay.push(sig[i]); if (corr[i] > _threshold && _is_valid(corr[i]))
{ …; return res; } }`): the generated first-hit search over the generated loop body, started at any index `i` with any delay line, is
the model's `scan` on the remaining (sample, correlation) pairs — the same delay line afterwards (the samples behind a hit are NOT
pushed), the same report (offset, `extract()` of the delay line at the hit, `sqrt` of the value) -/
theorem det_loop_eq (sig : Array (Cx ℝ)) (corr : Array ℝ) (hsz : corr.size = sig.size) (F : Gen.FftFilterState ℝ) (M : Gen.MAFilterState ℝ)
    (thr : ℝ) : ∀ (m i : ℕ) (d : CDelay (Cx ℝ)), i + m = sig.size → d.idx < d.buf.size →
      Gen.firstHit (Gen.detectorProcess_loop1 sig corr) m i ⟨F, M, thr, toGenD d⟩ =
        (⟨F, M, thr, toGenD (scan thr ((sig.toList.zip corr.toList).drop i) i d).1⟩,
          mkRes (scan thr ((sig.toList.zip corr.toList).drop i) i d)) := by
  intro m
  induction m with
  | zero =>
    intro i d hi hd
    have : (sig.toList.zip corr.toList).drop i = [] := by
      apply List.drop_eq_nil_of_le
      simp [hsz]; omega
    simp [Gen.firstHit, this, scan, mkRes]
  | succ m ih =>
    intro i d hi hd
    have hlt : i < sig.size := by omega
    have hlen : i < (sig.toList.zip corr.toList).length := by simp [hsz]; omega
    rw [List.drop_eq_getElem_cons hlen]
    have hel : (sig.toList.zip corr.toList)[i] = (sig.getD i czero, corr.getD i 0) := by
      simp [getD_of_lt _ _ hlt, getD_of_lt _ _ (show i < corr.size by omega)]
    rw [hel]
    simp only [Gen.firstHit, Gen.detectorProcess_loop1, Int.ofNat_eq_natCast, arrGet_natCast, cdelayPush_eq, gzeroC, Gen.zeroR, fn_ofInt,
      Int.cast_zero, scan]
    by_cases hh : (decide (thr < corr.getD i 0) && isValid (corr.getD i 0)) = true
    · rw [if_pos ((hit_iff thr _).2 hh), if_pos hh]
      simp only [mkRes, Option.map_some, Gen.arrOfVec, fn_sqrt]
      rw [cdelayExtract_eq _ (dok_push d _ hd)]
    · rw [if_neg (fun h => hh ((hit_iff thr _).1 h)), if_neg hh]
      exact ih (i + 1) (d.push (sig.getD i czero)) (by omega) (dok_push d _ hd)

/-! ## the whole `process` -/

theorem maProcess_size (s : MaState ℝ) (x : Array ℝ) : (maProcessR s x).2.size = x.size := by
  unfold maProcessR maProcess
  exact foldl_getD_induction (0 : ℝ) x _ _ (fun i (so : MaState ℝ × Array ℝ) => so.2.size = i) rfl
    fun i _ so h => by rw [Array.size_push, h]

/-- the overlap-add filter emits `⌊(_nx + len)/_n⌋·_n` samples (any state with `0 < _n`, `_nx < _n`): the position counter after
`i` samples is `(_nx + i) mod _n`, and a block is emitted whenever it wraps -/
theorem fftProcess_size (fft ifft : Array (Cx ℝ) → Array (Cx ℝ)) (s : FftState (Cx ℝ)) (hn : 0 < s.n) (hx : s.nx < s.n)
    (xs : Array (Cx ℝ)) : (fftProcess (0 : Cx ℝ) fft ifft s xs).2.size = (s.nx + xs.size) / s.n * s.n := by
  unfold fftProcess
  refine (foldl_getD_induction (0 : Cx ℝ) xs _ (s, #[])
    (fun i (so : FftState (Cx ℝ) × Array (Cx ℝ)) => so.2.size = (s.nx + i) / s.n * s.n ∧ so.1.nx = (s.nx + i) % s.n ∧ so.1.n = s.n)
    ⟨by simp [Nat.div_eq_of_lt hx], (Nat.mod_eq_of_lt hx).symm, rfl⟩ fun i _ so ⟨h1, h2, h3⟩ => ?_).1
  obtain ⟨dA, dB⟩ := succ_div_mod (s.nx + i) s.n hn
  unfold fftStep
  by_cases hw : so.1.nx + 1 = so.1.n
  · obtain ⟨d1, d2⟩ := dA (by omega)
    rw [if_pos hw]
    refine ⟨?_, d2.symm, h3⟩
    simp only [Array.size_append, fftBlock, Array.size_ofFn]
    rw [h1, h3, ← Nat.add_assoc, d1, Nat.succ_mul]
  · obtain ⟨d1, d2⟩ := dB (by omega)
    rw [if_neg hw]
    exact ⟨by rw [h1, ← Nat.add_assoc, d1], by show so.1.nx + 1 = _; rw [h2, ← Nat.add_assoc, d2], h3⟩

/-- a call of a multiple of `_n` samples on a filter with `_nx < _n` emits exactly as many samples as it got (so the quotient of
`process` does not throw) -/
theorem fftProcess_size_frame (fft ifft : Array (Cx ℝ) → Array (Cx ℝ)) (s : FftState (Cx ℝ)) (hs : SInv s) (xs : Array (Cx ℝ))
    (hfl : xs.size % s.n = 0) : (fftProcess (0 : Cx ℝ) fft ifft s xs).2.size = xs.size := by
  rw [fftProcess_size fft ifft s hs.1 hs.2.1]
  obtain ⟨q, hq⟩ : ∃ q, xs.size = s.n * q := ⟨xs.size / s.n, by have := Nat.div_add_mod xs.size s.n; omega⟩
  rw [hq, Nat.add_mul_div_left _ _ hs.1, Nat.div_eq_of_lt hs.2.1, Nat.zero_add, Nat.mul_comm]

/-- `abs2(cx) / (pwx + eps())` (pinned array operators) is the model's `normCorr` when the quotient does not throw -/
theorem normCorr_eq (cx : Array (Cx ℝ)) (pwx : Array ℝ) (h : cx.size ≤ pwx.size) :
    Gen.arrDivRA (cx.map Cx.abs2) (Gen.arrAddRS pwx Detect.eps) = normCorr cx pwx := by
  unfold Gen.arrDivRA Gen.arrAddRS normCorr
  apply Array.ext
  · simp
  · intro i h1 h2
    simp only [Array.size_ofFn, Array.size_map] at h1
    have hp : i < pwx.size := by omega
    simp [getD_of_lt _ _ h1, Array.getD_eq_getD_getElem?, hp]

/-- the generated value of a model report -/
def toGenRes (q : Result ℝ) : Gen.DetResult ℝ := ⟨(q.offset : Int), q.preamble, q.score⟩

/-- the generated outcome of a model call -/
def toGenOut : Except String (DetState ℝ × Option (Result ℝ)) → Except String (Gen.DetectorState ℝ × Option (Gen.DetResult ℝ))
  | .error e => .error e
  | .ok r => .ok (toGenDet r.1, r.2.map toGenRes)

/-- **bridge, `PreambleDetectorImpl::process(const arr_cmplx& sig)`, one call.**  For every pair of transforms (parameters), every state
whose correlation filter has the structural invariant of `C07Gen` (`SInv`: the constructor establishes it, `process` keeps it) and
whose delay line has `_idx < _size`, and every frame — lengths that are not a multiple of `frame_len()` included (both throw the same
message): the GENERATED `process` (guard, both generated filter functions, the pinned array quotient, the first-hit loop) returns
the model's `detProcess` — same members afterwards, same optional report.  In particular the size check of the pinned quotient
`abs2(cx) / (pwx + eps())` (`Gen.arrDivRAThrows`, an explicit `.error` branch of the generated code) never fires: an accepted call
makes the correlation filter emit exactly as many samples as the call has (`fftProcess_size_frame`). -/
theorem detectorProcess_eq (fft ifft : Array (Cx ℝ) → Array (Cx ℝ)) (s : DetState ℝ) (hs : SInv s.corr)
    (hd : s.delay.idx < s.delay.buf.size) (sig : Array (Cx ℝ)) :
    Gen.detectorProcess Detect.eps fft ifft (toGenDet s) sig = toGenOut (detProcess fft ifft s sig) := by
  unfold Gen.detectorProcess detProcess
  have hfl : Gen.detectorFrameLen (toGenDet s) = (s.frameLen : Int) := by
    simp [Gen.detectorFrameLen, Gen.fftFilterBlockSize, toGenDet, toGenF, DetState.frameLen]
  have hmod : Int.tmod (Gen.arrSize sig) (Gen.detectorFrameLen (toGenDet s)) = ((sig.size % s.frameLen : ℕ) : Int) := by
    rw [hfl]; exact tmod_eq _ _ _ rfl
  rw [hmod]
  by_cases hg : sig.size % s.frameLen = 0
  · have hg' : ¬ (((sig.size % s.frameLen : ℕ) : Int) ≠ 0) := by simp [hg]
    rw [if_neg hg', if_neg (show ¬ (sig.size % s.frameLen ≠ 0) by simpa using hg)]
    simp only [toGenDet, fftFilterProcess_eq fft ifft s.corr hs sig, abs2Arr_eq, maFilterProcess_eq]
    have hcx : (fftProcess (0 : Cx ℝ) fft ifft s.corr sig).2.size = sig.size := fftProcess_size_frame fft ifft s.corr hs sig hg
    have hpw := maProcess_size s.pow (sig.map Cx.abs2)
    have hnt : ¬ Gen.arrDivRAThrows (Array.map Cx.abs2 (fftProcess (0 : Cx ℝ) fft ifft s.corr sig).2)
        (Gen.arrAddRS (maProcessR s.pow (sig.map Cx.abs2)).2 Detect.eps) := by
      simp [Gen.arrDivRAThrows, Gen.arrAddRS, hcx, hpw]
    rw [if_neg hnt, normCorr_eq _ _ (by rw [hcx, hpw]; simp)]
    have hcs : (normCorr (fftProcess (0 : Cx ℝ) fft ifft s.corr sig).2 (maProcessR s.pow (sig.map Cx.abs2)).2).size = sig.size := by
      simp [normCorr, hcx]
    have hloop := det_loop_eq sig _ hcs (toGenF (fftProcess (0 : Cx ℝ) fft ifft s.corr sig).1) (toGenM (maProcessR s.pow (sig.map Cx.abs2)).1)
      s.thr2 sig.size 0 s.delay (by omega) hd
    simp only [List.drop_zero] at hloop
    simp only [Gen.arrSize, hcs, Int.ofNat_eq_natCast, Int.toNat_natCast, hloop, fftProcessC, Cx.zeroC_eq]
    rcases hscan : scan s.thr2 (sig.toList.zip (normCorr (fftProcess (0 : Cx ℝ) fft ifft s.corr sig).2
      (maProcessR s.pow (sig.map Cx.abs2)).2).toList) 0 s.delay with ⟨d', _ | ⟨k, c⟩⟩
    · simp [mkRes, toGenOut, toGenDet]
    · simp [mkRes, toGenOut, toGenDet, toGenRes]
  · have hg' : (((sig.size % s.frameLen : ℕ) : Int) ≠ 0) := by exact_mod_cast hg
    rw [if_pos hg', if_pos (show sig.size % s.frameLen ≠ 0 from hg)]
    rfl

/-! ## headline theorems of C18 on the generated code -/

theorem detInit_gen_inv (fft : Array (Cx ℝ) → Array (Cx ℝ)) (h : Array (Cx ℝ)) (thr : ℝ) (hm : 1 ≤ h.size) :
    SInv (detInit fft h thr).corr ∧ (detInit fft h thr).delay.idx < (detInit fft h thr).delay.buf.size := by
  refine ⟨?_, ?_⟩
  · have := fftInit_SInv fft (convertImpulse h) (by rw [C18.convertImpulse_size]; exact hm)
    simpa [detInit, fftInitC, Cx.zeroC_eq] using this
  · simp [detInit, CDelay.init]; omega

/-- **C18 / T18.4, first call, from the GENERATED constructor through the GENERATED `process`, library FFT** (`C18.detector_first_call_total`
transported): construct the detector by `Gen.detectorCtor` (with `nextpow2` / `fft(x, n)` instantiated by the models' `nextpow2` and
"zero-pad, then the library transform"), call `Gen.detectorProcess` on a first call of a multiple of `frame_len()` samples.  If the DIRECT
normalised correlation `firCorr` exceeds `threshold²` at the index `e` only, the generated code reports `offset = e`, `score = √firCorr[e]`
and the last `nh` samples of the stream up to and including `e`, oldest first. -/
theorem detector_gen_first_call_total (lit : Fft.Lits ℝ) (hl : C01.LitsOK lit) (np : Int → Int) (fftN : Array (Cx ℝ) → Int → Array (Cx ℝ))
    (hnp : ∀ k : ℕ, np (k : Int) = (nextpow2 k : Int))
    (hfft : ∀ (x : Array (Cx ℝ)) (n : ℕ), x.size ≤ n → fftN x (n : Int) = C18.fftcL lit (zeropad (0 : Cx ℝ) x n))
    (h : Array (Cx ℝ)) (thr : ℝ) (hm : 1 ≤ h.size) (hb : 2 ^ nextpow2 (2 * h.size) < 2 ^ 31) (sig : Array (Cx ℝ))
    (hfl : sig.size % (2 ^ nextpow2 (2 * h.size) + 1 - h.size) = 0) (e : ℕ) (he : e < sig.size)
    (honly : ∀ i, i < sig.size → (thr * thr < C18.firCorr h sig i ↔ i = e)) :
    ∃ g' res, Gen.detectorProcess Detect.eps (C18.fftcL lit) (C18.ifftL lit) (Gen.detectorCtor np fftN h thr) sig = .ok (g', some res) ∧
      res.offset = (e : Int) ∧ res.score = Real.sqrt (C18.firCorr h sig e) ∧ res.preamble.size = h.size ∧
      ∀ j, j < h.size → res.preamble.getD j czero = C18.hist czero (sig.toList.take (e + 1)) (h.size - 1 - j) := by
  obtain ⟨s', r, h1, h2, h3, h4, h5⟩ := C18.detector_first_call_total lit hl h thr hm hb sig hfl e he honly
  obtain ⟨hs, hd⟩ := detInit_gen_inv (C18.fftcL lit) h thr hm
  refine ⟨toGenDet s', toGenRes r, ?_, congrArg Nat.cast h2, h3, h4, h5⟩
  rw [detectorCtor_eq np fftN _ hnp hfft, detectorProcess_eq _ _ _ hs hd sig, h1]
  rfl

/-- **… and nothing is reported when the direct correlation never exceeds** (`C18.detector_first_call_silent_total` transported): the generated
`process` returns `std::nullopt` and the generated delay line is the model's, holding the call's samples -/
theorem detector_gen_first_call_silent_total (lit : Fft.Lits ℝ) (hl : C01.LitsOK lit) (np : Int → Int) (fftN : Array (Cx ℝ) → Int → Array (Cx ℝ))
    (hnp : ∀ k : ℕ, np (k : Int) = (nextpow2 k : Int))
    (hfft : ∀ (x : Array (Cx ℝ)) (n : ℕ), x.size ≤ n → fftN x (n : Int) = C18.fftcL lit (zeropad (0 : Cx ℝ) x n))
    (h : Array (Cx ℝ)) (thr : ℝ) (hm : 1 ≤ h.size) (hb : 2 ^ nextpow2 (2 * h.size) < 2 ^ 31) (sig : Array (Cx ℝ))
    (hfl : sig.size % (2 ^ nextpow2 (2 * h.size) + 1 - h.size) = 0)
    (hnone : ∀ i, i < sig.size → ¬ thr * thr < C18.firCorr h sig i) :
    ∃ s', Gen.detectorProcess Detect.eps (C18.fftcL lit) (C18.ifftL lit) (Gen.detectorCtor np fftN h thr) sig = .ok (toGenDet s', none) ∧
      C18.DInv czero s'.delay h.size sig.toList := by
  obtain ⟨s', h1, h2⟩ := C18.detector_first_call_silent_total lit hl h thr hm hb sig hfl hnone
  obtain ⟨hs, hd⟩ := detInit_gen_inv (C18.fftcL lit) h thr hm
  refine ⟨s', ?_, h2⟩
  rw [detectorCtor_eq np fftN _ hnp hfft, detectorProcess_eq _ _ _ hs hd sig, h1]
  rfl

/-! ### every state, every call -/

theorem sinv_step (fft ifft : Array (Cx ℝ) → Array (Cx ℝ)) (so : FftState (Cx ℝ) × Array (Cx ℝ)) (v : Cx ℝ) (h : SInv so.1) :
    SInv (fftStep (0 : Cx ℝ) fft ifft so v).1 := by
  obtain ⟨h1, h2, h3, h4⟩ := h
  unfold fftStep
  by_cases hw : so.1.nx + 1 = so.1.n
  · simp only [hw, if_true]
    exact ⟨h1, by show 0 < so.1.n; omega, by simp [fftTail], h4⟩
  · simp only [hw, if_false]
    exact ⟨h1, by show so.1.nx + 1 < so.1.n; omega, h3, h4⟩

/-- `FftFilter::process` keeps the structural invariant -/
theorem fftProcess_SInv (fft ifft : Array (Cx ℝ) → Array (Cx ℝ)) (s : FftState (Cx ℝ)) (hs : SInv s) (xs : Array (Cx ℝ)) :
    SInv (fftProcess (0 : Cx ℝ) fft ifft s xs).1 := by
  unfold fftProcess
  exact foldl_getD_induction (0 : Cx ℝ) xs _ _ (fun _ (so : FftState (Cx ℝ) × Array (Cx ℝ)) => SInv so.1) hs
    fun _ _ so h => sinv_step fft ifft so _ h

/-- an accepted call leaves a state inside the domain of the bridge (so the bridge applies to every state a sequence of calls
reaches from the constructor: `detInit_gen_inv`) -/
theorem detProcess_inv (fft ifft : Array (Cx ℝ) → Array (Cx ℝ)) (s : DetState ℝ) (hs : SInv s.corr)
    (hd : s.delay.idx < s.delay.buf.size) (sig : Array (Cx ℝ)) (s' : DetState ℝ) (r : Option (Result ℝ))
    (h : detProcess fft ifft s sig = .ok (s', r)) : SInv s'.corr ∧ s'.delay.idx < s'.delay.buf.size := by
  unfold detProcess at h
  split_ifs at h with hg
  simp only at h
  have h1 : SInv (fftProcessC fft ifft s.corr sig).1 := by
    have := fftProcess_SInv fft ifft s.corr hs sig
    simpa [fftProcessC, Cx.zeroC_eq] using this
  have h2 := scan_dok s.thr2 (sig.toList.zip (normCorr (fftProcessC fft ifft s.corr sig).2 (maProcessR s.pow (sig.map Cx.abs2)).2).toList) 0
    s.delay hd
  split at h <;>
  · injection h with h
    injection h with e1 e2
    subst e1
    exact ⟨h1, h2⟩

/-- **C18 / T18.4 on the generated code: every state, every call** (`C18.detProcess_spec` transported).  For every pair of transforms,
every state of the bridged domain whose delay line holds the last `nh` samples of the stream `S` so far, and every call of a multiple
of `frame_len()` samples: the GENERATED `process` does not throw, and it reports exactly the FIRST index of the call whose normalised
correlation `abs2(cx) / (pwx + eps())` exceeds `threshold²`, with `score = √` of that value and the last `nh` samples of the stream up
to and including that index, oldest first; it reports nothing iff no index exceeds.  The state it leaves is again in the domain. -/
theorem detector_gen_process_spec (fft ifft : Array (Cx ℝ) → Array (Cx ℝ)) (s : DetState ℝ) (sig : Array (Cx ℝ)) (nh : ℕ) (S : List (Cx ℝ))
    (hs : SInv s.corr) (hfl : sig.size % s.frameLen = 0) (hinv : C18.DInv czero s.delay nh S) :
    ∃ s' r, Gen.detectorProcess Detect.eps fft ifft (toGenDet s) sig = .ok (toGenDet s', Option.map toGenRes r) ∧
      SInv s'.corr ∧ s'.thr2 = s.thr2 ∧
      match r with
      | none => (∀ i, i < sig.size → ¬ s.thr2 < (C18.callCorr fft ifft s sig).getD i 0) ∧ C18.DInv czero s'.delay nh (S ++ sig.toList)
      | some res =>
        res.offset < sig.size ∧ s.thr2 < (C18.callCorr fft ifft s sig).getD res.offset 0 ∧
        (∀ j, j < res.offset → ¬ s.thr2 < (C18.callCorr fft ifft s sig).getD j 0) ∧
        res.score = Real.sqrt ((C18.callCorr fft ifft s sig).getD res.offset 0) ∧
        res.preamble.size = nh ∧
        (∀ j, j < nh → res.preamble.getD j czero = C18.hist czero (S ++ sig.toList.take (res.offset + 1)) (nh - 1 - j)) ∧
        C18.DInv czero s'.delay nh (S ++ sig.toList.take (res.offset + 1)) := by
  have hd : s.delay.idx < s.delay.buf.size := by rw [hinv.1]; exact hinv.2.1
  have hsz : (fftProcessC fft ifft s.corr sig).2.size = sig.size := by
    have := fftProcess_size_frame fft ifft s.corr hs sig hfl
    simpa [fftProcessC, Cx.zeroC_eq] using this
  obtain ⟨s', r, h1, _, _, h4, h5⟩ := C18.detProcess_spec fft ifft s sig nh S hfl hinv hsz
  refine ⟨s', r, ?_, (detProcess_inv fft ifft s hs hd sig s' r h1).1, h4, h5⟩
  rw [detectorProcess_eq fft ifft s hs hd sig, h1]
  rfl

/-! ### `reset()` -/

theorem cdelayReset_eq (d : CDelay (Cx ℝ)) : Gen.cdelayReset (toGenD d) = toGenD (CDelay.init czero d.buf.size) := by
  simp [Gen.cdelayReset, toGenD, CDelay.init, Gen.arrFill, gzeroC]

/-- **bridge, `PreambleDetectorImpl::reset()`**, every state of the bridged domain: one frame of zeros through the generated moving
average and (as `process(const arr_real&)`) through the generated correlation filter, the delay line cleared by the generated
`CDelay::reset` — the model's `detReset` -/
theorem detectorReset_eq (fft ifft : Array (Cx ℝ) → Array (Cx ℝ)) (s : DetState ℝ) (hs : SInv s.corr) :
    Gen.detectorReset fft ifft (toGenDet s) = toGenDet (detReset fft ifft s) := by
  have hz : Gen.arrNew (Gen.zeroR : ℝ) ((s.corr.n : ℕ) : Int) = Array.replicate s.corr.n (0 : ℝ) := by
    simp [Gen.arrNew, Gen.zeroR]
  have hc : Gen.arrComplex (Array.replicate s.corr.n (0 : ℝ)) = Array.replicate s.corr.n (czero : Cx ℝ) := by
    rw [arrComplex_eq]; simp [ofRealV, czero]
  simp only [Gen.detectorReset, detReset, toGenDet, Gen.detectorFrameLen, Gen.fftFilterBlockSize, toGenF, DetState.frameLen, hz,
    maFilterProcess_eq, Gen.fftFilterProcessR, hc]
  have := fftFilterProcess_eq fft ifft s.corr hs (Array.replicate s.corr.n (czero : Cx ℝ))
  simp only [toGenF] at this
  rw [this, cdelayReset_eq]
  simp [fftProcessC, Cx.zeroC_eq, zeroR, toGenF]

/-- **a call whose length is not a multiple of `frame_len()` throws** (`C18.detProcess_bad_length` transported), every state of the
bridged domain -/
theorem detector_gen_bad_length (fft ifft : Array (Cx ℝ) → Array (Cx ℝ)) (s : DetState ℝ) (hs : SInv s.corr)
    (hd : s.delay.idx < s.delay.buf.size) (sig : Array (Cx ℝ)) (h : sig.size % s.frameLen ≠ 0) :
    ∃ e, Gen.detectorProcess Detect.eps fft ifft (toGenDet s) sig = .error e := by
  obtain ⟨e, he⟩ := C18.detProcess_bad_length fft ifft s sig h
  exact ⟨e, by rw [detectorProcess_eq fft ifft s hs hd sig, he]; rfl⟩

/-- non-vacuity: the hypotheses on the constructor's two parameters are satisfiable (the models' own `nextpow2` and "zero-pad, then the
library transform") -/
example (lit : Fft.Lits ℝ) :
    (∀ k : ℕ, (fun z : Int => (nextpow2 z.toNat : Int)) (k : Int) = (nextpow2 k : Int)) ∧
    (∀ (x : Array (Cx ℝ)) (n : ℕ), x.size ≤ n →
      (fun x (z : Int) => C18.fftcL lit (zeropad (0 : Cx ℝ) x z.toNat)) x (n : Int) = C18.fftcL lit (zeropad (0 : Cx ℝ) x n)) :=
  ⟨fun k => by simp, fun x n _ => by simp⟩

end
end Dsp.C18Gen
