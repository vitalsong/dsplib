import DspVerif.Model.Hilbert
import DspVerif.Lib.RealFn
import DspVerif.Lib.C07Base
import DspVerif.Lib.C06Array
import DspVerif.Lib.C14Dft
import DspVerif.Props.C07
import DspVerif.Lib.C01Fft
import DspVerif.Lib.Guard
/-!
# C14 — analytic-signal and frequency-translation tools follow their definitions

Exact theorems (ℝ / ℂ, no rounding; the framing theorems for every scalar type) about the functions of `Model/Hilbert.lean` —
the definitions `dspdriver_c14` runs at `Float` against `lib/hilbert.cpp`, `tuner.h`, `delay.h` in the correspondence run.

Every stateful object (`Tuner`, `Delay<T>`, `HilbertFilter`) gets a closed form of one call and a framing theorem (`runFrames_eq`:
any cutting of the stream into `process` calls = one call on the concatenation).  `hilbert` (T14.1, T14.2) is relative to `fft` = DFT
(C01) and `ifft` = inverse DFT (C02) at the one length `n ≥ 3` — hypotheses `IsRealDft n`, `IsIdft n`, satisfiable (`hilbert_exact`);
the mathematical core is `Lib/C14Dft.analytic_re` with the weights `osw` (`osw_pair`).  `IfftPlan::solve` = `conj(fwd(conj(x/n)))` IS
the inverse DFT whenever its forward plan is the DFT (`C01.ifftWith_eq`), so what remains assumed is the forward transform only
(C01): `Props/C14Total.lean`.

Not proved here (measured by the oracle of `harness/c14.cpp`): the 1e-3 quadrature accuracy of the designed filter over its
pass-band, and all rounding.
-/
open Finset Complex
namespace Dsp.C14
open Dsp Dsp.Hilbert Dsp.Cx Dsp.C07

set_option linter.unusedSectionVars false

/-! ## framing combinators -/

section generic
variable {α : Type} [Add α] [Sub α] [Mul α] [Div α] [Neg α] [LT α] [LE α] [Fn α] [OfScientific α]
  [DecidableRel (· < · : α → α → Prop)] [DecidableRel (· ≤ · : α → α → Prop)]

/-- successive `process` calls on a list of frames: final state and the concatenated outputs -/
def runFrames {σ β γ : Type} (step : σ → Array β → σ × Array γ) (s : σ) : List (Array β) → σ × Array γ
  | [] => (s, #[])
  | fr :: rest =>
    let r := step s fr
    let q := runFrames step r.1 rest
    (q.1, r.2 ++ q.2)

/-- the stream the frames are cut from -/
def flatten {β : Type} : List (Array β) → Array β
  | [] => #[]
  | fr :: rest => fr ++ flatten rest

theorem runFrames_eq {σ β γ : Type} (step : σ → Array β → σ × Array γ)
    (hnil : ∀ s, step s #[] = (s, #[]))
    (happ : ∀ s a b, step s (a ++ b) = ((step (step s a).1 b).1, (step s a).2 ++ (step (step s a).1 b).2))
    (s : σ) (frames : List (Array β)) : runFrames step s frames = step s (flatten frames) := by
  induction frames generalizing s with
  | nil => simp [runFrames, flatten, hnil]
  | cons fr rest ih => simp only [runFrames, flatten, happ, ih]

theorem tuner_nil (s : TunerState α) : tunerProcess s #[] = (s, #[]) := by
  simp [tunerProcess]

/-- **T14.5 (framing), every scalar type.** `process(a ++ b)` = `process(a)` then `process(b)`: same outputs, same final state —
the only state is the counter `_phase`. -/
theorem tuner_append (s : TunerState α) (a b : Array (Cx α)) :
    tunerProcess s (a ++ b) = ((tunerProcess (tunerProcess s a).1 b).1, (tunerProcess s a).2 ++ (tunerProcess (tunerProcess s a).1 b).2) :=
  C06A.fold_split_array tunerStep (fun s acc x => by simp [tunerStep]) s a b

/-- **T14.5 (framing).** Any number of calls with any frame lengths (empty frames included) produce the outputs and the final
state of ONE call on the concatenated stream. -/
theorem tuner_frames (s : TunerState α) (frames : List (Array (Cx α))) :
    runFrames tunerProcess s frames = tunerProcess s (flatten frames) :=
  runFrames_eq tunerProcess tuner_nil tuner_append s frames

end generic

/-! ## T14.5 Tuner at ℝ -/

/-- the state after `k` more samples -/
def advance (s : TunerState ℝ) (k : ℕ) : TunerState ℝ :=
  { s with phase := if s.periodic then (s.phase + k) % s.fs else s.phase + k }

theorem succ_mod_wrap (a fs : ℕ) (hfs : 0 < fs) :
    (a + 1) % fs = if fs ≤ a % fs + 1 then 0 else a % fs + 1 := by
  have hlt := Nat.mod_lt a hfs
  rw [← Nat.mod_add_mod]
  split
  · rw [show a % fs + 1 = fs by omega, Nat.mod_self]
  · exact Nat.mod_eq_of_lt (by omega)

theorem advance_zero (s : TunerState ℝ) (hp : s.periodic = true → s.phase < s.fs) : advance s 0 = s := by
  obtain ⟨fs, f, per, ph⟩ := s
  unfold advance
  cases per with
  | false => simp
  | true => simp [Nat.mod_eq_of_lt (hp rfl)]

theorem tunerNext_advance (s : TunerState ℝ) (hfs : 0 < s.fs) (k : ℕ) : tunerNext (advance s k) = advance s (k + 1) := by
  obtain ⟨fs, f, per, ph⟩ := s
  unfold tunerNext advance
  cases per with
  | false => simp; omega
  | true =>
    simp only [if_true, Bool.true_and, decide_eq_true_eq]
    rw [← Nat.add_assoc, succ_mod_wrap _ _ hfs]

/-- the sample loop of `Tuner::process`: output `i` is `x[i]` times the multiplier of the counter advanced `i` times -/
theorem tuner_process_eq (s : TunerState ℝ) (hfs : 0 < s.fs) (hp : s.periodic = true → s.phase < s.fs) (xs : Array (Cx ℝ)) :
    (tunerProcess s xs).1 = advance s xs.size ∧ (tunerProcess s xs).2.size = xs.size ∧
    ∀ i, i < xs.size → (tunerProcess s xs).2.getD i 0 = xs.getD i 0 * tunerMul (advance s i) := by
  unfold tunerProcess
  refine foldl_getD_induction 0 xs tunerStep (s, #[]) (fun i b => b.1 = advance s i ∧ b.2.size = i ∧
      ∀ j, j < i → b.2.getD j 0 = xs.getD j 0 * tunerMul (advance s j))
    ⟨(advance_zero s hp).symm, rfl, fun j hj => absurd hj (Nat.not_lt_zero _)⟩ ?_
  rintro i - ⟨st, out⟩ ⟨h1, h2, h3⟩
  dsimp only at h1 h2 h3
  subst h1
  refine ⟨tunerNext_advance s hfs i, by simp [tunerStep, h2], fun j hj => ?_⟩
  simp only [tunerStep]
  rw [getD_push, h2]
  by_cases hji : j = i
  · rw [if_pos hji, hji]
  · rw [if_neg hji]
    exact h3 j (Nat.lt_of_le_of_ne (Nat.lt_succ_iff.mp hj) hji)

theorem toC_tunerMul (s : TunerState ℝ) :
    toC (tunerMul s) = Complex.exp (((2 * Real.pi * s.freq * (s.phase : ℝ) / (s.fs : ℝ) : ℝ) : ℂ) * I) :=
  Fft.toC_expj _

/-- what the constructor leaves behind when it accepts -/
theorem tunerInit_ok (fs : ℕ) (f : ℝ) (s0 : TunerState ℝ) (h0 : tunerInit fs f = .ok s0) :
    s0 = ⟨fs, f, decide (f ≤ (⌊f⌋ : ℝ) ∧ (⌊f⌋ : ℝ) ≤ f), 0⟩ ∧ |f| ≤ (fs : ℝ) / 2 := by
  obtain ⟨hle, rfl⟩ := ok_guard.mp h0
  exact ⟨rfl, hle⟩

/-- the constructor accepts exactly the frequencies of the closed half band `|f| ≤ fs/2` (REAL division: `Tuner(9, 4.5)` is accepted) -/
theorem tunerInit_accepts (fs : ℕ) (f : ℝ) : (∃ s0, tunerInit fs f = .ok s0) ↔ |f| ≤ (fs : ℝ) / 2 :=
  ⟨fun ⟨s0, h0⟩ => (tunerInit_ok fs f s0 h0).2, fun h => ⟨_, if_pos h⟩⟩

theorem phase_wrap (x fs q r : ℝ) (hfs : fs ≠ 0) : x * (fs * q + r) / fs = x * r / fs + q * x := by
  field_simp
  ring

/-- the phase of an integral frequency is `fs`-periodic in the sample index -/
theorem exp_wrap (fs : ℕ) (hfs : 0 < fs) (m : ℤ) (k : ℕ) :
    Complex.exp (((2 * Real.pi * (m : ℝ) * ((k % fs : ℕ) : ℝ) / (fs : ℝ) : ℝ) : ℂ) * I) =
    Complex.exp (((2 * Real.pi * (m : ℝ) * (k : ℝ) / (fs : ℝ) : ℝ) : ℂ) * I) := by
  have hk : (k : ℝ) = fs * ((k / fs : ℕ) : ℝ) + ((k % fs : ℕ) : ℝ) := by exact_mod_cast (Nat.div_add_mod k fs).symm
  rw [← mul_one (Complex.exp _), ← Complex.exp_int_mul_two_pi_mul_I (m * (k / fs : ℕ)), ← Complex.exp_add, hk,
    phase_wrap _ _ _ _ (by exact_mod_cast hfs.ne')]
  generalize k / fs = q
  generalize k % fs = r
  congr 1
  push_cast
  ring

/-- the multiplier of stream sample `k` after construction: `exp(2πi f k / fs)`, for integral AND non-integral `f` -/
theorem tuner_mul_closed (fs : ℕ) (hfs : 0 < fs) (f : ℝ) (k : ℕ) :
    toC (tunerMul (advance ⟨fs, f, decide (f ≤ (⌊f⌋ : ℝ) ∧ (⌊f⌋ : ℝ) ≤ f), 0⟩ k)) =
      Complex.exp (((2 * Real.pi * f * (k : ℝ) / (fs : ℝ) : ℝ) : ℂ) * I) := by
  rw [toC_tunerMul]
  unfold advance
  by_cases hper : f ≤ (⌊f⌋ : ℝ) ∧ (⌊f⌋ : ℝ) ≤ f
  · have hf : f = (⌊f⌋ : ℝ) := le_antisymm hper.1 hper.2
    simp only [hper, and_self, decide_true, if_true, Nat.zero_add]
    rw [hf]
    exact exp_wrap fs hfs ⌊f⌋ k
  · simp only [hper, decide_false, Bool.false_eq_true, if_false, Nat.zero_add]

/-- one `process` call on the state the constructor leaves -/
theorem tuner_stream (fs : ℕ) (hfs : 0 < fs) (f : ℝ) (s0 : TunerState ℝ) (h0 : tunerInit fs f = .ok s0) (xs : Array (Cx ℝ)) :
    (tunerProcess s0 xs).1 = advance s0 xs.size ∧ (tunerProcess s0 xs).2.size = xs.size ∧
    ∀ k, k < xs.size →
      toC ((tunerProcess s0 xs).2.getD k 0) =
        toC (xs.getD k 0) * Complex.exp (((2 * Real.pi * f * (k : ℝ) / (fs : ℝ) : ℝ) : ℂ) * I) := by
  obtain ⟨rfl, _⟩ := tunerInit_ok fs f s0 h0
  obtain ⟨h1, h2, h3⟩ := tuner_process_eq ⟨fs, f, _, 0⟩ hfs (fun _ => hfs) xs
  exact ⟨h1, h2, fun k hk => by rw [h3 k hk, toC_mul, tuner_mul_closed fs hfs f k]⟩

/-- **T14.5 `tuner_eq`.**  For every sample rate `fs ≥ 1`, EVERY frequency the constructor accepts (integral or not), every stream and
every framing of it into `process` calls (empty frames included): output `k` of the stream is input `k` times
`exp(2πi·f·k/fs)`, for every `k`. -/
theorem tuner_eq (fs : ℕ) (hfs : 0 < fs) (f : ℝ) (s0 : TunerState ℝ) (h0 : tunerInit fs f = .ok s0) (frames : List (Array (Cx ℝ))) :
    (runFrames tunerProcess s0 frames).2.size = (flatten frames).size ∧
    ∀ k, k < (flatten frames).size →
      toC ((runFrames tunerProcess s0 frames).2.getD k 0) =
        toC ((flatten frames).getD k 0) * Complex.exp (((2 * Real.pi * f * (k : ℝ) / (fs : ℝ) : ℝ) : ℂ) * I) := by
  rw [tuner_frames]
  exact (tuner_stream fs hfs f s0 h0 _).2

/-- the state carried to the next call: the counter is `k mod fs` for an integral `f`, `k` otherwise (never reset for a
non-integral `f`, so streams longer than `fs` samples keep the exact phase) -/
theorem tuner_state (fs : ℕ) (hfs : 0 < fs) (f : ℝ) (s0 : TunerState ℝ) (h0 : tunerInit fs f = .ok s0) (frames : List (Array (Cx ℝ))) :
    (runFrames tunerProcess s0 frames).1 = advance s0 (flatten frames).size := by
  rw [tuner_frames]
  exact (tuner_stream fs hfs f s0 h0 _).1


/-! ## `Delay<T>` -/

section delay
variable {β : Type}
theorem delay_size (s : DelayState β) (x : Array β) :
    (delayProcess s x).1.buf.size = s.buf.size ∧ (delayProcess s x).2.size = x.size := by
  unfold delayProcess
  simp only [Array.size_extract, Array.size_append, Nat.min_self, Nat.sub_zero]
  exact ⟨Nat.sub_sub_self (Nat.le_add_right _ _), Nat.min_eq_left (Nat.le_add_left _ _)⟩

/-- `process` cuts `_buffer | x` after `len x` samples; with `delay_size` this determines the call (`delay_unique`) -/
theorem delay_split (s : DelayState β) (x : Array β) :
    (delayProcess s x).2 ++ (delayProcess s x).1.buf = s.buf ++ x := by
  show (s.buf ++ x).extract 0 x.size ++ (s.buf ++ x).extract ((s.buf ++ x).size - s.buf.size) (s.buf ++ x).size = s.buf ++ x
  rw [show (s.buf ++ x).size - s.buf.size = x.size by rw [Array.size_append, Nat.add_sub_cancel_left],
    Array.extract_append_extract, Nat.zero_min, Nat.max_eq_right (by rw [Array.size_append]; exact Nat.le_add_left _ _),
    Array.extract_size]

theorem delay_unique {s : DelayState β} {x : Array β} {p : DelayState β × Array β}
    (h : p.2 ++ p.1.buf = s.buf ++ x) (hs : p.2.size = x.size) : delayProcess s x = p := by
  obtain ⟨e1, e2⟩ := Array.append_inj ((delay_split s x).trans h.symm) ((delay_size s x).2.trans hs.symm)
  exact Prod.ext (congrArg DelayState.mk e2) e1

theorem delay_getD (s : DelayState β) (x : Array β) (z : β) (k : ℕ) (hk : k < x.size) :
    (delayProcess s x).2.getD k z = if k < s.buf.size then s.buf.getD k z else x.getD (k - s.buf.size) z := by
  rw [← getD_append, ← delay_split, getD_append, if_pos (by rw [(delay_size s x).2]; exact hk)]

theorem delay_append (s : DelayState β) (a b : Array β) :
    delayProcess s (a ++ b) =
      ((delayProcess (delayProcess s a).1 b).1, (delayProcess s a).2 ++ (delayProcess (delayProcess s a).1 b).2) :=
  delay_unique (by rw [Array.append_assoc, delay_split, ← Array.append_assoc, delay_split, Array.append_assoc])
    (by rw [Array.size_append, Array.size_append, (delay_size _ _).2, (delay_size _ _).2])

theorem delay_nil (s : DelayState β) : delayProcess s #[] = (s, #[]) :=
  delay_unique (Array.empty_append.trans Array.append_empty.symm) rfl

/-- **`Delay<T>`, framing (every element type).**  Any number of calls with any frame lengths = one call on the concatenation. -/
theorem delay_frames (s : DelayState β) (frames : List (Array β)) :
    runFrames delayProcess s frames = delayProcess s (flatten frames) :=
  runFrames_eq delayProcess delay_nil delay_append s frames

theorem delay_getD_zero (nd : ℕ) (z : β) (x : Array β) (k : ℕ) (hk : k < x.size) :
    (delayProcess (delayInit z nd) x).2.getD k z = if k < nd then z else x.getD (k - nd) z := by
  rw [delay_getD _ _ z k hk, show (delayInit z nd).buf = Array.replicate nd z from rfl, Array.size_replicate, getD_replicate]

/-- **`Delay<T>` from its initial buffer.**  The outputs of the whole stream (any framing) are the first `len` samples of
`initial ++ stream`: the stream delayed by `nd = len initial` samples, the initial contents first. -/
theorem delay_eq (ini : Array β) (z : β) (frames : List (Array β)) (k : ℕ) (hk : k < (flatten frames).size) :
    (runFrames delayProcess (delayInitWith ini) frames).2.size = (flatten frames).size ∧
    (runFrames delayProcess (delayInitWith ini) frames).2.getD k z =
      if k < ini.size then ini.getD k z else (flatten frames).getD (k - ini.size) z := by
  rw [delay_frames]
  exact ⟨(delay_size _ _).2, delay_getD _ _ z k hk⟩

/-- `Delay(int nd)`: `nd` zeros first -/
theorem delay_eq_zero (nd : ℕ) (z : β) (frames : List (Array β)) (k : ℕ) (hk : k < (flatten frames).size) :
    (runFrames delayProcess (delayInit z nd) frames).2.getD k z =
      if k < nd then z else (flatten frames).getD (k - nd) z := by
  rw [delay_frames]
  exact delay_getD_zero nd z _ k hk

/-- `Delay(0)` is rejected at the first `process` (the slice constructor throws), a non-empty buffer never is -/
theorem delayE (s : DelayState β) (x : Array β) :
    (s.buf.size = 0 → ∃ e, delayProcessE s x = .error e) ∧ (0 < s.buf.size → delayProcessE s x = .ok (delayProcess s x)) := by
  exact ⟨fun h => ⟨_, if_pos h⟩, fun h => if_neg h.ne'⟩

end delay

/-! ## T14.1–T14.3 `hilbert` -/

/-- `fft(const arr_real&)` computes the DFT at length `n` (property C01) -/
def IsRealDft (n : ℕ) (fft : Array ℝ → Array (Cx ℝ)) : Prop :=
  ∀ x : Array ℝ, x.size = n → (fft x).size = n ∧
    ∀ k, k < n → toC ((fft x).getD k 0) = dft n (fun m => ((x.getD m 0 : ℝ) : ℂ)) k

/-- `ifft(const arr_cmplx&)` computes the inverse DFT at length `n` (property C02) -/
def IsIdft (n : ℕ) (ifft : Array (Cx ℝ) → Array (Cx ℝ)) : Prop :=
  ∀ X : Array (Cx ℝ), X.size = n → (ifft X).size = n ∧
    ∀ t, t < n → toC ((ifft X).getD t 0) = idft n (fun k => toC (X.getD k 0)) t

/-- the weights `hilbert` applies to the spectrum: 1 at DC and (even `n`) Nyquist, 2 on the positive, 0 on the negative frequencies -/
def osw (n k : ℕ) : ℝ := if k = 0 then 1 else if n % 2 = 0 ∧ k = n / 2 then 1 else if n / 2 < k then 0 else 2

theorem osw_neg (n k : ℕ) (h1 : n / 2 < k) : osw n k = 0 := by
  unfold osw
  rw [if_neg (Nat.zero_lt_of_lt h1).ne', if_neg (fun h => absurd h.2 h1.ne'), if_pos h1]

/-- the weight of bin `k` of `n = k + j` bins compares `k` with its conjugate partner `j` -/
theorem osw_add (k j : ℕ) : osw (k + j) k = if k = 0 then 1 else if k = j then 1 else if j < k then 0 else 2 := by
  have h1 : ((k + j) % 2 = 0 ∧ k = (k + j) / 2) ↔ k = j := by omega
  have h2 : (k + j) / 2 < k ↔ j < k := by omega
  simp only [osw, h1, h2]

/-- every conjugate pair of bins `{k, n-k}` gets total weight 2: DC and Nyquist are their own partners with weight 1 each,
a positive frequency (weight 2) is paired with a negative one (weight 0) -/
theorem osw_pair (n k : ℕ) (hk : k < n) : osw n k + osw n ((n - k) % n) = 2 := by
  rcases Nat.eq_zero_or_pos k with rfl | h0
  · rw [Nat.sub_zero, Nat.mod_self, osw, if_pos rfl]
    exact one_add_one_eq_two
  · obtain ⟨j, rfl⟩ := Nat.exists_eq_add_of_le hk.le
    have hj : j ≠ 0 := by omega
    rw [Nat.add_sub_cancel_left, Nat.mod_eq_of_lt (by omega), osw_add, Nat.add_comm, osw_add, if_neg h0.ne', if_neg hj]
    rcases Nat.lt_trichotomy k j with hc | rfl | hc
    · rw [if_neg hc.ne, if_neg (Nat.lt_asymm hc), if_neg hc.ne', if_pos hc]
      exact add_zero 2
    · rw [if_pos rfl]
      exact one_add_one_eq_two
    · rw [if_neg hc.ne', if_pos hc, if_neg hc.ne, if_neg (Nat.lt_asymm hc)]
      exact zero_add 2

theorem toC_div2_mul2 (z : Cx ℝ) : toC (Cx.divr (Cx.mulr z 2) 2) = toC z := by
  apply Complex.ext <;> simp [Cx.mulr, Cx.divr]

theorem toC_mul2 (z : Cx ℝ) : toC (Cx.mulr z 2) = 2 * toC z := by
  apply Complex.ext <;> simp [Cx.mulr] <;> ring

theorem oneSided_size (n : ℕ) (X : Array (Cx ℝ)) : (oneSided n X).size = n := Array.size_ofFn

theorem toC_oneSided (n : ℕ) (X : Array (Cx ℝ)) (k : ℕ) (hk : k < n) :
    toC ((oneSided n X).getD k 0) = ((osw n k : ℝ) : ℂ) * toC (X.getD k 0) := by
  unfold oneSided osw
  rw [getD_ofFn, dif_pos hk]
  simp only [Cx.zeroC_eq, fn_ofNat, Nat.cast_ofNat, apply_ite toC, toC_div2_mul2, toC_mul2, Cx.toC_zero,
    apply_ite Complex.ofReal, ite_mul, Complex.ofReal_one, Complex.ofReal_zero, Complex.ofReal_ofNat, one_mul, zero_mul]

noncomputable def seqR (x : Array ℝ) : ℕ → ℂ := fun m => ((x.getD m 0 : ℝ) : ℂ)
noncomputable def seqC (y : Array (Cx ℝ)) : ℕ → ℂ := fun t => toC (y.getD t 0)

theorem hilbert_err (fft : Array ℝ → Array (Cx ℝ)) (ifft : Array (Cx ℝ) → Array (Cx ℝ)) (x : Array ℝ) (h : x.size < 3) :
    ∃ e, hilbert fft ifft x = .error e :=
  ⟨_, if_pos h⟩

/-- T14.1 and T14.2 for the ONE returned array: the real part by `analytic_re` with the weights `osw`, the spectrum by
`dft ∘ idft = id` -/
theorem hilbert_all (n : ℕ) (h3 : 3 ≤ n) (fft : Array ℝ → Array (Cx ℝ)) (ifft : Array (Cx ℝ) → Array (Cx ℝ))
    (hfft : IsRealDft n fft) (hifft : IsIdft n ifft) (x : Array ℝ) (hx : x.size = n) :
    ∃ y, hilbert fft ifft x = .ok y ∧ y.size = n ∧ (∀ t, t < n → (y.getD t 0).re = x.getD t 0) ∧
      ∀ k, k < n → dft n (seqC y) k = ((osw n k : ℝ) : ℂ) * dft n (seqR x) k := by
  subst hx
  have hn : 0 < x.size := Nat.zero_lt_of_lt h3
  obtain ⟨hsz, hval⟩ := hifft _ (oneSided_size x.size (fft x))
  have hv : ∀ t, t < x.size → seqC (ifft (oneSided x.size (fft x))) t =
      idft x.size (fun k => ((osw x.size k : ℝ) : ℂ) * dft x.size (seqR x) k) t := fun t ht =>
    (hval t ht).trans (idft_congr _ _ _ (fun k hk => by rw [toC_oneSided _ _ k hk, (hfft x rfl).2 k hk]; rfl) t)
  refine ⟨_, if_neg (Nat.not_lt.mpr h3), hsz, fun t ht => ?_, fun k hk => ?_⟩
  · exact (congrArg Complex.re (hv t ht)).trans
      (analytic_re x.size hn (fun m => x.getD m 0) (osw x.size) (osw_pair x.size) t ht)
  · rw [dft_congr _ _ _ hv k, dft_idft _ hn _ k hk]

/-- **T14.1 `hilbert_re`.**  For every `n ≥ 3` and every real `x` of length `n`: `re(hilbert(x))[t] = x[t]` (given `fft` = DFT and
`ifft` = inverse DFT at length `n`). -/
theorem hilbert_re (n : ℕ) (h3 : 3 ≤ n) (fft : Array ℝ → Array (Cx ℝ)) (ifft : Array (Cx ℝ) → Array (Cx ℝ))
    (hfft : IsRealDft n fft) (hifft : IsIdft n ifft) (x : Array ℝ) (hx : x.size = n) :
    ∃ y, hilbert fft ifft x = .ok y ∧ y.size = n ∧ ∀ t, t < n → (y.getD t 0).re = x.getD t 0 :=
  let ⟨y, hy, hs, hre, _⟩ := hilbert_all n h3 fft ifft hfft hifft x hx
  ⟨y, hy, hs, hre⟩

/-- **T14.2 (full form).**  The spectrum of `hilbert(x)` is the spectrum of `x` with DC (and Nyquist) kept, the positive
frequencies doubled and the negative frequencies removed. -/
theorem hilbert_spectrum (n : ℕ) (h3 : 3 ≤ n) (fft : Array ℝ → Array (Cx ℝ)) (ifft : Array (Cx ℝ) → Array (Cx ℝ))
    (hfft : IsRealDft n fft) (hifft : IsIdft n ifft) (x : Array ℝ) (hx : x.size = n) :
    ∃ y, hilbert fft ifft x = .ok y ∧ ∀ k, k < n → dft n (seqC y) k = ((osw n k : ℝ) : ℂ) * dft n (seqR x) k :=
  let ⟨y, hy, _, _, hsp⟩ := hilbert_all n h3 fft ifft hfft hifft x hx
  ⟨y, hy, hsp⟩

theorem osw_onesided {n : ℕ} {Y X : ℕ → ℂ} (h : ∀ k, k < n → Y k = ((osw n k : ℝ) : ℂ) * X k) (k : ℕ) (h1 : n / 2 < k)
    (h2 : k < n) : Y k = 0 := by
  rw [h k h2, osw_neg n k h1, Complex.ofReal_zero, zero_mul]

/-- **T14.2 `hilbert_onesided`.**  For every `n ≥ 3`: the discrete spectrum of `hilbert(x)` vanishes on the negative-frequency
bins `n/2 < k < n`. -/
theorem hilbert_onesided (n : ℕ) (h3 : 3 ≤ n) (fft : Array ℝ → Array (Cx ℝ)) (ifft : Array (Cx ℝ) → Array (Cx ℝ))
    (hfft : IsRealDft n fft) (hifft : IsIdft n ifft) (x : Array ℝ) (hx : x.size = n) :
    ∃ y, hilbert fft ifft x = .ok y ∧ ∀ k, n / 2 < k → k < n → dft n (seqC y) k = 0 :=
  let ⟨y, hy, hv⟩ := hilbert_spectrum n h3 fft ifft hfft hifft x hx
  ⟨y, hy, osw_onesided hv⟩

/-! ### T14.3 -/
section padtrunc
variable {α : Type} [Add α] [Sub α] [Mul α] [Div α] [Neg α] [LT α] [LE α] [Fn α] [OfScientific α]
  [DecidableRel (· < · : α → α → Prop)] [DecidableRel (· ≤ · : α → α → Prop)]

/-- `padTrunc x n` is the array of `n` cells that reads like `x` (`getD` already gives the padding value past the end) -/
theorem eq_padTrunc (x y : Array α) (n : ℕ) (hs : y.size = n) (hv : ∀ i, i < n → y.getD i zeroR = x.getD i zeroR) :
    y = padTrunc x n := by
  refine ext_getD zeroR _ _ (hs.trans Array.size_ofFn.symm) fun i hi => ?_
  rw [hs] at hi
  rw [hv i hi, padTrunc, getD_ofFn, dif_pos hi]
  by_cases h : i < x.size
  · rw [if_pos h]
  · rw [if_neg h, getD_of_ge _ _ _ (Nat.not_lt.mp h)]

/-- **T14.3 `hilbert_n`, every scalar type.**  `hilbert(x, n)` is `hilbert` of `x` padded with zeros or truncated to `n` samples
— including the cases in which it throws (`n < 3`). -/
theorem hilbertN_eq (fft : Array α → Array (Cx α)) (ifft : Array (Cx α) → Array (Cx α)) (x : Array α) (n : ℕ) :
    hilbertN fft ifft x n = hilbert fft ifft (padTrunc x n) := by
  unfold hilbertN
  by_cases h1 : x.size < n
  · rw [if_pos h1]
    refine congrArg _ (eq_padTrunc x _ n (by rw [Array.size_append, Array.size_replicate, Nat.add_sub_cancel' h1.le]) fun i _ => ?_)
    rw [getD_append]
    by_cases h : i < x.size
    · rw [if_pos h]
    · rw [if_neg h, getD_replicate, getD_of_ge _ _ _ (Nat.not_lt.mp h)]
  rw [if_neg h1]
  by_cases h2 : n < x.size
  · rw [if_pos h2]
    refine congrArg _ (eq_padTrunc x _ n (by rw [Array.size_extract, Nat.min_eq_left h2.le, Nat.sub_zero]) fun i hi => ?_)
    rw [getD_extract _ _ _ _ _ h2.le, if_pos ((Nat.sub_zero n).symm ▸ hi), Nat.zero_add]
  · rw [if_neg h2]
    exact congrArg _ (eq_padTrunc x x n (Nat.le_antisymm (Nat.not_lt.mp h2) (Nat.not_lt.mp h1)) fun _ _ => rfl)
end padtrunc

/-! ### the hypotheses are satisfiable: the exact transform pair -/

noncomputable def ofC (z : ℂ) : Cx ℝ := ⟨z.re, z.im⟩
theorem toC_ofC (z : ℂ) : toC (ofC z) = z := by apply Complex.ext <;> rfl

/-- the exact DFT as an `fft(const arr_real&)` -/
noncomputable def dftExact (x : Array ℝ) : Array (Cx ℝ) := Array.ofFn (n := x.size) fun k => ofC (dft x.size (seqR x) k.val)
/-- the exact inverse DFT as an `ifft(const arr_cmplx&)` -/
noncomputable def idftExact (X : Array (Cx ℝ)) : Array (Cx ℝ) := Array.ofFn (n := X.size) fun t => ofC (idft X.size (seqC X) t.val)

theorem toC_ofFn_ofC (n : ℕ) (g : ℕ → ℂ) (k : ℕ) (hk : k < n) :
    toC ((Array.ofFn (n := n) fun i => ofC (g i.val)).getD k 0) = g k := by
  rw [getD_ofFn, dif_pos hk, toC_ofC]

theorem isRealDft_exact (n : ℕ) : IsRealDft n dftExact := fun x hx =>
  hx ▸ ⟨Array.size_ofFn, toC_ofFn_ofC x.size _⟩

theorem isIdft_exact (n : ℕ) : IsIdft n idftExact := fun X hX =>
  hX ▸ ⟨Array.size_ofFn, toC_ofFn_ofC X.size _⟩

/-- **T14.1 + T14.2 for the exact transform pair** (the hypotheses of `hilbert_re` / `hilbert_onesided` are satisfiable, and with
them discharged): for every real `x` of length `n ≥ 3`, `hilbert` with `fft` = DFT, `ifft` = inverse DFT returns a signal whose
real part is `x` and whose spectrum vanishes on the negative-frequency bins. -/
theorem hilbert_exact (x : Array ℝ) (h3 : 3 ≤ x.size) :
    ∃ y, hilbert dftExact idftExact x = .ok y ∧ y.size = x.size ∧
      (∀ t, t < x.size → (y.getD t 0).re = x.getD t 0) ∧
      (∀ k, x.size / 2 < k → k < x.size → dft x.size (seqC y) k = 0) := by
  obtain ⟨y, hy, hs, hre, hsp⟩ := hilbert_all x.size h3 _ _ (isRealDft_exact _) (isIdft_exact _) x rfl
  exact ⟨y, hy, hs, hre, osw_onesided hsp⟩


/-! ## T14.4 `HilbertFilter` -/

/-- the decision chain of `firtype` on its four tests: the answer 3 needs the odd-length test to succeed -/
theorem firtype_chain (odd sym asym mid : Bool)
    (h : (if (odd && sym) = true then 1 else if (!odd && sym) = true then 2 else if (odd && asym && mid) = true then 3
      else if (!odd && asym) = true then 4 else 0) = 3) : odd = true := by
  cases odd
  · cases sym <;> cases asym <;> cases h
  · rfl

/-- `firtype(h) == EvenAntiSym` forces an odd number of taps, at least 3 -/
theorem firtype_three (l : List ℝ) (h : Window.firtype l = 3) : l.length % 2 = 1 ∧ 3 ≤ l.length := by
  unfold Window.firtype at h
  by_cases h1 : l.length = 1
  · rw [if_pos h1] at h
    cases h
  · rw [if_neg h1] at h
    have := firtype_chain _ _ _ _ h
    rw [beq_iff_eq] at this
    omega

theorem hfInit_ok (h : Array ℝ) (s : HfState ℝ) (hs : hfInit h = .ok s) :
    s = ⟨Fir.firInitR h, delayInit 0 (h.size / 2)⟩ ∧ h.size % 2 = 1 ∧ 3 ≤ h.size := by
  obtain ⟨h3, rfl⟩ := ok_guard.mp hs
  exact ⟨congrArg (fun z => HfState.mk (Fir.firInitR h) (delayInit z (h.size / 2))) Cx.zeroR_eq, firtype_three _ h3⟩

theorem hf_size (s : HfState ℝ) (x : Array ℝ) : (hfProcess s x).2.size = x.size := by simp [hfProcess]

theorem hf_getD (s : HfState ℝ) (x : Array ℝ) (i : ℕ) (hi : i < x.size) :
    (hfProcess s x).2.getD i 0 = ⟨(delayProcess s.d x).2.getD i 0, (Fir.process 0 id s.fir x).2.getD i 0⟩ := by
  unfold hfProcess
  simp only [Fir.firProcessR, Cx.zeroR_eq]
  rw [getD_ofFn, dif_pos hi]

/-- framing of `HilbertFilter::process`: outputs of `a` then `b` = outputs of `a ++ b` -/
theorem hf_append (s : HfState ℝ) (X a b : Array ℝ) (hs : Hist s.fir X) (hh : 1 ≤ s.fir.h.size) :
    (hfProcess s (a ++ b)).2 = (hfProcess s a).2 ++ (hfProcess (hfProcess s a).1 b).2 := by
  apply ext_getD 0
  · simp [hf_size]
  · intro i hi
    rw [hf_size, Array.size_append] at hi
    rw [hf_getD _ _ _ (by rw [Array.size_append]; exact hi), getD_append, hf_size, delay_append, fir_append id s.fir X a b hs hh,
      getD_append, getD_append, (delay_size s.d a).2, (fir_step id s.fir X a hs hh).2.2.1]
    by_cases hia : i < a.size
    · rw [if_pos hia, if_pos hia, if_pos hia, hf_getD _ _ _ hia]
    · rw [if_neg hia, if_neg hia, if_neg hia, hf_getD _ _ _ (Nat.sub_lt_left_of_lt_add (Nat.not_lt.mp hia) hi)]
      simp only [hfProcess, Fir.firProcessR, Cx.zeroR_eq]

theorem hf_frames (frames : List (Array ℝ)) : ∀ (s : HfState ℝ) (X : Array ℝ), Hist s.fir X → 1 ≤ s.fir.h.size →
    (runFrames hfProcess s frames).2 = (hfProcess s (flatten frames)).2 := by
  induction frames with
  | nil =>
    intro s X _ _
    exact (Array.eq_empty_of_size_eq_zero (hf_size s #[])).symm
  | cons fr rest ih =>
    intro s X hs hh
    obtain ⟨h1, h2, _⟩ := fir_step id s.fir X fr hs hh
    have hf : (hfProcess s fr).1.fir = (Fir.process 0 id s.fir fr).1 := by
      simp only [hfProcess, Fir.firProcessR, Cx.zeroR_eq]
    simp only [runFrames, flatten]
    rw [ih _ (X ++ fr) (hf ▸ h2) (by rw [hf, h1]; exact hh), hf_append s X fr (flatten rest) hs hh]

/-- **T14.4 `HilbertFilter` structure.**  For every accepted tap vector `h` (`M = len h`, odd, `≥ 3`), every input stream and every
framing of it into `process` calls: output `k` has real part `x[k - M/2]` (zero while `k < M/2`: the input delayed by the group
delay `M/2`) and imaginary part `Σ_{j ≤ k} h[j]·x[k-j]` (the FIR filter with taps `h`, started from rest). -/
theorem hf_eq (h : Array ℝ) (s0 : HfState ℝ) (hs : hfInit h = .ok s0) (frames : List (Array ℝ)) :
    (runFrames hfProcess s0 frames).2.size = (flatten frames).size ∧
    ∀ k, k < (flatten frames).size →
      ((runFrames hfProcess s0 frames).2.getD k 0).re = (if k < h.size / 2 then 0 else (flatten frames).getD (k - h.size / 2) 0) ∧
      ((runFrames hfProcess s0 frames).2.getD k 0).im =
        ∑ j ∈ range h.size, if j ≤ k then h.getD j 0 * (flatten frames).getD (k - j) 0 else 0 := by
  obtain ⟨rfl, _, h3⟩ := hfInit_ok h s0 hs
  have hh : 1 ≤ h.size := Nat.one_le_of_lt h3
  have hH : Hist (Fir.firInitR h) #[] := by
    rw [Fir.firInitR, Cx.zeroR_eq]
    exact hist_init h
  rw [hf_frames frames _ #[] hH hh]
  refine ⟨hf_size _ _, fun k hk => ?_⟩
  rw [hf_getD _ _ _ hk]
  dsimp only
  constructor
  · exact delay_getD_zero (h.size / 2) 0 _ k hk
  · have := (fir_eq_real h (flatten frames) hh).2 k hk
    simpa only [Fir.firProcessR, Fir.firInitR, Cx.zeroR_eq] using this

/-- `(int) v` on the reals: truncation towards zero -/
noncomputable instance : Hilbert.Trunc ℝ := ⟨fun v => if 0 ≤ v then ⌊v⌋ else ⌈v⌉⟩

/-- the causal shift at the end of `design_fir`: the last `M/2` and the first `(M+1)/2` of `N ≥ M` samples are `M` samples -/
theorem size_wrap {γ : Type} (hw : Array γ) (N M : ℕ) (hs : hw.size = N) (hM : M ≤ N) :
    (hw.extract (N - M / 2) N ++ hw.extract 0 ((M + 1) / 2)).size = M := by
  have ha : M / 2 ≤ N := (Nat.div_le_self M 2).trans hM
  have hb : (M + 1) / 2 ≤ N := by omega
  rw [Array.size_append, Array.size_extract, Array.size_extract, hs, Nat.min_self, Nat.sub_sub_self ha, Nat.min_eq_left hb,
    Nat.sub_zero]
  omega

/-- `design_fir(flen, fs, f1)` returns `M = flen | 1` taps (an odd number), whatever `ifft` is -/
theorem designFir_size (ifft : Array (Cx ℝ) → Array (Cx ℝ)) (flen : ℕ) (fs f1 : ℝ) (hh : Array (Cx ℝ))
    (h : designFir ifft flen fs f1 = .ok hh) : hh.size = (if flen % 2 = 0 then flen + 1 else flen) ∧ hh.size % 2 = 1 := by
  have hs : hh.size = (if flen % 2 = 0 then flen + 1 else flen) := by
    rw [← Except.ok.inj (guard_ok.mp h).2]
    exact size_wrap _ _ _ Array.size_ofFn ((Nat.le_mul_of_pos_left _ (by decide)).trans (le_two_pow_nextpow2 _))
  refine ⟨hs, ?_⟩
  rw [hs]
  split <;> omega


/-! ## non-vacuity -/

example : ∃ s0, tunerInit 9 (4.5 : ℝ) = .ok s0 := (tunerInit_accepts 9 4.5).2 (by norm_num [abs_of_nonneg])
example : ¬ ∃ s0, tunerInit 9 (4.75 : ℝ) = .ok s0 := fun h => by
  have := (tunerInit_accepts 9 4.75).1 h
  norm_num [abs_of_nonneg] at this
example : osw 6 0 = 1 ∧ osw 6 2 = 2 ∧ osw 6 3 = 1 ∧ osw 6 4 = 0 ∧ osw 5 2 = 2 ∧ osw 5 3 = 0 := by norm_num [osw]

theorem firtype_taps3 : Window.firtype ((#[1, 0, -1] : Array ℝ).toList) = 3 := by
  norm_num [Window.firtype, Window.isSymmetric, Window.isAntisymmetric, Window.equal, Window.eps]

example : ∃ s, hfInit (#[1, 0, -1] : Array ℝ) = .ok s := ⟨_, if_pos firtype_taps3⟩

end Dsp.C14
