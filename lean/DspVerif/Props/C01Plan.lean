import DspVerif.Props.C01
import DspVerif.Props.C15
/-!
# C01 component: the factor tree of `PlanTree(n)` (`lib/fft/fact-fft.cpp`) is well formed for every length

`mkPlan_wf`: for every `2 ≤ n < 2^31` (every `int` length) `mkPlan 32 n` is well formed, has size `n`, and every leaf is a
length the library treats as a power of two or a prime — hypothesis `hfac` of `fftC_eq_partial` once the leaf solvers are DFTs.
Sortedness of the factor list is not needed, only that sorting permutes; `splitP` is `fac[0]` or satisfies `P² ≤ n`.
-/
namespace Dsp.C01
open Dsp Dsp.Fft Dsp.Primes Dsp.Lru

/-! ## insertion sort is a permutation -/

theorem insertSorted_perm (a : ℕ) : ∀ l : List ℕ, (insertSorted a l).Perm (a :: l)
  | [] => by simp [insertSorted]
  | b :: l => by
    unfold insertSorted
    split
    · exact List.Perm.refl _
    · exact ((insertSorted_perm a l).cons b).trans (List.Perm.swap a b l)

theorem sortNat_perm : ∀ l : List ℕ, (sortNat l).Perm l
  | [] => by simp [sortNat]
  | a :: l => by
    have h : sortNat (a :: l) = insertSorted a (sortNat l) := rfl
    rw [h]
    exact (insertSorted_perm a _).trans ((sortNat_perm l).cons a)

/-! ## the halving loop of `PlanTree::_factor` -/

/-- one step of the loop -/
def halve (m _i : ℕ) : ℕ := if m % 2 == 0 ∧ m > 0 then m / 2 else m

theorem halve_odd (m i : ℕ) (h : m % 2 = 1) : halve m i = m :=
  if_neg fun ⟨h1, _⟩ => by rw [beq_iff_eq] at h1; omega

theorem halve_even (m i : ℕ) (h0 : 0 < m) (h : m % 2 = 0) : halve m i = m / 2 :=
  if_pos ⟨by rw [beq_iff_eq]; exact h, h0⟩

theorem oddLoop_of_odd : ∀ (l : List ℕ) (m : ℕ), m % 2 = 1 → l.foldl halve m = m
  | [], _, _ => rfl
  | _ :: l, m, h => by rw [List.foldl_cons, halve_odd m _ h]; exact oddLoop_of_odd l m h

/-- as long as the step count covers the bit length, the loop ends on the odd part of `m` -/
theorem oddLoop_spec : ∀ (l : List ℕ) (m : ℕ), 0 < m → m < 2 ^ l.length →
    (l.foldl halve m) % 2 = 1 ∧ ∃ k, m = 2 ^ k * (l.foldl halve m)
  | [], m, h0, h => absurd h (not_lt.mpr h0)
  | a :: l, m, h0, h => by
    rcases Nat.mod_two_eq_zero_or_one m with he | hodd
    · rw [List.foldl_cons, halve_even m a h0 he]
      rw [List.length_cons, pow_succ] at h
      have hd : m / 2 * 2 = m := Nat.div_mul_cancel (Nat.dvd_of_mod_eq_zero he)
      obtain ⟨h1, k, hk⟩ := oddLoop_spec l (m / 2) (Nat.div_pos (Nat.le_of_dvd h0 (Nat.dvd_of_mod_eq_zero he)) two_pos)
        (Nat.div_lt_of_lt_mul (Nat.mul_comm _ 2 ▸ h))
      exact ⟨h1, k + 1, by rw [pow_succ, Nat.mul_right_comm, ← hk, hd]⟩
    · rw [oddLoop_of_odd _ m hodd]
      exact ⟨hodd, 0, by simp⟩

/-! ## `PlanTree::_factor` -/

/-- `treeFactors n` for every `int` length `n ≥ 2`: the entries multiply to `n`, each is `≥ 2` and is a power of two
    or a prime, and there is a single entry only when `n` itself is a power of two or a prime -/
theorem treeFactors_spec_math (n : ℕ) (h2 : 2 ≤ n) (hlt : n < 2 ^ 31) :
    (treeFactors n).prod = n ∧
    (∀ f ∈ treeFactors n, 2 ≤ f ∧ ((∃ k, f = 2 ^ k) ∨ Nat.Prime f)) ∧
    ((treeFactors n).length = 1 → (∃ k, n = 2 ^ k) ∨ Nat.Prime n) := by
  obtain ⟨hodd, k, hk⟩ := oddLoop_spec (List.range 32) n (lt_of_lt_of_le two_pos h2)
    (by rw [List.length_range]; exact lt_trans hlt (by norm_num))
  simp only [treeFactors, show (fun (m _ : ℕ) => if m % 2 == 0 ∧ m > 0 then m / 2 else m) = halve from rfl]
  rw [(sortNat_perm _).prod_eq, (sortNat_perm _).length_eq]
  simp only [(sortNat_perm _).mem_iff]
  generalize (List.range 32).foldl halve n = odd at *
  have hopos : 0 < odd := Nat.pos_of_ne_zero fun h => by rw [h] at hodd; exact absurd hodd (by decide)
  have hole : odd ≤ n := by
    rw [hk]; exact Nat.le_mul_of_pos_left _ (Nat.two_pow_pos k)
  have hdiv : n / odd = 2 ^ k := by rw [hk]; exact Nat.mul_div_cancel _ hopos
  -- the power-of-two component is present exactly when `k ≠ 0`
  generalize hA : (if (odd != n) = true then [n / odd] else []) = A
  have hA' : A = [] ∧ k = 0 ∨ A = [2 ^ k] ∧ k ≠ 0 := by
    by_cases hk0 : k = 0
    · have hon : odd = n := by rw [hk, hk0]; simp
      exact Or.inl ⟨by rw [← hA, hon]; simp, hk0⟩
    · have hne : odd ≠ n := by
        intro h
        have : 2 * odd ≤ 2 ^ k * odd := Nat.mul_le_mul_right _ (Nat.le_self_pow hk0 2)
        omega
      exact Or.inr ⟨by rw [← hA, hdiv, if_pos (bne_iff_ne.mpr hne)], hk0⟩
  -- the odd component: the prime factors of `odd`, none only when `odd = 1`
  generalize hB : (if (odd == 1) = true then [] else factor odd) = B
  have hB' : B.prod = odd ∧ (∀ f ∈ B, Nat.Prime f) ∧ (B = [] → odd = 1) := by
    by_cases ho1 : odd = 1
    · rw [← hB, if_pos (beq_iff_eq.mpr ho1)]
      exact ⟨by rw [ho1]; rfl, fun f hf => absurd hf List.not_mem_nil, fun _ => ho1⟩
    · obtain ⟨fp, _, fprod⟩ := C15.factor_spec odd (by omega) (lt_of_le_of_lt hole (lt_trans hlt (by norm_num)))
      rw [← hB, if_neg (by rw [beq_iff_eq]; exact ho1)]
      refine ⟨fprod, fp, fun h => ?_⟩
      rw [h] at fprod
      exact absurd fprod.symm ho1
  obtain ⟨bprod, bprime, bnil⟩ := hB'
  refine ⟨?_, fun f hf => ?_, fun hl => ?_⟩
  · rw [List.prod_append, bprod, hk]
    rcases hA' with ⟨rfl, rfl⟩ | ⟨rfl, _⟩ <;> simp
  · rcases List.mem_append.mp hf with hf | hf
    · rcases hA' with ⟨rfl, _⟩ | ⟨rfl, hk0⟩
      · exact absurd hf List.not_mem_nil
      · rw [List.mem_singleton.mp hf]
        exact ⟨Nat.le_self_pow hk0 2, Or.inl ⟨k, rfl⟩⟩
    · exact ⟨(bprime f hf).two_le, Or.inr (bprime f hf)⟩
  · rw [List.length_append] at hl
    rcases hA' with ⟨rfl, rfl⟩ | ⟨rfl, _⟩
    · -- `n` is odd and has one prime factor
      obtain ⟨p, rfl⟩ := List.length_eq_one_iff.mp (by simpa using hl)
      have : p = n := by rw [hk, ← bprod]; simp
      exact Or.inr (this ▸ bprime p (by simp))
    · -- no odd factor: `n = 2^k`
      have : odd = 1 := bnil (List.length_eq_zero_iff.mp (by simpa using hl))
      exact Or.inl ⟨k, by rw [hk, this, Nat.mul_one]⟩

/-- the same in terms of the library's own tests `ispow2` / `isprime` (C15: they are exact below `2^31`) -/
theorem treeFactors_spec (n : ℕ) (h2 : 2 ≤ n) (hlt : n < 2 ^ 31) :
    (treeFactors n).prod = n ∧
    (∀ f ∈ treeFactors n, 2 ≤ f ∧ f ≤ n ∧ (ispow2 f = true ∨ isprime f = true)) ∧
    ((treeFactors n).length = 1 → ispow2 n = true ∨ isprime n = true) := by
  obtain ⟨hprod, hmem, hlen⟩ := treeFactors_spec_math n h2 hlt
  have conv : ∀ f, 2 ≤ f → f ≤ n → ((∃ k, f = 2 ^ k) ∨ Nat.Prime f) → (ispow2 f = true ∨ isprime f = true) := by
    intro f hf2 hfn h
    rcases h with h | h
    · exact Or.inl ((C15.ispow2_iff f (by omega) (by omega)).mpr h)
    · exact Or.inr ((C15.isprime_iff f (lt_of_le_of_lt hfn (lt_trans hlt (by norm_num)))).mpr h)
  refine ⟨hprod, ?_, fun hl => conv n h2 le_rfl (hlen hl)⟩
  intro f hf
  obtain ⟨hf2, hfk⟩ := hmem f hf
  have hfn : f ≤ n := by
    have : f ∣ n := by rw [← hprod]; exact List.dvd_prod hf
    exact Nat.le_of_dvd (by omega) this
  exact ⟨hf2, hfn, conv f hf2 hfn hfk⟩

/-! ## the split `P` -/

/-- one step of the accumulation loop of `PlanTree(n)`: the flag records the `break` -/
def splitStep (n : ℕ) (acc : ℕ × Bool) (f : ℕ) : ℕ × Bool :=
  if acc.2 then acc else if (acc.1 * f) * (acc.1 * f) > n then (acc.1, true) else (acc.1 * f, false)

theorem splitStep_cases (n P f : ℕ) (b : Bool) :
    splitStep n (P, b) f = (P, true) ∨ splitStep n (P, b) f = (P * f, false) ∧ (P * f) * (P * f) ≤ n := by
  cases b
  · by_cases hc : (P * f) * (P * f) > n
    · exact Or.inl (by simp only [splitStep, Bool.false_eq_true, if_false, if_pos hc])
    · exact Or.inr ⟨by simp only [splitStep, Bool.false_eq_true, if_false, if_neg hc], Nat.le_of_not_lt hc⟩
  · exact Or.inl rfl

/-- the accumulation loop of `PlanTree(n)`: the result is a multiple of the start value, divides the product of
    everything offered, and either is the start value or passed the test `P² ≤ n` -/
theorem splitLoop_spec (n : ℕ) : ∀ (rest : List ℕ) (P : ℕ) (b : Bool),
    P ∣ (rest.foldl (splitStep n) (P, b)).1 ∧ (rest.foldl (splitStep n) (P, b)).1 ∣ P * rest.prod ∧
    ((rest.foldl (splitStep n) (P, b)).1 = P ∨
      (rest.foldl (splitStep n) (P, b)).1 * (rest.foldl (splitStep n) (P, b)).1 ≤ n)
  | [], P, b => by simp
  | f :: rest, P, b => by
    rw [List.foldl_cons, List.prod_cons]
    rcases splitStep_cases n P f b with e | ⟨e, hc⟩ <;> rw [e]
    · obtain ⟨a1, a2, a3⟩ := splitLoop_spec n rest P true
      exact ⟨a1, a2.trans ⟨f, by ring⟩, a3⟩
    · obtain ⟨a1, a2, a3⟩ := splitLoop_spec n rest (P * f) false
      refine ⟨(Dvd.intro _ rfl).trans a1, by rw [← Nat.mul_assoc]; exact a2, Or.inr ?_⟩
      rcases a3 with a3 | a3
      · rw [a3]; exact hc
      · exact a3

/-- the split of `PlanTree(n)`: whenever the factor list has at least two entries (all `≥ 2`, product `n`),
    `P` is a proper divisor of `n` with `2 ≤ P` -/
theorem splitP_spec (n : ℕ) (fac : List ℕ) (hprod : fac.prod = n) (hge : ∀ f ∈ fac, 2 ≤ f) (hlen : 2 ≤ fac.length) :
    2 ≤ splitP n fac ∧ splitP n fac < n ∧ splitP n fac ∣ n := by
  match fac, hlen with
  | f0 :: f1 :: rest, _ =>
    have hf0 : 2 ≤ f0 := hge f0 (by simp)
    have hf1 : 2 ≤ f1 := hge f1 (by simp)
    have hrest : 0 < rest.prod := List.prod_pos (fun a ha => by have := hge a (by simp [ha]); omega)
    have hn : n = f0 * (f1 * rest.prod) := by rw [← hprod]; simp
    have hr2 : 2 ≤ f1 * rest.prod := by
      calc 2 ≤ f1 := hf1
        _ = f1 * 1 := (Nat.mul_one _).symm
        _ ≤ f1 * rest.prod := Nat.mul_le_mul_left _ hrest
    have hnpos : 0 < n := by rw [hn]; exact Nat.mul_pos (by omega) (by omega)
    have hf0n : f0 < n := by
      rw [hn]
      calc f0 < f0 * 2 := by omega
        _ ≤ f0 * (f1 * rest.prod) := Nat.mul_le_mul_left _ hr2
    obtain ⟨a1, a2, a3⟩ := splitLoop_spec n (f1 :: rest) f0 false
    have hP : splitP n (f0 :: f1 :: rest) = ((f1 :: rest).foldl (splitStep n) (f0, false)).1 := rfl
    rw [hP]
    generalize ((f1 :: rest).foldl (splitStep n) (f0, false)).1 = P at *
    have hdvd : P ∣ n := by rw [hn]; simpa using a2
    have hPpos : 0 < P := Nat.pos_of_dvd_of_pos hdvd hnpos
    have hP2 : 2 ≤ P := le_trans hf0 (Nat.le_of_dvd hPpos a1)
    refine ⟨hP2, ?_, hdvd⟩
    rcases a3 with a3 | a3
    · rw [a3]; exact hf0n
    · calc P < P * 2 := by omega
        _ ≤ P * P := Nat.mul_le_mul_left _ hP2
        _ ≤ n := a3

/-! ## the tree -/

/-- both children of a split node are at most half the parent -/
theorem child_bounds {P Q n a b : ℕ} (hP : 2 ≤ P) (hQ : 2 ≤ Q) (hPQ : P * Q = n) (ha : n < a) (hb : n < b * 2) :
    P ≤ n ∧ Q ≤ n ∧ P < a ∧ P < b ∧ Q < a ∧ Q < b := by
  have hPh : P * 2 ≤ n := hPQ ▸ Nat.mul_le_mul_left P hQ
  have hQh : 2 * Q ≤ n := hPQ ▸ Nat.mul_le_mul_right Q hP
  omega

/-- fuel `f` suffices for every length below `2^f`: a split node has both children `≥ 2`, hence at most half the parent -/
theorem mkPlan_wf_fuel : ∀ (fuel n : ℕ), 2 ≤ n → n < 2 ^ 31 → n < 2 ^ fuel →
    Plan.WF (mkPlan fuel n) ∧ (mkPlan fuel n).size = n ∧
      ∀ m ∈ Plan.leaves (mkPlan fuel n), 2 ≤ m ∧ m ≤ n ∧ (ispow2 m = true ∨ isprime m = true)
  | 0, n, h2, _, hf => by simp at hf; omega
  | fuel + 1, n, h2, hlt, hf => by
    obtain ⟨hprod, hmem, hlen⟩ := treeFactors_spec n h2 hlt
    have leafCase : (ispow2 n = true ∨ isprime n = true) →
        Plan.WF (.leaf n) ∧ (Plan.leaf n).size = n ∧
        ∀ m ∈ Plan.leaves (.leaf n), 2 ≤ m ∧ m ≤ n ∧ (ispow2 m = true ∨ isprime m = true) := by
      intro h
      refine ⟨by simp only [Plan.WF]; omega, rfl, ?_⟩
      intro m hm
      simp only [Plan.leaves, List.mem_singleton] at hm
      subst hm
      exact ⟨h2, le_rfl, h⟩
    rw [mkPlan]
    by_cases hp : ispow2 n = true
    · rw [if_pos hp]; exact leafCase (Or.inl hp)
    · rw [if_neg hp]
      simp only []
      by_cases hl : (treeFactors n).length = 1
      · have : ((treeFactors n).length == 1) = true := by rw [beq_iff_eq]; exact hl
        rw [if_pos this]
        exact leafCase (hlen hl)
      · have : ¬ ((treeFactors n).length == 1) = true := by rw [beq_iff_eq]; exact hl
        rw [if_neg this]
        have hl0 : (treeFactors n).length ≠ 0 := by
          intro h0
          rw [List.length_eq_zero_iff.mp h0] at hprod
          simp at hprod
          omega
        obtain ⟨hP2, hPn, hPd⟩ := splitP_spec n (treeFactors n) hprod (fun f hf => (hmem f hf).1) (by omega)
        generalize splitP n (treeFactors n) = P at *
        have hPQ : P * (n / P) = n := Nat.mul_div_cancel' hPd
        generalize n / P = Q at hPQ ⊢
        have hQ2 : 2 ≤ Q := by
          by_contra hc
          have : P * Q ≤ P * 1 := Nat.mul_le_mul_left P (by omega)
          omega
        rw [pow_succ] at hf
        obtain ⟨hPn, hQn, p1, p2, q1, q2⟩ := child_bounds hP2 hQ2 hPQ hlt hf
        obtain ⟨wp, sp, lp⟩ := mkPlan_wf_fuel fuel P hP2 p1 p2
        obtain ⟨wq, sq, lq⟩ := mkPlan_wf_fuel fuel Q hQ2 q1 q2
        refine ⟨⟨sp, sq, wp, wq⟩, hPQ, fun m hm => ?_⟩
        simp only [Plan.leaves, List.mem_append] at hm
        rcases hm with hm | hm
        · exact ⟨(lp m hm).1, (lp m hm).2.1.trans hPn, (lp m hm).2.2⟩
        · exact ⟨(lq m hm).1, (lq m hm).2.1.trans hQn, (lq m hm).2.2⟩

/-- the factor tree built by `PlanTree(n)` is well formed for every length `2 ≤ n < 2^31`
    (every value of the `int` argument): the recorded sizes are the children's sizes, the root has size `n`, and every
    leaf is a length `2 ≤ m ≤ n` that is a power of two or a prime by the library's own tests; in particular the
    recursion depth 32 of the model is never exhausted. -/
theorem mkPlan_wf (n : ℕ) (hn : 2 ≤ n) (hlt : n < 2 ^ 31) :
    Plan.WF (mkPlan 32 n) ∧ (mkPlan 32 n).size = n ∧
    ∀ m ∈ Plan.leaves (mkPlan 32 n), 2 ≤ m ∧ m ≤ n ∧ (ispow2 m = true ∨ isprime m = true) :=
  mkPlan_wf_fuel 32 n hn hlt (lt_trans hlt (by norm_num))

/-- hypothesis `hfac` of `fftC_eq_partial`, from correctness of the leaf solvers on powers of two and primes `≤ n` -/
theorem hfac_of_leaves (lit : Lits ℝ) (n : ℕ) (hn : 2 ≤ n) (hlt : n < 2 ^ 31)
    (hleaf : ∀ m, 2 ≤ m → m ≤ n → (ispow2 m = true ∨ isprime m = true) → IsDft m (fftLeaf lit m)) :
    Plan.WF (mkPlan 32 n) ∧ (mkPlan 32 n).size = n ∧ ∀ m ∈ Plan.leaves (mkPlan 32 n), IsDft m (fftLeaf lit m) := by
  obtain ⟨a, b, c⟩ := mkPlan_wf n hn hlt
  exact ⟨a, b, fun m hm => hleaf m (c m hm).1 (c m hm).2.1 (c m hm).2.2⟩

/-! ## non-vacuity: concrete instances -/

/-- the general theorem at `n = 60` agrees with the tree computed by kernel evaluation (`plan60`):
    a genuine two-level tree `3 · (4 · 5)` -/
example : Plan.WF (.node 3 20 (.leaf 3) (.node 4 5 (.leaf 4) (.leaf 5))) ∧
    (Plan.node 3 20 (.leaf 3) (.node 4 5 (.leaf 4) (.leaf 5))).size = 60 := by
  have h := mkPlan_wf 60 (by norm_num) (by norm_num)
  rw [plan60] at h
  exact ⟨h.1, h.2.1⟩

/-- a prime power splits (`fac = [3, 3]` has two entries): `9 = 3 · 3` -/
example : treeFactors 9 = [3, 3] ∧ splitP 9 [3, 3] = 3 := by decide +kernel

/-- the hypotheses of `splitP_spec` at a concrete list; the accumulation stops at `P = 3` because `(3·4)² > 60` -/
example : treeFactors 60 = [3, 4, 5] ∧ splitP 60 [3, 4, 5] = 3 := by decide +kernel

end Dsp.C01
