import DspVerif.Model.Dynamics
import DspVerif.Lib.RealFn
import DspVerif.Lib.Db
import DspVerif.Lib.Guard
import Mathlib.Tactic.Linarith
import Mathlib.Tactic.Positivity
import Mathlib.Tactic.NormNum
import Mathlib.Tactic.Ring
import Mathlib.Tactic.FieldSimp
import Mathlib.Tactic.SplitIfs
import Mathlib.Topology.MetricSpace.Lipschitz
/-!
# C20 — Dynamics processors never amplify, follow their static curves, and settle

All statements are over `ℝ` (no rounding), about

* the GENERATED gain computers `Gen.compressorGain` / `Gen.limiterGain`, `Gen.mag2db`, `Gen.db2mag`
  (`Gen/Dynamics.lean`, regenerated from the C++ AST on every run), and
* the hand-written loops of `Model/Dynamics.lean` (`Comp.step`, `Lim.step`, `processWith`, `Gate.*`, `Agc.*`)
  that call them (proved equal to the regenerated loop bodies and constructors in `Props/C20Gen.lean`; run against the
  real objects by the correspondence run).

Parameter hypotheses are exactly what the constructors admit (`1 ≤ R`, `0 ≤ W`, `0 ≤ t`) plus `0 < fs`
(the constructors do not check the sample rate; the property quantifies over 8 kHz … 192 kHz).
No division by a possibly vanishing quantity is used: the knee formula divides by `2·W` only inside the
branch `T - W/2 < xdb < T + W/2`, which forces `0 < W`; `1 / R` is used under `1 ≤ R`.
-/
namespace Dsp.C20
open Dsp Dsp.Dynamics

noncomputable section

/-! ## dB ↔ linear at `ℝ` -/

theorem eps_pos : (0 : ℝ) < (eps : ℝ) := by
  simp only [eps, fn_ofNat]; positivity

theorem db2mag_pos (g : ℝ) : 0 < Gen.db2mag g := by
  rw [Db.db2mag_real]; exact Real.rpow_pos_of_pos (by norm_num) _

theorem db2mag_zero : Gen.db2mag (0 : ℝ) = 1 := by
  rw [Db.db2mag_real, zero_div, Real.rpow_zero]

theorem db2mag_le_db2mag {a b : ℝ} : Gen.db2mag a ≤ Gen.db2mag b ↔ a ≤ b := by
  rw [Db.db2mag_real, Db.db2mag_real, Real.rpow_le_rpow_left_iff (by norm_num), div_le_div_iff_of_pos_right (by norm_num)]

/-- with `db2mag_pos`: `db2mag g ∈ (0, 1] ↔ g ≤ 0`, **the abstraction of DESIGN §6 C20** -/
theorem db2mag_le_one_iff (g : ℝ) : Gen.db2mag g ≤ 1 ↔ g ≤ 0 := by
  rw [← db2mag_zero, db2mag_le_db2mag]

theorem db2mag_add (a b : ℝ) : Gen.db2mag (a + b) = Gen.db2mag a * Gen.db2mag b := by
  rw [Db.db2mag_real, Db.db2mag_real, Db.db2mag_real, add_div, Real.rpow_add (by norm_num)]

theorem mag2db_scaled {x : ℝ} (hx : x ≠ 0) (g : ℝ) :
    Gen.mag2db |x * Gen.db2mag g| = Gen.mag2db |x| + g := by
  have hp := db2mag_pos g
  rw [abs_mul, abs_of_pos hp]
  conv_rhs => rw [← Db.mag2db_db2mag g]
  rw [Db.mag2db_real, Db.mag2db_real, Db.mag2db_real, Real.log_mul (abs_ne_zero.mpr hx) hp.ne', add_div, mul_add]

/-! ## The documented static characteristic -/

/-- The documented static characteristic (output level as a function of the input level `l`, in dB):
unity below `T - W/2`, the quadratic soft knee on `[T - W/2, T + W/2]`, the straight line of slope `s`
through `(T, T)` above.  `s = 1/ratio` for the compressor, `s = 0` (flat ceiling) for the limiter.
(For `W = 0` the middle branch is met only at `l = T`, where its numerator vanishes.) -/
def curve (T s W l : ℝ) : ℝ :=
  if l < T - W / 2 then l
  else if l ≤ T + W / 2 then l + (s - 1) * (l - T + W / 2) ^ 2 / (2 * W)
  else T + (l - T) * s

/-- the level the gain computers work with: `xdb = mag2db(|x| + eps())` -/
def lvl (x : ℝ) : ℝ := Gen.mag2db (|x| + eps)

theorem curve_unity_below {T s W l : ℝ} (hW : 0 ≤ W) (h : l ≤ T - W / 2) : curve T s W l = l := by
  rcases h.lt_or_eq with h | rfl
  · exact if_pos h
  · rw [curve, if_neg (lt_irrefl _), if_pos (by linarith), sub_sub_cancel_left, neg_add_cancel,
      zero_pow two_ne_zero, mul_zero, zero_div, add_zero]

theorem curve_knee {T s W l : ℝ} (h1 : T - W / 2 ≤ l) (h2 : l ≤ T + W / 2) :
    curve T s W l = l + (s - 1) * (l - T + W / 2) ^ 2 / (2 * W) := by
  rw [curve, if_neg (not_lt.mpr h1), if_pos h2]

/-- also for `W = 0`, where the quotient is `0 / 0 = 0` -/
theorem knee_edge (T s W : ℝ) :
    (T + W / 2) + (s - 1) * ((T + W / 2) - T + W / 2) ^ 2 / (2 * W) = T + ((T + W / 2) - T) * s := by
  rw [add_sub_cancel_left, add_halves, mul_div_assoc, sq, mul_comm 2 W, ← div_div, mul_self_div_self]; ring

theorem curve_above {T s W l : ℝ} (hW : 0 ≤ W) (h : T + W / 2 ≤ l) : curve T s W l = T + (l - T) * s := by
  rcases h.lt_or_eq with h | rfl
  · rw [curve, if_neg (by linarith), if_neg (not_le.mpr h)]
  · rw [curve_knee (by linarith) le_rfl, knee_edge]

/-- **T20.2 (static_curve, compressor gain computer).**  The GENERATED `Compressor::_compute_gain`
returns exactly `characteristic(level) − level`, with slope `1/ratio` above the knee. -/
theorem compressorGain_eq (p : Gen.CompressorParams ℝ) (hW : 0 ≤ p.W) (x : ℝ) :
    Gen.compressorGain eps p x = curve p.T (1 / (p.R : ℝ)) p.W (lvl x) - lvl x := by
  unfold Gen.compressorGain lvl
  simp only [fn_ofInt, fn_abs, Int.cast_ofNat, Int.cast_one, Gen.abs2r, ge_iff_le, gt_iff_lt]
  generalize Gen.mag2db (|x| + eps) = l
  split_ifs with h1 h2
  · rw [curve_above hW h1, mul_one_div]
  · rw [curve_knee h2.1.le h2.2.le, sq]
  · rw [curve_unity_below hW (not_lt.mp fun hc => h2 ⟨hc, not_le.mp h1⟩)]

/-- **T20.2 (static_curve, limiter gain computer).**  The GENERATED `Limiter::_compute_gain`
returns exactly `characteristic(level) − level` with a flat ceiling (`s = 0`). -/
theorem limiterGain_eq (p : Gen.LimiterParams ℝ) (hW : 0 ≤ p.W) (x : ℝ) :
    Gen.limiterGain eps p x = curve p.T 0 p.W (lvl x) - lvl x := by
  unfold Gen.limiterGain lvl
  simp only [fn_ofInt, fn_abs, Int.cast_ofNat, Gen.abs2r, ge_iff_le, gt_iff_lt]
  generalize Gen.mag2db (|x| + eps) = l
  split_ifs with h1 h2
  · rw [curve_above hW h1, mul_zero, add_zero]
  · rw [curve_knee h2.1.le h2.2.le]; ring
  · rw [curve_unity_below hW (not_lt.mp fun hc => h2 ⟨hc, not_le.mp h1⟩)]

/-! ## Shape of the characteristic: continuity, monotonicity, slopes

`curve = l - (1 - s)·psi`; `psi` is the rectifier `max 0 (l - T)` with its corner rounded over the knee. -/

/-- the amount the characteristic stays below the diagonal, per unit of `1 - s` -/
def psi (T W l : ℝ) : ℝ :=
  if l < T - W / 2 then 0
  else if l ≤ T + W / 2 then (l - T + W / 2) ^ 2 / (2 * W)
  else l - T

theorem curve_eq_psi (T s W l : ℝ) : curve T s W l = l - (1 - s) * psi T W l := by
  unfold curve psi
  split_ifs <;> ring

/-- the regions of `psi` in the knee coordinate `u = l - T + W/2`, without division -/
theorem psi_cert (T W l : ℝ) :
    (l - T + W / 2 ≤ 0 ∧ psi T W l = 0) ∨
    (0 < l - T + W / 2 ∧ l - T + W / 2 ≤ W ∧ psi T W l * (2 * W) = (l - T + W / 2) ^ 2) ∨
    (W < l - T + W / 2 ∧ psi T W l = l - T + W / 2 - W / 2) := by
  unfold psi
  split_ifs with h1 h2
  · exact .inl ⟨by linarith only [h1], rfl⟩
  · rcases (by linarith only [h1] : 0 ≤ l - T + W / 2).eq_or_lt with h | h
    · exact .inl ⟨h.ge, by rw [← h, zero_pow two_ne_zero, zero_div]⟩
    · exact .inr (.inl ⟨h, by linarith only [h2], div_mul_cancel₀ _ (by linarith only [h, h2] : 2 * W ≠ 0)⟩)
  · exact .inr (.inr ⟨by linarith only [h2], by ring⟩)

/-- the parabola `u ↦ u² / (2W)` has slopes in `[0, 1]` on `[0, W]` (`p`, `q` its values at `x ≤ y`):
`(q - p)·2W = (y - x)(y + x)` and `0 ≤ y + x ≤ 2W` -/
theorem knee_slope {W x y p q : ℝ} (hW : 0 < W) (hx : 0 ≤ x) (hxy : x ≤ y) (hy : y ≤ W)
    (hp : p * (2 * W) = x ^ 2) (hq : q * (2 * W) = y ^ 2) : 0 ≤ q - p ∧ q - p ≤ y - x := by
  have e : (q - p) * (2 * W) = (y - x) * (y + x) := by rw [sub_mul, hp, hq]; ring
  have h2W : 0 < 2 * W := by linarith only [hW]
  constructor
  · exact nonneg_of_mul_nonneg_left (e ▸ mul_nonneg (sub_nonneg.2 hxy) (by linarith only [hx, hxy])) h2W
  · exact le_of_mul_le_mul_right (e ▸ mul_le_mul_of_nonneg_left (by linarith only [hxy, hy]) (sub_nonneg.2 hxy)) h2W

theorem knee_slope_ends {W u p : ℝ} (hW : 0 < W) (h0 : 0 ≤ u) (h1 : u ≤ W) (hp : p * (2 * W) = u ^ 2) :
    (0 ≤ p ∧ p ≤ u) ∧ 0 ≤ W / 2 - p ∧ W / 2 - p ≤ W - u := by
  have a := knee_slope hW le_rfl h0 h1 (by ring : (0 : ℝ) * (2 * W) = 0 ^ 2) hp
  rw [sub_zero, sub_zero] at a
  exact ⟨a, knee_slope hW h0 h1 le_rfl hp (by ring : W / 2 * (2 * W) = W ^ 2)⟩

theorem psi_diff_bounds {T W a b : ℝ} (hW : 0 ≤ W) (hab : a ≤ b) :
    0 ≤ psi T W b - psi T W a ∧ psi T W b - psi T W a ≤ b - a := by
  have hu : a - T + W / 2 ≤ b - T + W / 2 := by linarith only [hab]
  rw [show b - a = (b - T + W / 2) - (a - T + W / 2) by ring]
  -- the region of `a` (below, inside, above the knee) against that of `b`; `a ≤ b` excludes three of the nine
  rcases psi_cert T W a with ⟨ha, ea⟩ | ⟨ha1, ha2, ea⟩ | ⟨ha, ea⟩ <;>
  rcases psi_cert T W b with ⟨hb, eb⟩ | ⟨hb1, hb2, eb⟩ | ⟨hb, eb⟩
  · rw [ea, eb, sub_self]; exact ⟨le_rfl, sub_nonneg.2 hu⟩
  · obtain ⟨⟨h1, h2⟩, -⟩ := knee_slope_ends (hb1.trans_le hb2) hb1.le hb2 eb
    rw [ea, sub_zero]; exact ⟨h1, h2.trans ((le_sub_self_iff _).mpr ha)⟩
  · rw [ea, eb]; constructor <;> linarith only [ha, hb, hW]
  · exact (lt_irrefl _ (ha1.trans_le (hu.trans hb))).elim
  · exact knee_slope (ha1.trans_le ha2) ha1.le hu hb2 ea eb
  · obtain ⟨-, h1, h2⟩ := knee_slope_ends (ha1.trans_le ha2) ha1.le ha2 ea
    rw [eb]; constructor <;> linarith only [h1, h2, hb]
  · exact (lt_irrefl _ (ha.trans_le (hu.trans (hb.trans hW)))).elim
  · exact (lt_irrefl _ (ha.trans_le (hu.trans hb2))).elim
  · rw [ea, eb, sub_sub_sub_cancel_right]; exact ⟨sub_nonneg.2 hu, le_rfl⟩

theorem psi_lower {T W : ℝ} (hW : 0 ≤ W) (l : ℝ) : 0 ≤ psi T W l ∧ l - T ≤ psi T W l := by
  rcases psi_cert T W l with ⟨h, e⟩ | ⟨h1, h2, e⟩ | ⟨h, e⟩
  · rw [e]; exact ⟨le_rfl, by linarith only [h, hW]⟩
  · obtain ⟨⟨h0, -⟩, -, h3⟩ := knee_slope_ends (h1.trans_le h2) h1.le h2 e
    exact ⟨h0, by linarith only [h3]⟩
  · rw [e]; constructor <;> linarith only [h, hW]

/-- **T20.2 (knee_monotone + knee_continuous, quantitative form).**  Between any two levels `a ≤ b` the
characteristic rises by at least `s·(b − a)` and at most `b − a`: it is monotone, never steeper than the
diagonal (so it has no jump — in particular none at the knee edges `T ± W/2`) and never flatter than `s`. -/
theorem curve_diff_bounds {T s W a b : ℝ} (hs1 : s ≤ 1) (hW : 0 ≤ W) (hab : a ≤ b) :
    s * (b - a) ≤ curve T s W b - curve T s W a ∧ curve T s W b - curve T s W a ≤ b - a := by
  obtain ⟨h0, h1⟩ := psi_diff_bounds (T := T) hW hab
  have hs := sub_nonneg.mpr hs1
  rw [curve_eq_psi, curve_eq_psi]
  constructor
  · linarith only [mul_le_mul_of_nonneg_left h1 hs]
  · linarith only [mul_nonneg hs h0]

/-- **T20.2 (knee_monotone).** -/
theorem curve_monotone {T s W : ℝ} (hs0 : 0 ≤ s) (hs1 : s ≤ 1) (hW : 0 ≤ W) : Monotone (curve T s W) :=
  fun _ _ hab => sub_nonneg.mp
    ((mul_nonneg hs0 (sub_nonneg.mpr hab)).trans (curve_diff_bounds (T := T) hs1 hW hab).1)

theorem curve_lipschitz {T s W : ℝ} (hs0 : 0 ≤ s) (hs1 : s ≤ 1) (hW : 0 ≤ W) :
    LipschitzWith 1 (curve T s W) := by
  refine LipschitzWith.of_le_add fun a b => ?_
  rcases le_total a b with hab | hab
  · exact (curve_monotone hs0 hs1 hW hab).trans (le_add_of_nonneg_right dist_nonneg)
  · rw [Real.dist_eq, abs_of_nonneg (sub_nonneg.mpr hab)]
    linarith [(curve_diff_bounds (T := T) hs1 hW hab).2]

/-- **T20.2 (knee_continuous).**  The characteristic is continuous on the whole level axis. -/
theorem curve_continuous {T s W : ℝ} (hs0 : 0 ≤ s) (hs1 : s ≤ 1) (hW : 0 ≤ W) : Continuous (curve T s W) :=
  (curve_lipschitz hs0 hs1 hW).continuous

/-- knee edges, explicitly: the knee formula meets the unity line at `T − W/2` … -/
theorem knee_meets_unity {T s W : ℝ} (_hW : 0 < W) :
    (T - W / 2) + (s - 1) * ((T - W / 2) - T + W / 2) ^ 2 / (2 * W) = T - W / 2 := by
  rw [sub_sub_cancel_left, neg_add_cancel, zero_pow two_ne_zero, mul_zero, zero_div, add_zero]

/-- … and the compression line at `T + W/2` -/
theorem knee_meets_line {T s W : ℝ} (hW : 0 < W) :
    (T + W / 2) + (s - 1) * ((T + W / 2) - T + W / 2) ^ 2 / (2 * W) = T + ((T + W / 2) - T) * s :=
  knee_edge T s W

/-- **T20.2 (slope `1/ratio` above the knee).** -/
theorem curve_slope_above {T s W a b : ℝ} (hW : 0 ≤ W) (ha : T + W / 2 ≤ a) (hb : T + W / 2 ≤ b) :
    curve T s W b - curve T s W a = s * (b - a) := by
  rw [curve_above hW ha, curve_above hW hb]; ring

/-- the characteristic never lies above the diagonal (no level is raised) -/
theorem curve_le_self {T s W : ℝ} (hs1 : s ≤ 1) (hW : 0 ≤ W) (l : ℝ) : curve T s W l ≤ l := by
  rw [curve_eq_psi]
  linarith [mul_nonneg (sub_nonneg.mpr hs1) (psi_lower (T := T) hW l).1]

/-- for `s = 0`: the limiter's flat ceiling -/
theorem curve_le_line {T s W : ℝ} (hs1 : s ≤ 1) (hW : 0 ≤ W) (l : ℝ) : curve T s W l ≤ T + (l - T) * s := by
  rw [curve_eq_psi]
  linarith [mul_le_mul_of_nonneg_left (psi_lower (T := T) hW l).2 (sub_nonneg.mpr hs1)]

/-! ## Smoothing (T20.4)

One step is the convex combination `w·gs + (1 - w)·gc`, `w` the attack or release coefficient. -/

theorem convex_le {w a b c : ℝ} (h0 : 0 ≤ w) (h1 : w ≤ 1) (ha : a ≤ c) (hb : b ≤ c) : w * a + (1 - w) * b ≤ c := by
  linarith only [mul_le_mul_of_nonneg_left ha h0, mul_le_mul_of_nonneg_left hb (sub_nonneg.2 h1)]

theorem le_convex {w a b c : ℝ} (h0 : 0 ≤ w) (h1 : w ≤ 1) (ha : c ≤ a) (hb : c ≤ b) : c ≤ w * a + (1 - w) * b := by
  linarith only [mul_le_mul_of_nonneg_left ha h0, mul_le_mul_of_nonneg_left hb (sub_nonneg.2 h1)]

theorem ite_between {lo hi a b : ℝ} (ha : lo ≤ a ∧ a ≤ hi) (hb : lo ≤ b ∧ b ≤ hi) (c : Prop) [Decidable c] :
    lo ≤ (if c then a else b) ∧ (if c then a else b) ≤ hi := by
  split_ifs <;> assumption

theorem smooth_real (wA wR gs gc : ℝ) :
    smooth wA wR gs gc =
      (if gc ≤ gs then wA else wR) * gs + (1 - if gc ≤ gs then wA else wR) * gc := by
  simp only [smooth, fn_ofNat, Nat.cast_one]; split_ifs <;> rfl

/-- **T20.4 (smoothing_monotone), exact form.**  One smoothing step multiplies the distance to the target `gc`
by the attack coefficient (target at or below the current gain) or the release coefficient (target above). -/
theorem smooth_sub (wA wR gs gc : ℝ) :
    smooth wA wR gs gc - gc = (if gc ≤ gs then wA else wR) * (gs - gc) := by
  rw [smooth_real]; ring

theorem smooth_sub_of_ge {wA wR gs gc : ℝ} (h : gc ≤ gs) : smooth wA wR gs gc - gc = wA * (gs - gc) := by
  rw [smooth_sub, if_pos h]

/-- on the target itself (`gs = gc`, where the code takes the attack branch) both sides vanish -/
theorem smooth_sub_of_le {wA wR gs gc : ℝ} (h : gs ≤ gc) : smooth wA wR gs gc - gc = wR * (gs - gc) := by
  rcases h.lt_or_eq with h | rfl
  · rw [smooth_sub, if_neg (not_le.mpr h)]
  · rw [smooth_sub, sub_self, mul_zero, mul_zero]

/-- **T20.4 (smoothing_monotone).**  With coefficients in `[0,1]` the smoothed gain moves towards its target:
the distance does not grow and the side (above / below the target) is preserved — no overshoot. -/
theorem smoothing_monotone {wA wR : ℝ} (hA0 : 0 ≤ wA) (hA1 : wA ≤ 1) (hR0 : 0 ≤ wR) (hR1 : wR ≤ 1) (gs gc : ℝ) :
    |smooth wA wR gs gc - gc| ≤ |gs - gc| ∧ 0 ≤ (smooth wA wR gs gc - gc) * (gs - gc) := by
  obtain ⟨hw0, hw1⟩ := ite_between ⟨hA0, hA1⟩ ⟨hR0, hR1⟩ (gc ≤ gs)
  rw [smooth_sub, abs_mul, abs_of_nonneg hw0, mul_assoc]
  exact ⟨mul_le_of_le_one_left (abs_nonneg _) hw1, mul_nonneg hw0 (mul_self_nonneg _)⟩

theorem smooth_le {wA wR : ℝ} (hA : 0 ≤ wA ∧ wA ≤ 1) (hR : 0 ≤ wR ∧ wR ≤ 1) {gs gc c : ℝ}
    (hgs : gs ≤ c) (hgc : gc ≤ c) : smooth wA wR gs gc ≤ c := by
  rw [smooth_real]
  exact convex_le (ite_between hA hR _).1 (ite_between hA hR _).2 hgs hgc

theorem smooth_zero (gs gc : ℝ) : smooth 0 0 gs gc = gc := by
  rw [smooth_real, ite_self, zero_mul, sub_zero, one_mul, zero_add]

theorem smooth_zero_attack_le {wR : ℝ} (hR0 : 0 ≤ wR) (gs gc : ℝ) : smooth 0 wR gs gc ≤ gc := by
  rcases le_total gc gs with h | h
  · exact sub_nonpos.mp (by rw [smooth_sub_of_ge h, zero_mul])
  · exact sub_nonpos.mp (by rw [smooth_sub_of_le h]; exact mul_nonpos_of_nonneg_of_nonpos hR0 (sub_nonpos.mpr h))

/-! ### time constants -/

theorem coef_real (fs t : ℝ) :
    coef fs t = if fs * t = 0 then 0 else Real.exp (-(Real.log 9) / (fs * t)) := by
  simp only [coef, fn_ofNat, fn_exp, fn_log, Nat.cast_zero, Nat.cast_ofNat, ← le_antisymm_iff]

/-- attack / release time 0 ⇒ coefficient 0 (the `: 0` branch of the constructors' `(t > 0) ? std::exp(…) : 0`) -/
theorem coef_zero (fs : ℝ) : coef fs 0 = 0 := by
  rw [coef_real]; simp

/-- **T20.4 (time constants).**  `w = exp(−ln 9 / (fs·t))` for a positive time `t` -/
theorem coef_pos_time {fs t : ℝ} (hfs : 0 < fs) (ht : 0 < t) :
    coef fs t = Real.exp (-(Real.log 9) / (fs * t)) := by
  rw [coef_real, if_neg (mul_pos hfs ht).ne']

/-- every admitted time gives a coefficient in `[0, 1)` -/
theorem coef_mem {fs t : ℝ} (hfs : 0 < fs) (ht : 0 ≤ t) : 0 ≤ coef fs t ∧ coef fs t < 1 := by
  rcases ht.eq_or_lt with rfl | h
  · rw [coef_zero]; exact ⟨le_rfl, one_pos⟩
  · rw [coef_pos_time hfs h]
    exact ⟨(Real.exp_pos _).le, Real.exp_lt_one_iff.mpr
      (div_neg_of_neg_of_pos (neg_neg_of_pos (Real.log_pos (by norm_num))) (mul_pos hfs h))⟩

theorem coef_unit {fs : ℕ} (hfs : 0 < fs) {t : ℝ} (ht : 0 ≤ t) : 0 ≤ coef (fs : ℝ) t ∧ coef (fs : ℝ) t ≤ 1 :=
  ⟨(coef_mem (Nat.cast_pos.mpr hfs) ht).1, (coef_mem (Nat.cast_pos.mpr hfs) ht).2.le⟩

/-- **T20.4 (time constants): meaning of the configured time.**  If `fs·t` is a whole number `n ≥ 1` of samples,
`n` smoothing steps shrink the distance to a constant target by exactly the factor 9 — the gain covers the
span from 10 % to 90 % of a step in `t` seconds. -/
theorem coef_pow_samples {fs t : ℝ} (n : ℕ) (hn : 0 < n) (h : (n : ℝ) = fs * t) : coef fs t ^ n = 1 / 9 := by
  have hn' : (0 : ℝ) < n := by exact_mod_cast hn
  rw [coef_real, if_neg (by rw [← h]; exact hn'.ne'), ← h, ← Real.exp_nat_mul]
  have : (n : ℝ) * (-(Real.log 9) / n) = -Real.log 9 := by field_simp
  rw [this, Real.exp_neg, Real.exp_log (by norm_num)]; norm_num

/-- `σ = 1`: the side at or above `c`; `σ = -1`: at or below -/
theorem iterate_contract {f : ℝ → ℝ} {c w : ℝ} (σ : ℝ) (hw : 0 ≤ w)
    (hf : ∀ g, 0 ≤ σ * (g - c) → f g - c = w * (g - c)) {g : ℝ} (hg : 0 ≤ σ * (g - c)) (n : ℕ) :
    f^[n] g - c = w ^ n * (g - c) ∧ 0 ≤ σ * (f^[n] g - c) := by
  induction n with
  | zero => rw [pow_zero, one_mul]; exact ⟨rfl, hg⟩
  | succ k ih =>
    rw [Function.iterate_succ_apply', hf _ ih.2, ih.1, pow_succ']
    exact ⟨(mul_assoc _ _ _).symm, by rw [mul_left_comm, mul_left_comm σ]; exact mul_nonneg hw (mul_nonneg (pow_nonneg hw k) hg)⟩

/-- **T20.4 (time constants), attack.**  Holding the target at or below the gain for `n = fs·t_attack` samples
reduces the distance to one ninth. -/
theorem attack_time_constant {fs ta wR : ℝ} (hfs : 0 < fs) (hta : 0 ≤ ta) (n : ℕ) (hn : 0 < n) (h : (n : ℝ) = fs * ta)
    {gs gc : ℝ} (hg : gc ≤ gs) :
    (fun g => smooth (coef fs ta) wR g gc)^[n] gs - gc = (gs - gc) / 9 := by
  rw [(iterate_contract 1 (coef_mem hfs hta).1 (fun g hg => smooth_sub_of_ge (by linarith only [hg]))
    (by linarith only [hg]) n).1, coef_pow_samples n hn h, one_div_mul_eq_div]

/-- **T20.4 (time constants), release.** -/
theorem release_time_constant {fs tr wA : ℝ} (hfs : 0 < fs) (htr : 0 ≤ tr) (n : ℕ) (hn : 0 < n) (h : (n : ℝ) = fs * tr)
    {gs gc : ℝ} (hg : gs ≤ gc) :
    (fun g => smooth wA (coef fs tr) g gc)^[n] gs - gc = (gs - gc) / 9 := by
  rw [(iterate_contract (-1) (coef_mem hfs htr).1 (fun g hg => smooth_sub_of_le (by linarith only [hg]))
    (by linarith only [hg]) n).1, coef_pow_samples n hn h, one_div_mul_eq_div]

/-! ## The sample loops: a generic invariant rule

`processWith`, `Gate.process`, `Agc.processR/C` are all "fold the step over the input, push gain and out". -/

theorem foldPush_inv {σ X A B : Type} (f : σ → X → σ × A × B) (I : σ → Prop) (P : X → A → B → Prop)
    (hstep : ∀ s x, I s → I (f s x).1 ∧ P x (f s x).2.1 (f s x).2.2) (s : σ) (hs : I s) (x : Array X) :
    let r := x.foldl (fun (acc : σ × Array A × Array B) xi =>
      ((f acc.1 xi).1, acc.2.1.push (f acc.1 xi).2.1, acc.2.2.push (f acc.1 xi).2.2)) (s, Array.mkEmpty x.size, Array.mkEmpty x.size)
    I r.1 ∧ ∃ (h1 : r.2.1.size = x.size) (h2 : r.2.2.size = x.size),
      ∀ i (hi : i < x.size), P x[i] (r.2.1[i]'(h1 ▸ hi)) (r.2.2[i]'(h2 ▸ hi)) := by
  intro r
  refine (Array.foldl_induction
    (fun i (acc : σ × Array A × Array B) => I acc.1 ∧ ∃ (h1 : acc.2.1.size = i) (h2 : acc.2.2.size = i),
      ∀ j (hj : j < i) (hjx : j < x.size), P x[j] (acc.2.1[j]'(h1 ▸ hj)) (acc.2.2[j]'(h2 ▸ hj)))
    ⟨hs, rfl, rfl, fun j hj => absurd hj (Nat.not_lt_zero _)⟩ ?_).imp id
    fun ⟨h1, h2, hP⟩ => ⟨h1, h2, fun i hi => hP i hi hi⟩
  rintro ⟨i, hi⟩ ⟨st, ga, oa⟩ ⟨hI, h1, h2, hP⟩
  obtain ⟨hI', hP'⟩ := hstep st x[i] hI
  refine ⟨hI', (Array.size_push ..).trans (congrArg (· + 1) h1), (Array.size_push ..).trans (congrArg (· + 1) h2),
    fun j hj hjx => ?_⟩
  show P x[j] ((ga.push _)[j]'_) ((oa.push _)[j]'_)
  rw [Array.getElem_push, Array.getElem_push]
  rcases Nat.lt_succ_iff_lt_or_eq.mp hj with hlt | rfl
  · rw [dif_pos (h1 ▸ hlt), dif_pos (h2 ▸ hlt)]; exact hP j hlt hjx
  · rw [dif_neg (h1 ▸ lt_irrefl _), dif_neg (h2 ▸ lt_irrefl _)]; exact hP'

/-! ## Compressor and Limiter: gain range, static curve, ceiling -/

/-- the parameter sets the `Compressor` constructor can produce (for a positive sample rate) -/
structure Comp.Admissible (p : Comp ℝ) : Prop where
  ratio : 1 ≤ p.gp.R
  knee : 0 ≤ p.gp.W
  wA0 : 0 ≤ p.wA
  wA1 : p.wA ≤ 1
  wR0 : 0 ≤ p.wR
  wR1 : p.wR ≤ 1

structure Lim.Admissible (p : Lim ℝ) : Prop where
  knee : 0 ≤ p.gp.W
  wA0 : 0 ≤ p.wA
  wA1 : p.wA ≤ 1
  wR0 : 0 ≤ p.wR
  wR1 : p.wR ≤ 1

/-- `Compressor::Compressor` builds an object iff the five arguments are in their ranges, and then stores them and
the two smoothing coefficients -/
theorem Comp.init_eq_ok {fs : ℕ} {T W ta tr : ℝ} {R : ℤ} {p : Comp ℝ} :
    Comp.init fs T R W ta tr = .ok p ↔
      (-50 ≤ T ∧ T ≤ 0) ∧ (1 ≤ R ∧ R ≤ 50) ∧ (0 ≤ W ∧ W ≤ 20) ∧ (0 ≤ ta ∧ ta ≤ 4) ∧ (0 ≤ tr ∧ tr ≤ 4) ∧
        { gp := { T := T, R := R, W := W }, wA := coef (fs : ℝ) ta, wR := coef (fs : ℝ) tr } = p := by
  simp only [Comp.init, guard_ok, not_not, Except.ok.injEq, fn_ofNat, fn_ofInt, Int.reduceNeg, Int.cast_neg,
    Int.cast_ofNat, Nat.cast_zero, Nat.cast_ofNat]

theorem Lim.init_eq_ok {fs : ℕ} {T W ta tr : ℝ} {p : Lim ℝ} :
    Lim.init fs T W ta tr = .ok p ↔
      (-50 ≤ T ∧ T ≤ 0) ∧ (0 ≤ W ∧ W ≤ 20) ∧ (0 ≤ ta ∧ ta ≤ 4) ∧ (0 ≤ tr ∧ tr ≤ 4) ∧
        { gp := { T := T, W := W }, wA := coef (fs : ℝ) ta, wR := coef (fs : ℝ) tr } = p := by
  simp only [Lim.init, guard_ok, not_not, Except.ok.injEq, fn_ofNat, fn_ofInt, Int.reduceNeg, Int.cast_neg,
    Int.cast_ofNat, Nat.cast_zero, Nat.cast_ofNat]

theorem Comp.init_ok {fs : ℕ} (hfs : 0 < fs) {T W ta tr : ℝ} {R : ℤ} {p : Comp ℝ}
    (h : Comp.init fs T R W ta tr = .ok p) : Comp.Admissible p := by
  obtain ⟨-, h2, h3, h4, h5, rfl⟩ := Comp.init_eq_ok.mp h
  exact ⟨h2.1, h3.1, (coef_unit hfs h4.1).1, (coef_unit hfs h4.1).2, (coef_unit hfs h5.1).1, (coef_unit hfs h5.1).2⟩

theorem Lim.init_ok {fs : ℕ} (hfs : 0 < fs) {T W ta tr : ℝ} {p : Lim ℝ}
    (h : Lim.init fs T W ta tr = .ok p) : Lim.Admissible p := by
  obtain ⟨-, h3, h4, h5, rfl⟩ := Lim.init_eq_ok.mp h
  exact ⟨h3.1, (coef_unit hfs h4.1).1, (coef_unit hfs h4.1).2, (coef_unit hfs h5.1).1, (coef_unit hfs h5.1).2⟩

theorem compressorGain_nonpos (p : Gen.CompressorParams ℝ) (hR : 1 ≤ p.R) (hW : 0 ≤ p.W) (x : ℝ) :
    Gen.compressorGain eps p x ≤ 0 := by
  have hRr : (1 : ℝ) ≤ (p.R : ℝ) := by exact_mod_cast hR
  rw [compressorGain_eq p hW]
  exact sub_nonpos.mpr (curve_le_self (div_le_one_of_le₀ hRr (by linarith only [hRr])) hW _)

theorem limiterGain_nonpos (p : Gen.LimiterParams ℝ) (hW : 0 ≤ p.W) (x : ℝ) :
    Gen.limiterGain eps p x ≤ 0 := by
  rw [limiterGain_eq p hW]
  exact sub_nonpos.mpr (curve_le_self zero_le_one hW _)

theorem abs_mul_le_abs (x : ℝ) {g : ℝ} (h0 : 0 ≤ g) (h1 : g ≤ 1) : |x * g| ≤ |x| := by
  rw [abs_mul, abs_of_nonneg h0]
  exact mul_le_of_le_one_right (abs_nonneg _) h1

/-- **T20.1, one step** of a loop body with `gain = db2mag gs_`, `out = x·gain` -/
theorem gain_range_step {gs g o : ℝ} (h : gs ≤ 0) (x : ℝ) (hg : g = Gen.db2mag gs) (ho : o = x * g) :
    gs ≤ 0 ∧ 0 < g ∧ g ≤ 1 ∧ o = x * g ∧ |o| ≤ |x| := by
  subst hg ho
  exact ⟨h, db2mag_pos _, (db2mag_le_one_iff _).mpr h, rfl,
    abs_mul_le_abs x (db2mag_pos _).le ((db2mag_le_one_iff _).mpr h)⟩

/-- **T20.1 (gain_range), Compressor.**  For every admitted parameter set, every input signal and every earlier
history (any reachable `gs_ ≤ 0`, initially `0`): after `process`, `gs_ ≤ 0` again, and EVERY emitted gain lies
in `(0, 1]`, every output sample is `x[i]·gain[i]`, hence `|out[i]| ≤ |x[i]|` — the compressor never amplifies. -/
theorem Comp.gain_range {p : Comp ℝ} (hp : Comp.Admissible p) {gs : ℝ} (hgs : gs ≤ 0) (x : Array ℝ) :
    (processWith (Comp.step p) gs x).1 ≤ 0 ∧
    ∃ (h1 : (processWith (Comp.step p) gs x).2.1.size = x.size) (h2 : (processWith (Comp.step p) gs x).2.2.size = x.size),
      ∀ i (hi : i < x.size),
        0 < (processWith (Comp.step p) gs x).2.1[i] ∧ (processWith (Comp.step p) gs x).2.1[i] ≤ 1 ∧
        (processWith (Comp.step p) gs x).2.2[i] = x[i] * (processWith (Comp.step p) gs x).2.1[i] ∧
        |(processWith (Comp.step p) gs x).2.2[i]| ≤ |x[i]| :=
  foldPush_inv (fun g xi => let r := Comp.step p g xi; (r.gs, r.gain, r.out)) (fun g => g ≤ 0)
    (fun xi g o => 0 < g ∧ g ≤ 1 ∧ o = xi * g ∧ |o| ≤ |xi|)
    (fun _ xi hg => gain_range_step (smooth_le ⟨hp.wA0, hp.wA1⟩ ⟨hp.wR0, hp.wR1⟩ hg
      (compressorGain_nonpos p.gp hp.ratio hp.knee xi)) xi rfl rfl) gs hgs x

/-- **T20.1 (gain_range), Limiter.** -/
theorem Lim.gain_range {p : Lim ℝ} (hp : Lim.Admissible p) {gs : ℝ} (hgs : gs ≤ 0) (x : Array ℝ) :
    (processWith (Lim.step p) gs x).1 ≤ 0 ∧
    ∃ (h1 : (processWith (Lim.step p) gs x).2.1.size = x.size) (h2 : (processWith (Lim.step p) gs x).2.2.size = x.size),
      ∀ i (hi : i < x.size),
        0 < (processWith (Lim.step p) gs x).2.1[i] ∧ (processWith (Lim.step p) gs x).2.1[i] ≤ 1 ∧
        (processWith (Lim.step p) gs x).2.2[i] = x[i] * (processWith (Lim.step p) gs x).2.1[i] ∧
        |(processWith (Lim.step p) gs x).2.2[i]| ≤ |x[i]| :=
  foldPush_inv (fun g xi => let r := Lim.step p g xi; (r.gs, r.gain, r.out)) (fun g => g ≤ 0)
    (fun xi g o => 0 < g ∧ g ≤ 1 ∧ o = xi * g ∧ |o| ≤ |xi|)
    (fun _ xi hg => gain_range_step (smooth_le ⟨hp.wA0, hp.wA1⟩ ⟨hp.wR0, hp.wR1⟩ hg
      (limiterGain_nonpos p.gp hp.knee xi)) xi rfl rfl) gs hgs x

/-- **T20.2, one step** with zero attack and release coefficients and computed gain `gc` -/
theorem static_step (gs gc : ℝ) {x : ℝ} (hx : x ≠ 0) :
    Gen.mag2db |x * Gen.db2mag (smooth 0 0 gs gc)| = Gen.mag2db |x| + gc ∧ smooth 0 0 gs gc = gc := by
  rw [smooth_zero]; exact ⟨mag2db_scaled hx gc, rfl⟩

/-- **T20.2 (static_curve), Compressor.**  With zero attack and release the processor is memoryless and, for every
non-zero sample and whatever happened before, its output LEVEL is the input level moved by
`characteristic(L) − L`, `L = mag2db(|x| + eps())` being the level the code measures:
unity below `T − W/2`, slope `1/ratio` above `T + W/2`, the quadratic knee in between. -/
theorem Comp.static_curve {p : Comp ℝ} (hp : Comp.Admissible p) (hA : p.wA = 0) (hR : p.wR = 0) (gs : ℝ)
    {x : ℝ} (hx : x ≠ 0) :
    Gen.mag2db |(Comp.step p gs x).out| =
      Gen.mag2db |x| + (curve p.gp.T (1 / (p.gp.R : ℝ)) p.gp.W (lvl x) - lvl x) ∧
    (Comp.step p gs x).gs = curve p.gp.T (1 / (p.gp.R : ℝ)) p.gp.W (lvl x) - lvl x := by
  rw [← compressorGain_eq p.gp hp.knee]
  show Gen.mag2db |x * Gen.db2mag (smooth p.wA p.wR gs _)| = _ ∧ smooth p.wA p.wR gs _ = _
  rw [hA, hR]; exact static_step gs _ hx

/-- **T20.2 (static_curve), Limiter:** same with the flat ceiling (`s = 0`). -/
theorem Lim.static_curve {p : Lim ℝ} (hp : Lim.Admissible p) (hA : p.wA = 0) (hR : p.wR = 0) (gs : ℝ)
    {x : ℝ} (hx : x ≠ 0) :
    Gen.mag2db |(Lim.step p gs x).out| = Gen.mag2db |x| + (curve p.gp.T 0 p.gp.W (lvl x) - lvl x) ∧
    (Lim.step p gs x).gs = curve p.gp.T 0 p.gp.W (lvl x) - lvl x := by
  rw [← limiterGain_eq p.gp hp.knee]
  show Gen.mag2db |x * Gen.db2mag (smooth p.wA p.wR gs _)| = _ ∧ smooth p.wA p.wR gs _ = _
  rw [hA, hR]; exact static_step gs _ hx

/-- `|x| ≤ db2mag (lvl x)`: the measured level (with `eps()` added) is never below the true one -/
theorem abs_le_db2mag_lvl (x : ℝ) : |x| ≤ Gen.db2mag (lvl x) := by
  rw [lvl, Db.db2mag_mag2db _ (add_pos_of_nonneg_of_pos (abs_nonneg x) eps_pos)]
  exact le_add_of_nonneg_right eps_pos.le

/-- **T20.3 (limiter_ceiling), one step.**  Zero attack coefficient, any release coefficient in `[0,1]`, any knee,
ANY previous smoothed gain: level + smoothed gain ≤ threshold, and `|out| ≤ db2mag(threshold)`. -/
theorem Lim.step_ceiling {p : Lim ℝ} (hp : Lim.Admissible p) (hA : p.wA = 0) (gs x : ℝ) :
    lvl x + (Lim.step p gs x).gs ≤ p.gp.T ∧ |(Lim.step p gs x).out| ≤ Gen.db2mag p.gp.T := by
  have h1 : (Lim.step p gs x).gs ≤ Gen.limiterGain eps p.gp x := by
    show smooth p.wA p.wR gs _ ≤ _
    rw [hA]; exact smooth_zero_attack_le hp.wR0 _ _
  have h2 : lvl x + (Lim.step p gs x).gs ≤ p.gp.T := by
    rw [limiterGain_eq p.gp hp.knee] at h1
    linarith only [h1, curve_le_line (T := p.gp.T) zero_le_one hp.knee (lvl x)]
  refine ⟨h2, ?_⟩
  show |x * Gen.db2mag (Lim.step p gs x).gs| ≤ _
  rw [abs_mul, abs_of_pos (db2mag_pos _)]
  calc |x| * Gen.db2mag (Lim.step p gs x).gs
      ≤ Gen.db2mag (lvl x) * Gen.db2mag (Lim.step p gs x).gs :=
        mul_le_mul_of_nonneg_right (abs_le_db2mag_lvl x) (db2mag_pos _).le
    _ = Gen.db2mag (lvl x + (Lim.step p gs x).gs) := (db2mag_add _ _).symm
    _ ≤ Gen.db2mag p.gp.T := db2mag_le_db2mag.mpr h2

/-- **T20.3 (limiter_ceiling).**  A limiter with zero attack never lets `|out|` exceed its threshold:
for arbitrary signals, arbitrary release time and knee width, and whatever state `gs_` it starts from. -/
theorem Lim.ceiling {p : Lim ℝ} (hp : Lim.Admissible p) (hA : p.wA = 0) (gs : ℝ) (x : Array ℝ) :
    ∃ (_ : (processWith (Lim.step p) gs x).2.1.size = x.size) (h2 : (processWith (Lim.step p) gs x).2.2.size = x.size),
      ∀ i (hi : i < x.size), |(processWith (Lim.step p) gs x).2.2[i]| ≤ Gen.db2mag p.gp.T :=
  (foldPush_inv (fun g xi => let r := Lim.step p g xi; (r.gs, r.gain, r.out)) (fun _ => True)
    (fun _ _ o => |o| ≤ Gen.db2mag p.gp.T)
    (fun g xi _ => ⟨trivial, (Lim.step_ceiling hp hA g xi).2⟩) gs trivial x).2

/-- through the real constructor: `Limiter(fs, T, W, attack = 0, release)` -/
theorem Lim.ceiling_of_init {fs : ℕ} (hfs : 0 < fs) {T W tr : ℝ} {p : Lim ℝ} (h : Lim.init fs T W 0 tr = .ok p)
    (gs : ℝ) (x : Array ℝ) :
    ∃ (_ : (processWith (Lim.step p) gs x).2.1.size = x.size) (h2 : (processWith (Lim.step p) gs x).2.2.size = x.size),
      ∀ i (hi : i < x.size), |(processWith (Lim.step p) gs x).2.2[i]| ≤ Gen.db2mag T := by
  have hp := Lim.init_ok hfs h
  obtain ⟨-, -, -, -, rfl⟩ := Lim.init_eq_ok.mp h
  exact Lim.ceiling hp (coef_zero _) gs x

/-- **T20.1 through the real constructor.**  `Compressor(fs, T, R, W, ta, tr)` accepted, `fs > 0` ⇒ never amplifies. -/
theorem Comp.gain_range_of_init {fs : ℕ} (hfs : 0 < fs) {T W ta tr : ℝ} {R : ℤ} {p : Comp ℝ}
    (h : Comp.init fs T R W ta tr = .ok p) (x : Array ℝ) :
    ∃ (h1 : (processWith (Comp.step p) 0 x).2.1.size = x.size) (h2 : (processWith (Comp.step p) 0 x).2.2.size = x.size),
      ∀ i (hi : i < x.size),
        0 < (processWith (Comp.step p) 0 x).2.1[i] ∧ (processWith (Comp.step p) 0 x).2.1[i] ≤ 1 ∧
        (processWith (Comp.step p) 0 x).2.2[i] = x[i] * (processWith (Comp.step p) 0 x).2.1[i] ∧
        |(processWith (Comp.step p) 0 x).2.2[i]| ≤ |x[i]| :=
  (Comp.gain_range (Comp.init_ok hfs h) (le_refl 0) x).2

/-- **T20.2 through the real constructor:** `Compressor(fs, T, R, W, 0, 0)` realises the documented curve of
`(T, 1/R, W)` on every non-zero sample, from any state. -/
theorem Comp.static_curve_of_init {fs : ℕ} (hfs : 0 < fs) {T W : ℝ} {R : ℤ} {p : Comp ℝ}
    (h : Comp.init fs T R W 0 0 = .ok p) (gs : ℝ) {x : ℝ} (hx : x ≠ 0) :
    Gen.mag2db |(Comp.step p gs x).out| = Gen.mag2db |x| + (curve T (1 / (R : ℝ)) W (lvl x) - lvl x) := by
  have hp := Comp.init_ok hfs h
  obtain ⟨-, -, -, -, -, rfl⟩ := Comp.init_eq_ok.mp h
  exact (Comp.static_curve hp (coef_zero _) (coef_zero _) gs hx).1

/-! ## NoiseGate (T20.1: `lg ∈ [0, 1]`) -/

structure Gate.Admissible (p : Gate ℝ) : Prop where
  wA0 : 0 ≤ p.wA
  wA1 : p.wA ≤ 1
  wR0 : 0 ≤ p.wR
  wR1 : p.wR ≤ 1

theorem Gate.init_eq_ok {fs : ℕ} {T ta tr th : ℝ} {p : Gate ℝ} :
    Gate.init fs T ta tr th = .ok p ↔
      (-140 ≤ T ∧ T ≤ 0) ∧ (0 ≤ ta ∧ ta ≤ 4) ∧ (0 ≤ tr ∧ tr ≤ 4) ∧ (0 ≤ th ∧ th ≤ 4) ∧
        { tlin := Gen.db2mag T, wA := coef (fs : ℝ) ta, wR := coef (fs : ℝ) tr, tH := Fn.floor (th * (fs : ℝ)) } = p := by
  simp only [Gate.init, guard_ok, not_not, Except.ok.injEq, fn_ofNat, fn_ofInt, Int.reduceNeg, Int.cast_neg,
    Int.cast_ofNat, Nat.cast_zero, Nat.cast_ofNat]

theorem Gate.init_ok {fs : ℕ} (hfs : 0 < fs) {T ta tr th : ℝ} {p : Gate ℝ}
    (h : Gate.init fs T ta tr th = .ok p) : Gate.Admissible p := by
  obtain ⟨-, h2, h3, -, rfl⟩ := Gate.init_eq_ok.mp h
  exact ⟨(coef_unit hfs h2.1).1, (coef_unit hfs h2.1).2, (coef_unit hfs h3.1).1, (coef_unit hfs h3.1).2⟩

theorem Gate.smoothGain_range {p : Gate ℝ} (hp : Gate.Admissible p) {s : GateState ℝ}
    (hs : 0 ≤ s.lg ∧ s.lg ≤ 1) {gc : ℝ} (hgc : 0 ≤ gc ∧ gc ≤ 1) :
    0 ≤ (Gate.smoothGain p s gc).lg ∧ (Gate.smoothGain p s gc).lg ≤ 1 := by
  unfold Gate.smoothGain
  simp only [fn_ofNat, Nat.cast_one]
  split_ifs
  · exact hgc
  · exact hs
  · exact ⟨le_convex hp.wA0 hp.wA1 hs.1 hgc.1, convex_le hp.wA0 hp.wA1 hs.2 hgc.2⟩
  · exact ⟨le_convex hp.wR0 hp.wR1 hs.1 hgc.1, convex_le hp.wR0 hp.wR1 hs.2 hgc.2⟩

theorem Gate.step_range {p : Gate ℝ} (hp : Gate.Admissible p) {s : GateState ℝ} (hs : 0 ≤ s.lg ∧ s.lg ≤ 1) (x : ℝ) :
    0 ≤ (Gate.step p s x).1.lg ∧ (Gate.step p s x).1.lg ≤ 1 := by
  refine Gate.smoothGain_range hp hs ?_
  simp only [fn_ofNat, Nat.cast_one, Nat.cast_zero]
  split_ifs
  exacts [⟨zero_le_one, le_rfl⟩, ⟨le_rfl, zero_le_one⟩]

/-- **T20.1 (gain_range), NoiseGate.**  For every admitted parameter set, every signal and every earlier history
(any state with `lg_ ∈ [0,1]`, initially `0`): every emitted gain is in `[0, 1]`, `out[i] = x[i]·gain[i]`,
`|out[i]| ≤ |x[i]|`, and `lg_ ∈ [0,1]` again afterwards. -/
theorem Gate.gain_range {p : Gate ℝ} (hp : Gate.Admissible p) {s : GateState ℝ} (hs : 0 ≤ s.lg ∧ s.lg ≤ 1)
    (x : Array ℝ) :
    (0 ≤ (Gate.process p s x).1.lg ∧ (Gate.process p s x).1.lg ≤ 1) ∧
    ∃ (h1 : (Gate.process p s x).2.1.size = x.size) (h2 : (Gate.process p s x).2.2.size = x.size),
      ∀ i (hi : i < x.size),
        0 ≤ (Gate.process p s x).2.1[i] ∧ (Gate.process p s x).2.1[i] ≤ 1 ∧
        (Gate.process p s x).2.2[i] = x[i] * (Gate.process p s x).2.1[i] ∧
        |(Gate.process p s x).2.2[i]| ≤ |x[i]| :=
  foldPush_inv (Gate.step p) (fun st => 0 ≤ st.lg ∧ st.lg ≤ 1)
    (fun xi g o => 0 ≤ g ∧ g ≤ 1 ∧ o = xi * g ∧ |o| ≤ |xi|)
    (fun _ xi hst => have h := Gate.step_range hp hst xi; ⟨h, h.1, h.2, rfl, abs_mul_le_abs xi h.1 h.2⟩)
    s hs x

theorem Gate.gain_range_of_init {fs : ℕ} (hfs : 0 < fs) {T ta tr th : ℝ} {p : Gate ℝ}
    (h : Gate.init fs T ta tr th = .ok p) (x : Array ℝ) :
    ∃ (h1 : (Gate.process p Gate.init0 x).2.1.size = x.size) (h2 : (Gate.process p Gate.init0 x).2.2.size = x.size),
      ∀ i (hi : i < x.size),
        0 ≤ (Gate.process p Gate.init0 x).2.1[i] ∧ (Gate.process p Gate.init0 x).2.1[i] ≤ 1 ∧
        (Gate.process p Gate.init0 x).2.2[i] = x[i] * (Gate.process p Gate.init0 x).2.1[i] ∧
        |(Gate.process p Gate.init0 x).2.2[i]| ≤ |x[i]| :=
  (Gate.gain_range (Gate.init_ok hfs h) (s := Gate.init0) ⟨Nat.cast_nonneg 0, (Nat.cast_zero (R := ℝ)).trans_le zero_le_one⟩ x).2

/-! ## Agc (T20.5) -/

/-- the step size the loop picks (`err > 1` → rise, else fall), written on the raw expression -/
def Agc.stepSize' (p : Agc ℝ) (g P : ℝ) : ℝ := if 1 < p.target - (Real.log P + 2 * g) then p.trise else p.tfall

/-- **T20.5:** one update from log-gain `g` gives `min(maxGain, g + t·err)`, `err = target − (ln P + 2g)`, `t` the chosen
step: the clamp at `maxGain` is the only deviation from `g + t·err` (no hypothesis on `P`). -/
theorem Agc.gainStep_eq_min (p : Agc ℝ) (g P : ℝ) :
    Agc.gainStep p g P = min p.maxGain (g + Agc.stepSize' p g P * (p.target - (Real.log P + 2 * g))) := by
  simp only [Agc.gainStep, Agc.stepSize', fn_ofNat, fn_log, Nat.cast_one, Nat.cast_ofNat]
  split_ifs with h1 h2 h2
  exacts [(min_eq_left h2.le).symm, (min_eq_right (not_lt.mp h2)).symm, (min_eq_left h2.le).symm,
    (min_eq_right (not_lt.mp h2)).symm]

/-- the clamp: the log-gain never exceeds `max_gain` after an update -/
theorem Agc.gainStep_le (p : Agc ℝ) (g P : ℝ) : Agc.gainStep p g P ≤ p.maxGain := by
  rw [Agc.gainStep_eq_min]; exact min_le_left _ _

theorem Agc.init_eq_ok {tl mg tri tfa : ℝ} {n : ℤ} {ps : Agc ℝ × AgcState ℝ} :
    Agc.init tl mg n tri tfa = .ok ps ↔
      0 < n ∧ ({ trise := tri, tfall := tfa, maxGain := Real.log ((10 : ℝ) ^ (mg / 20)), target := Real.log tl },
        { gain := 1, ma := MA.init n.toNat }) = ps := by
  simp only [Agc.init, guard_ok, not_not, Except.ok.injEq, gt_iff_lt, fn_log, fn_pow, fn_ofNat, Nat.cast_ofNat, Nat.cast_one]

/-- the constructor stores `max_gain` so that `exp(maxGain) = 10^(max_gain_dB/20)` -/
theorem Agc.init_maxGain {tl mg tri tfa : ℝ} {n : ℤ} {p : Agc ℝ} {s : AgcState ℝ}
    (h : Agc.init tl mg n tri tfa = .ok (p, s)) :
    Real.exp p.maxGain = Gen.db2mag mg ∧ p.target = Real.log tl ∧ p.trise = tri ∧ p.tfall = tfa ∧ 0 < n := by
  obtain ⟨hn, hps⟩ := Agc.init_eq_ok.mp h
  obtain ⟨rfl, -⟩ := Prod.mk.inj hps
  exact ⟨by rw [Db.db2mag_real]; exact Real.exp_log (Real.rpow_pos_of_pos (by norm_num) _), rfl, rfl, rfl, hn⟩

/-- the power estimate handed to `log`, at `ℝ`: `max(ma, 0) + eps()` -/
theorem Agc.inputPower_real (m : ℝ) : Agc.inputPower m = max m 0 + eps := by
  unfold Agc.inputPower
  simp only [fn_ofNat, Nat.cast_zero]
  split_ifs with h
  · rw [max_eq_left h.le]
  · rw [max_eq_right (not_lt.mp h)]

/-- **T20.5 (the gain stays finite): the argument of `log` is positive, whatever the moving average returns.**
For EVERY value `m` of the moving-average output — positive, zero, or NEGATIVE (the recurrent sum of `MAFilter` may
end a rounding error below zero once a loud signal falls silent; at `ℝ` we do not even assume `m ≥ 0`) — the power
estimate `max(m, 0) + eps()` is at least `eps() = 2^-52 > 0`.  (Without the `max` the argument `m + eps()` is negative
for `m < -eps()`: `log` gives NaN and the gain stays NaN for good.) -/
theorem Agc.inputPower_pos (m : ℝ) : 0 < Agc.inputPower m ∧ (eps : ℝ) ≤ Agc.inputPower m := by
  rw [Agc.inputPower_real]
  exact ⟨add_pos_of_nonneg_of_pos (le_max_right m 0) eps_pos, le_add_of_nonneg_left (le_max_right m 0)⟩

theorem Agc.inputPower_ge (m : ℝ) : m + eps ≤ Agc.inputPower m := by
  rw [Agc.inputPower_real]; exact add_le_add (le_max_left m 0) le_rfl

theorem Agc.inputPower_of_nonneg {m : ℝ} (h : 0 ≤ m) : Agc.inputPower m = m + eps := by
  rw [Agc.inputPower_real, max_eq_left h]

/-- **T20.5, one sample, unfolded:** the new log-gain is `gainStep` at a POSITIVE power estimate
(so `Real.log` is evaluated inside its domain on every sample of every signal from every state) -/
theorem Agc.step_log_arg_pos (p : Agc ℝ) (s : AgcState ℝ) (pw : ℝ) :
    (Agc.step p s pw).1.gain = Agc.gainStep p s.gain (Agc.inputPower (MA.step s.ma pw).2) ∧
    (Agc.step p s pw).2 = Real.exp (Agc.step p s pw).1.gain ∧
    0 < Agc.inputPower (MA.step s.ma pw).2 :=
  ⟨rfl, rfl, (Agc.inputPower_pos _).1⟩

/-- **T20.5 (Agc never exceeds max_gain; every gain is finite)** for the loop of `_process<T>` at either sample type
(`pw` = `abs2`, `scale x g` = `x·g`): every emitted gain is positive and at most `exp(maxGain)` (`= 10^(max_gain/20)` by
`Agc.init_maxGain`), `out[i] = scale x[i] gain[i]`, and each gain is `exp` of an update taken at a power estimate `≥ eps()`.
No hypothesis on the state: the moving-average accumulator may hold ANY real (also one that makes the power estimate
negative) — the bound comes from the clamp alone, and by `Agc.inputPower_pos` the `log` inside is always taken at a
positive argument. -/
theorem Agc.fold_gains {X B : Type} (pw : X → ℝ) (scale : X → ℝ → B) (p : Agc ℝ) (s : AgcState ℝ) (x : Array X) :
    let r := x.foldl (fun (acc : AgcState ℝ × Array ℝ × Array B) xi =>
      ((Agc.step p acc.1 (pw xi)).1, acc.2.1.push (Agc.step p acc.1 (pw xi)).2,
        acc.2.2.push (scale xi (Agc.step p acc.1 (pw xi)).2))) (s, Array.mkEmpty x.size, Array.mkEmpty x.size)
    ∃ (h1 : r.2.1.size = x.size) (h2 : r.2.2.size = x.size), ∀ i (hi : i < x.size),
      (0 < r.2.1[i]'(h1 ▸ hi) ∧ r.2.1[i]'(h1 ▸ hi) ≤ Real.exp p.maxGain ∧
        r.2.2[i]'(h2 ▸ hi) = scale x[i] (r.2.1[i]'(h1 ▸ hi))) ∧
      ∃ g P : ℝ, 0 < P ∧ (eps : ℝ) ≤ P ∧ r.2.1[i]'(h1 ▸ hi) = Real.exp (Agc.gainStep p g P) :=
  (foldPush_inv (fun st xi => ((Agc.step p st (pw xi)).1, (Agc.step p st (pw xi)).2, scale xi (Agc.step p st (pw xi)).2))
    (fun _ => True)
    (fun xi g o => (0 < g ∧ g ≤ Real.exp p.maxGain ∧ o = scale xi g) ∧
      ∃ g0 P : ℝ, 0 < P ∧ (eps : ℝ) ≤ P ∧ g = Real.exp (Agc.gainStep p g0 P))
    (fun st xi _ => ⟨trivial, ⟨Real.exp_pos _, Real.exp_le_exp.mpr (Agc.gainStep_le _ _ _), rfl⟩,
      st.gain, Agc.inputPower (MA.step st.ma (pw xi)).2, (Agc.inputPower_pos _).1, (Agc.inputPower_pos _).2, rfl⟩)
    s trivial x).2

/-- **T20.5 (every gain is finite), real signals.**  For every parameter set, EVERY state (any accumulator, any
window content, any log-gain) and every signal: each emitted gain is `exp` of a log-gain update `gainStep p g P` taken
at a power estimate `P ≥ eps() > 0` — `log` never sees a non-positive argument, so no sample can produce NaN / ±inf
in exact arithmetic. -/
theorem Agc.gain_finite_real (p : Agc ℝ) (s : AgcState ℝ) (x : Array ℝ) :
    ∃ (h1 : (Agc.processR p s x).2.1.size = x.size) (_ : (Agc.processR p s x).2.2.size = x.size),
      ∀ i (hi : i < x.size), ∃ g P : ℝ, 0 < P ∧ (eps : ℝ) ≤ P ∧
        (Agc.processR p s x).2.1[i] = Real.exp (Agc.gainStep p g P) :=
  (Agc.fold_gains (fun x => x * x) (· * ·) p s x).imp fun _ => Exists.imp fun _ h i hi => (h i hi).2

/-- **T20.5 (every gain is finite), complex signals.** -/
theorem Agc.gain_finite_cmplx (p : Agc ℝ) (s : AgcState ℝ) (x : Array (Cx ℝ)) :
    ∃ (h1 : (Agc.processC p s x).2.1.size = x.size) (_ : (Agc.processC p s x).2.2.size = x.size),
      ∀ i (hi : i < x.size), ∃ g P : ℝ, 0 < P ∧ (eps : ℝ) ≤ P ∧
        (Agc.processC p s x).2.1[i] = Real.exp (Agc.gainStep p g P) :=
  (Agc.fold_gains Cx.abs2 (fun x g => (⟨x.re * g, x.im * g⟩ : Cx ℝ)) p s x).imp fun _ => Exists.imp fun _ h i hi => (h i hi).2

/-- the loop's error signal: `err = target − (ln(input_power) + 2·gain)` (log-domain level error) -/
def Agc.err (p : Agc ℝ) (g P : ℝ) : ℝ := p.target - (Real.log P + 2 * g)

/-- **T20.5 (contraction), one sample.**  Step sizes in `[0, 1/2]`, current log-gain at most `maxGain`, and the
gain REQUIRED for the target, `(target − ln P)/2`, at most `maxGain`: the clamp stays inactive and the level error
is multiplied by `1 − 2t`. -/
theorem Agc.err_step {p : Agc ℝ} (hr : 0 ≤ p.trise ∧ p.trise ≤ 1 / 2) (hf : 0 ≤ p.tfall ∧ p.tfall ≤ 1 / 2)
    {g P : ℝ} (hg : g ≤ p.maxGain) (hreq : (p.target - Real.log P) / 2 ≤ p.maxGain) :
    Agc.gainStep p g P = g + Agc.stepSize' p g P * Agc.err p g P ∧
    Agc.err p (Agc.gainStep p g P) P = (1 - 2 * Agc.stepSize' p g P) * Agc.err p g P := by
  obtain ⟨ht0, ht1⟩ : 0 ≤ Agc.stepSize' p g P ∧ Agc.stepSize' p g P ≤ 1 / 2 := ite_between hr hf _
  have e : Agc.gainStep p g P = g + Agc.stepSize' p g P * Agc.err p g P := by
    rw [Agc.gainStep_eq_min]
    -- g + t·err = (1 − 2t)·g + 2t·g*, a convex combination of g and the required gain g* ≤ maxGain
    have := convex_le (w := 1 - 2 * Agc.stepSize' p g P) (by linarith only [ht1]) (by linarith only [ht0]) hg hreq
    exact min_eq_right (by linarith only [this])
  exact ⟨e, by rw [e]; unfold Agc.err; ring⟩

/-- **T20.5 (contraction).**  For a constant input power `P` (constant-envelope input, filled averaging window) whose
required gain is at most `maxGain`, `n` samples shrink the level error geometrically:
`|err_n| ≤ (1 − 2·min(t_rise, t_fall))^n · |err_0|`; the log-gain stays `≤ maxGain` throughout. -/
theorem Agc.err_iter {p : Agc ℝ} (hr0 : 0 ≤ p.trise) (hr1 : p.trise ≤ 1 / 2) (hf0 : 0 ≤ p.tfall) (hf1 : p.tfall ≤ 1 / 2)
    {P : ℝ} (hreq : (p.target - Real.log P) / 2 ≤ p.maxGain) {g : ℝ} (hg : g ≤ p.maxGain) (n : ℕ) :
    |Agc.err p ((fun g => Agc.gainStep p g P)^[n] g) P| ≤ (1 - 2 * min p.trise p.tfall) ^ n * |Agc.err p g P| ∧
    (fun g => Agc.gainStep p g P)^[n] g ≤ p.maxGain := by
  induction n with
  | zero => rw [pow_zero, one_mul]; exact ⟨le_rfl, hg⟩
  | succ k ih =>
    rw [Function.iterate_succ_apply']
    refine ⟨?_, Agc.gainStep_le _ _ _⟩
    set gk := (fun g => Agc.gainStep p g P)^[k] g
    obtain ⟨hm, ht1⟩ : min p.trise p.tfall ≤ Agc.stepSize' p gk P ∧ Agc.stepSize' p gk P ≤ 1 / 2 :=
      ite_between ⟨min_le_left _ _, hr1⟩ ⟨min_le_right _ _, hf1⟩ _
    have hq0 : 0 ≤ 1 - 2 * Agc.stepSize' p gk P := by linarith only [ht1]
    rw [(Agc.err_step ⟨hr0, hr1⟩ ⟨hf0, hf1⟩ ih.2 hreq).2, abs_mul, abs_of_nonneg hq0, pow_succ', mul_assoc]
    exact mul_le_mul (by linarith only [hm]) ih.1 (abs_nonneg _) (hq0.trans (by linarith only [hm]))

/-- what the error means: output power `gain² · P` equals the target level times `exp(−err)` -/
theorem Agc.out_power {p : Agc ℝ} {tl : ℝ} (htl : 0 < tl) (hp : p.target = Real.log tl) {P : ℝ} (hP : 0 < P) (g : ℝ) :
    Real.exp g ^ 2 * P = tl * Real.exp (-(Agc.err p g P)) := by
  unfold Agc.err
  rw [hp]
  have : -(Real.log tl - (Real.log P + 2 * g)) = (g + g) + Real.log P - Real.log tl := by ring
  rw [this, Real.exp_sub, Real.exp_add, Real.exp_add, Real.exp_log hP, Real.exp_log htl]
  field_simp

/-- **T20.5 (target level).**  Once the level error is within `ln 1.01`, the output power is within 1 % of the
target level. (That the `Float` loop gets there is measured by the oracle.) -/
theorem Agc.level_within {p : Agc ℝ} {tl : ℝ} (htl : 0 < tl) (hp : p.target = Real.log tl) {P : ℝ} (hP : 0 < P) {g : ℝ}
    (he : |Agc.err p g P| ≤ Real.log 1.01) :
    0.99 * tl ≤ Real.exp g ^ 2 * P ∧ Real.exp g ^ 2 * P ≤ 1.01 * tl := by
  obtain ⟨h1, h2⟩ := abs_le.mp he
  have hl : (0.99 : ℝ) ≤ Real.exp (-(Agc.err p g P)) :=
    calc (0.99 : ℝ) ≤ (1.01 : ℝ)⁻¹ := by norm_num
      _ = Real.exp (-(Real.log 1.01)) := by rw [Real.exp_neg, Real.exp_log (by norm_num)]
      _ ≤ Real.exp (-(Agc.err p g P)) := Real.exp_le_exp.mpr (neg_le_neg h2)
  have hu : Real.exp (-(Agc.err p g P)) ≤ 1.01 := (Real.le_log_iff_exp_le (by norm_num)).mp (neg_le.mp h1)
  rw [Agc.out_power htl hp hP, mul_comm 0.99, mul_comm 1.01]
  exact ⟨mul_le_mul_of_nonneg_left hl htl.le, mul_le_mul_of_nonneg_left hu htl.le⟩

/-! ## Moving average: a constant-envelope input gives a constant power estimate -/

theorem MA.sum_const {a : Array ℝ} {c : ℝ} (h : ∀ i (hi : i < a.size), a[i] = c) : MA.sum a = a.size * c := by
  refine Array.foldl_induction (motive := fun i (acc : ℝ) => acc = i * c) (by simp) ?_
  rintro ⟨i, hi⟩ b rfl
  rw [Fin.getElem_fin, h i hi, Nat.cast_succ, add_one_mul]

/-- the window is full of the constant `c` and the running sum is exact -/
structure MA.Steady (m : MA ℝ) (c : ℝ) : Prop where
  size : m.buf.size = m.n
  npos : 0 < m.n
  pos : m.pos < m.n
  all : ∀ i (hi : i < m.buf.size), m.buf[i] = c
  acc : m.accum = m.n * c

/-- **T20.5 (constant-envelope input).**  Once the averaging window holds the constant power `c`, every further
sample of power `c` keeps it so and `MAFilter::process` returns exactly `c` — the `P` of `Agc.err_iter` is constant. -/
theorem MA.step_steady {m : MA ℝ} {c : ℝ} (h : MA.Steady m c) :
    MA.Steady (MA.step m c).1 c ∧ (MA.step m c).2 = c := by
  obtain ⟨hs, hn, hp, hall, hacc⟩ := h
  have hn' : (m.n : ℝ) ≠ 0 := Nat.cast_ne_zero.mpr hn.ne'
  have hsz : (m.buf.setIfInBounds m.pos c).size = m.n := Array.size_setIfInBounds.trans hs
  have hall' : ∀ i (hi : i < (m.buf.setIfInBounds m.pos c).size), (m.buf.setIfInBounds m.pos c)[i] = c := by
    intro i hi
    rw [Array.getElem_setIfInBounds]
    split_ifs
    · rfl
    · exact hall i (Array.size_setIfInBounds ▸ hi)
  have hlt : m.pos < m.buf.size := hp.trans_eq hs.symm
  have hget : m.buf.getD m.pos ((0 : ℕ) : ℝ) = c := by
    rw [Array.getD, dif_pos hlt]; exact hall m.pos hlt
  unfold MA.step
  simp only [fn_ofNat, hget]
  split_ifs with hw
  · exact ⟨⟨hsz, hn, hn, hall', (MA.sum_const hall').trans (by rw [hsz])⟩,
      by rw [MA.sum_const hall', hsz]; exact mul_div_cancel_left₀ _ hn'⟩
  · exact ⟨⟨hsz, hn, lt_of_le_of_ne hp hw, hall', (sub_add_cancel _ _).trans hacc⟩,
      by rw [sub_add_cancel, hacc]; exact mul_div_cancel_left₀ _ hn'⟩

/-! ## Non-vacuity: the hypotheses at concrete, non-trivial parameter sets -/

/-- the default compressor with a 10 dB knee, zero attack/release -/
example : Comp.Admissible { gp := { T := -10, R := 5, W := 10 }, wA := 0, wR := 0 } := by
  constructor <;> norm_num

/-- the knee's upper edge at ratio 5, knee 10 dB, threshold −10 dB (where an integer `1 / R_` gives a 1 dB jump): −5 dB in,
the characteristic gives −9 dB from BOTH sides (knee formula and compression line). -/
example : curve (-10) (1 / 5) 10 (-5) = -9 := by
  rw [curve_knee (by norm_num) (by norm_num)]; norm_num

example : curve (-10) (1 / 5) 10 (-5) = -10 + ((-5) - (-10)) * (1 / 5) := by
  rw [curve_above (by norm_num) (by norm_num)]

/-- inside the knee (−10 dB in): `−10 + (1/5 − 1)·5²/20 = −11` -/
example : curve (-10) (1 / 5) 10 (-10) = -11 := by
  rw [curve_knee (by norm_num) (by norm_num)]; norm_num

/-- limiter ceiling, 0 dB in, threshold −6 dB, knee 4 dB -/
example : curve (-6) 0 4 0 = -6 := by
  rw [curve_above (by norm_num) (by norm_num)]; norm_num

/-- 10 ms at 44.1 kHz = 441 samples to cover 10 % … 90 % -/
example : coef (44100 : ℝ) 0.01 ^ 441 = 1 / 9 := coef_pow_samples 441 (by norm_num) (by norm_num)

/-- a recurrent sum that ended at `-1/1000` (far below `-eps()`) gives the power estimate `eps()`, inside the domain of
`log`; `m + eps()` without the `max` is negative there -/
example : Agc.inputPower (-1 / 1000 : ℝ) = eps ∧ (-1 / 1000 : ℝ) + eps < 0 := by
  refine ⟨?_, ?_⟩
  · rw [Agc.inputPower_real, max_eq_right (by norm_num)]; simp
  · simp only [eps, fn_ofNat]; norm_num

/-- and an ordinary positive average is passed through unchanged -/
example : Agc.inputPower (3 : ℝ) = 3 + eps := Agc.inputPower_of_nonneg (by norm_num)

/-- AGC contraction hypotheses at the defaults (`t = 0.01`, `max_gain` 60 dB, target 1, input power 10⁻⁴):
required log-gain `ln(10⁴)/2 = ln 100 ≤ ln 1000` -/
example : let p : Agc ℝ := { trise := 0.01, tfall := 0.01, maxGain := Real.log 1000, target := Real.log 1 }
    (p.target - Real.log (1 / 10000)) / 2 ≤ p.maxGain := by
  show (Real.log 1 - Real.log (1 / 10000)) / 2 ≤ Real.log 1000
  rw [Real.log_one, one_div, Real.log_inv, show (10000 : ℝ) = 100 ^ 2 by norm_num, Real.log_pow]
  have : Real.log (100 : ℝ) ≤ Real.log 1000 := Real.log_le_log (by norm_num) (by norm_num)
  push_cast; linarith

end

end Dsp.C20
