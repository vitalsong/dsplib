import DspVerif.Props.C01
import DspVerif.Props.C15
import DspVerif.Lib.ArrayGetD
/-!
# C01 / T01.3 — the radix-2 network of `Pow2FftPlan` (`lib/fft/pow2-fft.cpp`) is the DFT

`rev t` is bit reversal by the recursion `_gen_bitrev_table` uses; `bd s w k` is what a block of size `2^s` holds at offset
`k` after `s` cascades when the gathered block is `w`. `stages_inv` is the invariant of the cascades, `bitrevTable_getD` /
`bitreverse_eq` that of the table loops and the gather; `pow2fft_eq` puts them together.
-/

open Finset Complex
namespace Dsp.C01
open Dsp Dsp.Fft Dsp.Primes

/-- bit reversal on `t` bits, by the recursion of `_gen_bitrev_table` -/
def rev : ℕ → ℕ → ℕ
  | 0, _ => 0
  | t + 1, i => if i < 2 ^ t then 2 * rev t i else 2 * rev t (i - 2 ^ t) + 1

theorem rev_lo (t i : ℕ) (h : i < 2 ^ t) : rev (t + 1) i = 2 * rev t i := by
  rw [rev, if_pos h]

theorem rev_hi (t i : ℕ) : rev (t + 1) (2 ^ t + i) = 2 * rev t i + 1 := by
  rw [rev, if_neg (by omega), Nat.add_sub_cancel_left]

theorem sum_rev : ∀ (t : ℕ) (f : ℕ → ℂ), ∑ i ∈ range (2 ^ t), f (rev t i) = ∑ j ∈ range (2 ^ t), f j
  | 0, f => by simp [rev]
  | t + 1, f => by
    rw [pow_succ, Nat.mul_two, Finset.sum_range_add]
    have h1 : ∑ i ∈ range (2 ^ t), f (rev (t + 1) i) = ∑ j ∈ range (2 ^ t), f (2 * j) := by
      rw [← sum_rev t (fun j => f (2 * j))]
      apply Finset.sum_congr rfl
      intro i hi
      rw [rev_lo t i (Finset.mem_range.mp hi)]
    have h2 : ∑ i ∈ range (2 ^ t), f (rev (t + 1) (2 ^ t + i)) = ∑ j ∈ range (2 ^ t), f (2 * j + 1) := by
      rw [← sum_rev t (fun j => f (2 * j + 1))]
      apply Finset.sum_congr rfl
      intro i _
      rw [rev_hi]
    rw [h1, h2]
    rw [← Nat.mul_two, sum_range_mul (2 ^ t) 2, Finset.sum_range_succ, Finset.sum_range_one]
    simp only [Nat.add_zero, Nat.mul_comm _ 2]

/-- the value a block of size `2^s` of the network holds at offset `k` when the gathered block is `w` -/
noncomputable def bd (s : ℕ) (w : ℕ → ℂ) (k : ℕ) : ℂ := ∑ i ∈ range (2 ^ s), w i * ω (2 ^ s) (rev s i * k)

theorem bd_congr (s : ℕ) (w w' : ℕ → ℂ) (h : ∀ i < 2 ^ s, w i = w' i) (k : ℕ) : bd s w k = bd s w' k := by
  unfold bd
  apply Finset.sum_congr rfl
  intro i hi
  rw [h i (Finset.mem_range.mp hi)]

theorem bd_period (s : ℕ) (w : ℕ → ℂ) (k : ℕ) : bd s w (k + 2 ^ s) = bd s w k := by
  unfold bd
  apply Finset.sum_congr rfl
  intro i _
  rw [Nat.mul_add, ω_add, Nat.mul_comm (rev s i) (2 ^ s), ω_self_mul _ _ (Nat.two_pow_pos s), mul_one]

/-- radix-2 decimation in time -/
theorem bd_succ (s : ℕ) (w : ℕ → ℂ) (k : ℕ) :
    bd (s + 1) w k = bd s w k + ω (2 ^ (s + 1)) k * bd s (fun i => w (2 ^ s + i)) k := by
  unfold bd
  have e : 2 ^ (s + 1) = 2 ^ s + 2 ^ s := by rw [pow_succ, Nat.mul_two]
  conv_lhs => rw [e, Finset.sum_range_add]
  rw [Finset.mul_sum]
  congr 1
  · apply Finset.sum_congr rfl
    intro i hi
    rw [← e, rev_lo s i (Finset.mem_range.mp hi), pow_succ,
      show 2 * rev s i * k = (rev s i * k) * 2 by ring, ω_scale _ 2 _ (by norm_num)]
  · apply Finset.sum_congr rfl
    intro i _
    rw [← e, rev_hi, show (2 * rev s i + 1) * k = (rev s i * k) * 2 + k by ring, ω_add]
    rw [pow_succ, ω_scale _ 2 _ (by norm_num)]
    ring

theorem bd_full (l : ℕ) (x : ℕ → ℂ) (k : ℕ) : bd l (fun i => x (rev l i)) k = dft (2 ^ l) x k := by
  unfold bd dft
  exact sum_rev l (fun j => x j * ω (2 ^ l) (j * k))

theorem ω_half_add (s k : ℕ) : ω (2 ^ (s + 1)) (2 ^ s + k) = -ω (2 ^ (s + 1)) k := by
  rw [ω_add, pow_succ, ω_half _ (Nat.two_pow_pos s)]; ring


theorem blk_lt {H D B k : ℕ} (hB : B < D) (hk : k < H) : B * H + k < D * H := by
  calc B * H + k < B * H + H := by omega
    _ = (B + 1) * H := by ring
    _ ≤ D * H := Nat.mul_le_mul_right _ hB

theorem stage_lo (H m : ℕ) (cf y : Vec ℝ) (B k : ℕ) (hk : k < H) :
    stage H m cf y (B * (2 * H) + k) =
      rd y (2 * B * H + k) + rd cf (k * m) * rd y ((2 * B + 1) * H + k) := by
  have hp : (B * (2 * H) + k) % (2 * H) = k := by
    rw [Nat.mul_add_mod']; exact Nat.mod_eq_of_lt (by omega)
  unfold stage
  simp only [hp, if_pos hk]
  congr 2
  · congr 1; ring
  · congr 1; ring

theorem stage_hi (H m : ℕ) (cf y : Vec ℝ) (B k : ℕ) (hk : k < H) :
    stage H m cf y (B * (2 * H) + (H + k)) =
      rd y (2 * B * H + k) - rd cf (k * m) * rd y ((2 * B + 1) * H + k) := by
  have hp : (B * (2 * H) + (H + k)) % (2 * H) = H + k := by
    rw [Nat.mul_add_mod']; exact Nat.mod_eq_of_lt (by omega)
  unfold stage
  simp only [hp, if_neg (show ¬ H + k < H by omega), Nat.add_sub_cancel_left]
  congr 2
  · have : B * (2 * H) + (H + k) = 2 * B * H + k + H := by ring
    rw [this, Nat.add_sub_cancel]
  · congr 1; ring

theorem stages_inv (l : ℕ) (cf y0 : Vec ℝ) (hcf : ∀ i < 2 ^ l, Cx.toC (rd cf i) = ω (2 ^ l) i) :
    ∀ s d, s + d = l → ∀ B < 2 ^ d, ∀ k < 2 ^ s,
      Cx.toC (rd (stages (2 ^ l) cf s y0) (B * 2 ^ s + k)) = bd s (fun j => seq y0 (B * 2 ^ s + j)) k
  | 0, d, _, B, _, k, hk => by
    have : k = 0 := by simpa using hk
    subst this
    simp [stages, bd, rev, ω_zero, seq]
  | s + 1, d, hl, B, hB, k, hk => by
    have ih := stages_inv l cf y0 hcf s (d + 1) (by omega)
    have hn : 2 ^ l = 2 ^ d * 2 ^ (s + 1) := by rw [← hl, pow_add, Nat.mul_comm]
    have hm : 2 ^ l / 2 ^ (s + 1) = 2 ^ d := by
      rw [hn]; exact Nat.mul_div_cancel _ (Nat.two_pow_pos _)
    have hH : 2 ^ (s + 1) = 2 * 2 ^ s := pow_succ' 2 s
    have hD : 2 ^ (d + 1) = 2 * 2 ^ d := pow_succ' 2 d
    have hidx : B * 2 ^ (s + 1) + k < 2 ^ l := by rw [hn]; exact blk_lt hB hk
    simp only [stages]
    rw [rd_mk_lt _ _ _ hidx, hm, bd_succ]
    have htw : ∀ k' < 2 ^ s, Cx.toC (rd cf (k' * 2 ^ d)) = ω (2 ^ (s + 1)) k' := by
      intro k' hk'
      have hlt : k' * 2 ^ d < 2 ^ l := by
        rw [hn, Nat.mul_comm (2 ^ d)]
        exact Nat.mul_lt_mul_of_pos_right (hk'.trans (Nat.pow_lt_pow_right one_lt_two s.lt_succ_self)) (Nat.two_pow_pos d)
      rw [hcf _ hlt, hn, Nat.mul_comm (2 ^ d), ω_scale _ _ _ (Nat.two_pow_pos d)]
    have hE : ∀ k' < 2 ^ s, Cx.toC (rd (stages (2 ^ l) cf s y0) (2 * B * 2 ^ s + k'))
        = bd s (fun j => seq y0 (B * 2 ^ (s + 1) + j)) k' := by
      intro k' hk'
      rw [ih (2 * B) (by rw [hD]; exact (Nat.mul_lt_mul_left two_pos).mpr hB) k' hk']
      apply bd_congr; intro i _; congr 1; rw [hH]; ring
    have hO : ∀ k' < 2 ^ s, Cx.toC (rd (stages (2 ^ l) cf s y0) ((2 * B + 1) * 2 ^ s + k'))
        = bd s (fun j => seq y0 (B * 2 ^ (s + 1) + (2 ^ s + j))) k' := by
      intro k' hk'
      rw [ih (2 * B + 1) (by omega) k' hk']
      apply bd_congr; intro i _; congr 1; rw [hH]; ring
    rw [hH]
    by_cases hlo : k < 2 ^ s
    · rw [stage_lo _ _ _ _ _ _ hlo, Cx.toC_add, Cx.toC_mul, htw k hlo, hE k hlo, hO k hlo, hH]
    · obtain ⟨k', rfl⟩ : ∃ k', k = 2 ^ s + k' := ⟨k - 2 ^ s, (Nat.add_sub_cancel' (not_lt.mp hlo)).symm⟩
      have hk' : k' < 2 ^ s := by rw [hH, two_mul] at hk; exact Nat.lt_of_add_lt_add_left hk
      rw [stage_hi _ _ _ _ _ _ hk', Cx.toC_sub, Cx.toC_mul, htw k' hk', hE k' hk', hO k' hk', ← hH, ω_half_add]
      rw [Nat.add_comm (2 ^ s) k', bd_period, bd_period]
      ring


/-! ## the bit-reversal table -/

/-- body of the inner loop of `_gen_bitrev_table` -/
def brStep (h : ℕ) (r : Array ℕ) (k : ℕ) : Array ℕ :=
  let r := r.setIfInBounds k (2 * r.getD k 0)
  r.setIfInBounds (k + h) (r.getD k 0 + 1)

/-- body of the outer loop -/
def brOuter (st : Array ℕ × ℕ) : Array ℕ × ℕ :=
  ((List.range st.2).foldl (brStep st.2) st.1, 2 * st.2)

theorem bitrevTable_unfold (n : ℕ) :
    bitrevTable n = ((List.range (nextpow2 n - 1)).foldl (fun st _ => brOuter st)
      (Array.replicate (n / 2) 0, 1)).1.map (fun v => 2 * v) := rfl

theorem brStep_getD (h : ℕ) (r : Array ℕ) (k : ℕ) (hk : k < h) (hs : k + h < r.size) (i : ℕ) :
    (brStep h r k).getD i 0 =
      if i = k then 2 * r.getD k 0 else if i = k + h then 2 * r.getD k 0 + 1 else r.getD i 0 := by
  unfold brStep
  have h1 : k < r.size := by omega
  -- both writes land, and the second one reads back the cell the first has just written
  rw [getD_setIfInBounds_lt _ _ _ _ _ (by rw [Array.size_setIfInBounds]; exact hs), getD_setIfInBounds_lt _ _ _ _ _ h1,
    getD_setIfInBounds_lt _ _ _ _ _ h1, if_pos rfl]
  -- the two written cells are distinct: `h > 0`
  by_cases a : i = k
  · rw [if_neg (by omega), if_pos a, if_pos a]
  · rw [if_neg a, if_neg a]

theorem inner_inv (h : ℕ) (r : Array ℕ) (hs : 2 * h ≤ r.size) : ∀ j ≤ h,
    ((List.range j).foldl (brStep h) r).size = r.size ∧
    ∀ i, ((List.range j).foldl (brStep h) r).getD i 0 =
      if i < j then 2 * r.getD i 0
      else if h ≤ i ∧ i < h + j then 2 * r.getD (i - h) 0 + 1 else r.getD i 0
  | 0, _ => by simp
  | j + 1, hj => by
    obtain ⟨h1, h2⟩ := inner_inv h r hs j (Nat.le_of_succ_le hj)
    rw [List.range_succ, List.foldl_append, List.foldl_cons, List.foldl_nil]
    refine ⟨by simp [brStep, h1], fun i => ?_⟩
    rw [brStep_getD h _ j hj (by omega) i, h2 j, h2 i, if_neg (lt_irrefl j),
      if_neg (show ¬ (h ≤ j ∧ j < h + j) from fun hh => not_le.mpr hj hh.1)]
    -- step `j` writes the cells `j` and `j + h`; elsewhere the two guards do not notice the step
    by_cases a : i = j
    · subst a; simp
    · by_cases b : i = j + h
      · subst b
        rw [if_neg a, if_pos rfl, if_neg (show ¬ j + h < j + 1 by omega),
          if_pos ⟨Nat.le_add_left _ _, by omega⟩, Nat.add_sub_cancel]
      · have c : i < j + 1 ↔ i < j := by omega
        have d : (h ≤ i ∧ i < h + (j + 1)) ↔ (h ≤ i ∧ i < h + j) := by omega
        rw [if_neg a, if_neg b]
        simp only [c, d]

theorem outer_inv (N : ℕ) : ∀ t, 2 ^ t ≤ N →
    ((List.range t).foldl (fun st _ => brOuter st) (Array.replicate N 0, 1)).2 = 2 ^ t ∧
    ((List.range t).foldl (fun st _ => brOuter st) (Array.replicate N 0, 1)).1.size = N ∧
    ∀ i < 2 ^ t, ((List.range t).foldl (fun st _ => brOuter st) (Array.replicate N 0, 1)).1.getD i 0 = rev t i
  | 0, h0 => by
    refine ⟨rfl, by simp, fun i hi => ?_⟩
    have hi0 : i = 0 := by simpa using hi
    have hN : 0 < N := by rw [pow_zero] at h0; omega
    subst hi0
    simp [rev, hN]
  | t + 1, ht => by
    have hH : 2 ^ (t + 1) = 2 * 2 ^ t := pow_succ' 2 t
    obtain ⟨h1, h2, h3⟩ := outer_inv N t (le_trans (Nat.pow_le_pow_right two_pos t.le_succ) ht)
    rw [List.range_succ, List.foldl_append, List.foldl_cons, List.foldl_nil]
    generalize (List.range t).foldl (fun st _ => brOuter st) (Array.replicate N 0, 1) = st at h1 h2 h3
    unfold brOuter
    simp only []
    rw [h1]
    obtain ⟨g1, g2⟩ := inner_inv (2 ^ t) st.1 (by rw [h2, ← hH]; exact ht) (2 ^ t) (le_refl _)
    refine ⟨by rw [hH], by rw [g1, h2], fun i hi => ?_⟩
    rw [g2 i, rev]
    by_cases c : i < 2 ^ t
    · rw [if_pos c, if_pos c, h3 i c]
    · have hi2 : i < 2 ^ t + 2 ^ t := by rw [← two_mul, ← hH]; exact hi
      rw [if_neg c, if_neg c, if_pos ⟨not_lt.mp c, hi2⟩, h3 _ (Nat.sub_lt_left_of_lt_add (not_lt.mp c) hi2)]

theorem two_pow_succ_half (l : ℕ) : 2 ^ (l + 1) / 2 = 2 ^ l := by
  rw [pow_succ]; exact Nat.mul_div_cancel _ two_pos

/-- the half table holds the doubled bit reversal on `l` bits (`n = 2^(l+1)`) -/
theorem bitrevTable_getD (l : ℕ) (hnp : nextpow2 (2 ^ (l + 1)) = l + 1) (i : ℕ) (hi : i < 2 ^ l) :
    (bitrevTable (2 ^ (l + 1))).getD i 0 = 2 * rev l i := by
  rw [bitrevTable_unfold, hnp, two_pow_succ_half, Nat.add_sub_cancel]
  obtain ⟨_, h2, h3⟩ := outer_inv (2 ^ l) l (le_refl _)
  rw [Array.getD_eq_getD_getElem?, Array.getElem?_map]
  have := h3 i hi
  rw [Array.getD_eq_getD_getElem?] at this
  rw [Array.getElem?_eq_getElem (h2.symm ▸ hi)] at this ⊢
  simpa using this

/-- `_bitreverse` gathers `x[rev i]` -/
theorem bitreverse_eq (l : ℕ) (hnp : nextpow2 (2 ^ (l + 1)) = l + 1) (x : Vec ℝ) (i : ℕ) (hi : i < 2 ^ (l + 1)) :
    bitreverse (2 ^ (l + 1)) (bitrevTable (2 ^ (l + 1))) x i = rd x (rev (l + 1) i) := by
  have hH : 2 ^ (l + 1) = 2 * 2 ^ l := pow_succ' 2 l
  unfold bitreverse
  rw [two_pow_succ_half, rev]
  by_cases c : i < 2 ^ l
  · rw [if_pos c, if_pos c, bitrevTable_getD l hnp i c]
  · rw [if_neg c, if_neg c, bitrevTable_getD l hnp _
      (Nat.sub_lt_left_of_lt_add (not_lt.mp c) (by rw [← two_mul, ← hH]; exact hi))]

/-- T01.3 for `n = 2^l`, `l ≥ 2` (so that `4 ∣ n` and the quarter-wave coefficient table is defined) -/
theorem pow2fft_pow (l : ℕ) (hl : 2 ≤ l) (hnp : nextpow2 (2 ^ l) = l) : IsDft (2 ^ l) (pow2fft (2 ^ l)) := by
  intro x k hk
  obtain ⟨l', rfl⟩ : ∃ l', l = l' + 1 := ⟨l - 1, by omega⟩
  have h4 : 4 ∣ 2 ^ (l' + 1) := by
    obtain ⟨m, rfl⟩ : ∃ m, l' = m + 1 := ⟨l' - 1, by omega⟩
    exact ⟨2 ^ m, by rw [pow_succ, pow_succ, Nat.mul_assoc, Nat.mul_comm]⟩
  unfold pow2fft
  rw [hnp]
  have hcf : ∀ i < 2 ^ (l' + 1), Cx.toC (rd (mk (2 ^ (l' + 1)) (coeffs (α := ℝ) (2 ^ (l' + 1)))) i) = ω (2 ^ (l' + 1)) i := by
    intro i hi
    rw [rd_mk_lt _ _ _ hi, coeffs_eq _ h4 (Nat.two_pow_pos _) i hi]
  have key := stages_inv (l' + 1) _ (mk (2 ^ (l' + 1)) (bitreverse (2 ^ (l' + 1)) (bitrevTable (2 ^ (l' + 1))) x))
    hcf (l' + 1) 0 rfl 0 (by norm_num) k hk
  rw [Nat.zero_mul, Nat.zero_add] at key
  rw [key, ← bd_full]
  apply bd_congr
  intro i hi
  simp only [Nat.zero_add, seq]
  rw [rd_mk_lt _ _ _ hi, bitreverse_eq l' hnp x i hi]

theorem two_pow_nextpow2 {n : ℕ} (h2 : ispow2 n = true) : 2 ^ nextpow2 n = n := by
  unfold ispow2 at h2
  simpa [Nat.one_shiftLeft] using h2

/-- T01.3: the radix-2 network of `Pow2FftPlan` (bit-reversal gather, `log2 n` butterfly cascades reading the
    quarter-wave coefficient table) is the DFT, for every length the plan is built for (`n ≥ 16` with `ispow2 n`) -/
theorem pow2fft_eq (n : ℕ) (hs : isSmall n = false) (h2 : ispow2 n = true) : IsDft n (pow2fft n) := by
  have hn := two_pow_nextpow2 h2
  have hl : 2 ≤ nextpow2 n := by
    by_contra hc
    have : nextpow2 n = 0 ∨ nextpow2 n = 1 := by omega
    rcases this with h | h <;> rw [h] at hn <;> subst hn <;> simp [isSmall] at hs
  have := pow2fft_pow (nextpow2 n) hl (congrArg nextpow2 hn)
  rwa [hn] at this

/-- corollary (T01.10 for powers of two): `fft(arr_cmplx)` / `FftPlan(n)` is the DFT for EVERY power-of-two length,
    with no component left as a hypothesis (`n < 2^32`: the range on which `isprime` is the primality test, T15) -/
theorem fftC_eq_pow2 (lit : Lits ℝ) (hl : LitsOK lit) (n : ℕ) (hn : n < 2 ^ 32) (h2 : ispow2 n = true) :
    IsDft n (fftC lit n) := by
  have hpw := two_pow_nextpow2 h2
  have hpos : 0 < n := by rw [← hpw]; exact Nat.two_pow_pos _
  apply fftC_eq_partial lit hl n hpos
  · intro hs hp _
    exfalso
    have hprime : Nat.Prime n := (C15.isprime_iff n hn).mp hp
    rw [← hpw] at hprime hs
    rw [hprime.eq_one_of_pow] at hs
    simp [isSmall] at hs
  · intro hs _ _; exact pow2fft_eq n hs h2
  · intro _ _ h; rw [h2] at h; cases h

/-! ## instances (non-vacuity) -/

/-- `rev 3` is the 3-bit reversal -/
example : (List.range 8).map (rev 3) = [0, 4, 2, 6, 1, 5, 3, 7] := by decide +kernel

/-- the half table `_gen_bitrev_table(16)` builds (already doubled) -/
example : bitrevTable 16 = #[0, 8, 4, 12, 2, 10, 6, 14] := by decide +kernel

/-- the hypotheses of `pow2fft_eq` hold at the smallest size the plan is built for, and at a larger one -/
example : isSmall 16 = false ∧ ispow2 16 = true ∧ isSmall 1024 = false ∧ ispow2 1024 = true := by decide +kernel

example : IsDft 16 (pow2fft 16) := pow2fft_eq 16 (by decide +kernel) (by decide +kernel)

example (lit : Lits ℝ) (hl : LitsOK lit) : IsDft 4096 (fftC lit 4096) :=
  fftC_eq_pow2 lit hl 4096 (by norm_num) (by decide +kernel)

end Dsp.C01
