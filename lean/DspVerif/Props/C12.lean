import DspVerif.Model.Adaptive
import DspVerif.Lib.RealFn
import DspVerif.Lib.CeilDiv
import DspVerif.Lib.Guard
import DspVerif.Lib.ListSum
import DspVerif.Lib.ArrayGetD
import Mathlib.Algebra.BigOperators.Intervals
import Mathlib.Algebra.Order.BigOperators.Group.List
import Mathlib.Tactic.Ring
import Mathlib.Tactic.FieldSimp
import Mathlib.Tactic.Linarith
import Mathlib.Tactic.Positivity
/-!
# C12 — adaptive filters report a-priori errors, honour the lock, and converge

Theorems about the executable models of `Model/Adaptive.lean` (`LmsFilter<T>`: LMS / NLMS, `RlsFilter<T>`), which the
correspondence run ties to `include/dsplib/lms.h` / `include/dsplib/rls.h` (bit-exact agreement on every emitted case).

* T12.1 (every scalar type): the buffer-indexed `LmsFilter::process` refines the clean per-sample recursion
  `(w, r) ↦ (y = w·r, e = d − y, w')`; `e = d − y` exactly; `y` uses the coefficients held before the update;
  framing independence.  `RlsFilter::process`: a-priori output and error, flat `_p[i*n+k]` update = matrix recursion.
* T12.2 (every scalar type + FIR form over ℝ and ℂ): locked ⇒ coefficients (and `P`) never change and
  `y[k] = Σ_j coeffs()[j] · x(k−j)`.
* T12.3 (ℝ): NLMS, leakage 1, noise-free: per-step misalignment identity and monotone decrease for `0 < μ < 2`,
  along every call of `process`.
Floating-point rounding is not modelled; the numeric clauses (misalignment < 1e-6, agreement with the batch weighted
least-squares solution) are measured by the oracle of `harness/c12.cpp`.
-/
set_option linter.unusedSectionVars false
set_option linter.unusedSimpArgs false

namespace Dsp.C12
open Dsp.Adaptive Dsp.Adaptive.Mixed

section generic
variable {β : Type} [Add β]

def sumL (z : β) (l : List β) : β := l.foldl (· + ·) z

theorem acc_eq_sumL (z : β) (n : Nat) (f : Nat → β) : acc z n f = sumL z ((List.range n).map f) := by
  induction n with
  | zero => rfl
  | succ n ih => simp [acc, ih, sumL, List.range_succ, List.foldl_append]

theorem toList_eq_map_range {γ : Type} (a : Array γ) (n : Nat) (z : γ) (ha : a.size = n) :
    a.toList = (List.range n).map fun i => a.getD i z := by
  apply List.ext_getElem
  · rw [Array.length_toList, ha, List.length_map, List.length_range]
  · intro i h1 _
    rw [Array.length_toList] at h1
    simp [Array.getD_eq_getD_getElem?, h1]

theorem map_range_eq_ofFn_toList {γ : Type} (n : Nat) (g : Nat → γ) :
    (List.range n).map g = (Array.ofFn (n := n) fun i => g i.val).toList := by
  apply List.ext_getElem
  · simp
  · intro i h1 _
    simp

/-- an index loop that pushes one `y`, one `e` per iteration against a recursion that conses them: if an iteration at `k`
on `R`-related states is one `step` on `zs[k]`, the loop computes the recursion -/
theorem foldl_range'_sim {A S I Y E : Type} (iter : A × Array Y × Array E → Nat → A × Array Y × Array E)
    (run : S → List I → S × List Y × List E) (step : S → I → S × Y × E)
    (hnil : ∀ c, run c [] = (c, [], []))
    (hcons : ∀ c z t, run c (z :: t) =
      ((run (step c z).1 t).1, (step c z).2.1 :: (run (step c z).1 t).2.1, (step c z).2.2 :: (run (step c z).1 t).2.2))
    (R : Nat → A → S → Prop) (zs : List I)
    (hstep : ∀ k (hk : k < zs.length) a c ys es, R k a c →
      R (k + 1) (iter (a, ys, es) k).1 (step c zs[k]).1 ∧
      (iter (a, ys, es) k).2.1 = ys.push (step c zs[k]).2.1 ∧ (iter (a, ys, es) k).2.2 = es.push (step c zs[k]).2.2) :
    ∀ (m k : Nat) (a : A) (ys : Array Y) (es : Array E) (c : S), k + m = zs.length → R k a c →
      R zs.length ((List.range' k m).foldl iter (a, ys, es)).1 (run c (zs.drop k)).1 ∧
      ((List.range' k m).foldl iter (a, ys, es)).2.1.toList = ys.toList ++ (run c (zs.drop k)).2.1 ∧
      ((List.range' k m).foldl iter (a, ys, es)).2.2.toList = es.toList ++ (run c (zs.drop k)).2.2 := by
  intro m
  induction m with
  | zero =>
    intro k a ys es c hk hR
    have hk' : k = zs.length := hk
    subst hk'
    rw [List.drop_length, hnil]
    exact ⟨hR, (List.append_nil _).symm, (List.append_nil _).symm⟩
  | succ m ih =>
    intro k a ys es c hk hR
    have hkn : k < zs.length := hk ▸ Nat.lt_add_of_pos_right (Nat.succ_pos m)
    obtain ⟨h1, h2, h3⟩ := hstep k hkn a c ys es hR
    obtain ⟨i1, i2, i3⟩ := ih (k + 1) _ (iter (a, ys, es) k).2.1 (iter (a, ys, es) k).2.2 _
      (by rw [Nat.add_assoc, Nat.add_comm 1 m]; exact hk) h1
    rw [List.range'_succ, List.foldl_cons, List.drop_eq_getElem_cons hkn, hcons]
    refine ⟨i1, ?_, ?_⟩
    · rw [i2, h2, Array.toList_push, List.append_assoc]; rfl
    · rw [i3, h3, Array.toList_push, List.append_assoc]; rfl

theorem length_zip_toList {γ : Type} {x d : Array γ} (h : x.size = d.size) : (x.toList.zip d.toList).length = x.size := by
  rw [List.length_zip, Array.length_toList, Array.length_toList, ← h, Nat.min_self]

theorem of_ok {α β γ ε : Type} {f : Except ε (α × β × γ)} {Q : α → β → γ → Prop}
    (h : ∃ a b c, f = .ok (a, b, c) ∧ Q a b c) {a : α} {b : β} {c : γ} (hf : f = .ok (a, b, c)) : Q a b c := by
  obtain ⟨a', b', c', h1, h2⟩ := h
  rw [h1] at hf
  cases hf
  exact h2

theorem flat_index {i k n : Nat} (hi : i < n) (hk : k < n) :
    i * n + k < n * n ∧ (i * n + k) / n = i ∧ (i * n + k) % n = k := by
  refine ⟨?_, (mul_add_mod_div hk i).2, (mul_add_mod_div hk i).1⟩
  calc i * n + k < i * n + n := Nat.add_lt_add_left hk _
    _ = (i + 1) * n := (Nat.succ_mul i n).symm
    _ ≤ n * n := Nat.mul_le_mul_right n hi

theorem list_induction₃ {α₁ α₂ α₃ : Type} {motive : List α₁ → List α₂ → List α₃ → Prop} (nil : motive [] [] [])
    (cons : ∀ a b c l m n, motive l m n → motive (a :: l) (b :: m) (c :: n)) :
    ∀ l m n, l.length = n.length → m.length = n.length → motive l m n := by
  intro l m n
  induction n generalizing l m with
  | nil =>
    intro h1 h2
    rw [List.eq_nil_of_length_eq_zero h1, List.eq_nil_of_length_eq_zero h2]
    exact nil
  | cons c n ih =>
    intro h1 h2
    cases l with
    | nil => simp at h1
    | cons a l =>
      cases m with
      | nil => simp at h2
      | cons b m => exact cons a b c l m n (ih l m (Nat.succ.inj h1) (Nat.succ.inj h2))

end generic

section lms
variable {ρ τ : Type} [Add ρ] [Div ρ] [Fn ρ] [Add τ] [Sub τ] [Mul τ] [Div τ] [Mixed ρ τ]

/-- state of the clean per-sample recursion: coefficient vector `w` (orientation of `_w`: the LAST entry multiplies the
newest sample) and the `len-1` previous inputs `h` (oldest first) -/
structure CState (τ : Type) where
  w : List τ
  h : List τ

variable (ρ) in
/-- `y = w · r` (summed left to right from `T(0)`, as the code does) -/
def outC (w r : List τ) : τ := sumL (zero ρ) (List.zipWith (· * ·) w r)

/-- LMS / NLMS coefficient update `w' = w·leak + mu·e·conj(r) [/ (‖r‖² + eps)]` -/
def updC (p : LmsP ρ) (w r : List τ) (e : τ) : List τ :=
  if p.nlms then
    let norm : ρ := sumL (Fn.ofNat 0) (r.map abs2) + eps
    List.zipWith (fun wi ri => mulr wi p.lk + divr (rmul p.mu e * conj ρ ri) norm) w r
  else
    List.zipWith (fun wi ri => mulr wi p.lk + rmul p.mu e * conj ρ ri) w r

/-- one sample of the clean recursion `(w, r) ↦ (y = w·r, e = d − y, w')`: the regressor is the history plus the new
sample, the output uses the coefficients held BEFORE the update, the update is skipped when locked -/
def stepC (p : LmsP ρ) (locked : Bool) (c : CState τ) (x d : τ) : CState τ × τ × τ :=
  let r := c.h ++ [x]
  let y := outC ρ c.w r
  let e := d - y
  (⟨if locked then c.w else updC p c.w r e, r.drop 1⟩, y, e)

/-- the clean recursion over a sample list `(x_k, d_k)` -/
def runC (p : LmsP ρ) (locked : Bool) : CState τ → List (τ × τ) → CState τ × List τ × List τ
  | c, [] => (c, [], [])
  | c, xd :: t =>
    let r := stepC p locked c xd.1 xd.2
    let q := runC p locked r.1 t
    (q.1, r.2.1 :: q.2.1, r.2.2 :: q.2.2)

/-- window of `n` consecutive entries of the working buffer starting at `k` -/
def win (l : List τ) (k n : Nat) : List τ := (l.drop k).take n

theorem win_eq_map_range (tu : Array τ) (k n : Nat) (z : τ) (hk : k + n ≤ tu.size) :
    win tu.toList k n = (List.range n).map fun i => tu.getD (i + k) z := by
  apply List.ext_getElem
  · rw [win, List.length_take, List.length_drop, Array.length_toList, List.length_map, List.length_range]
    exact Nat.min_eq_left (Nat.le_sub_of_add_le' hk)
  · intro i h1 h2
    rw [List.length_map, List.length_range] at h2
    have h3 : k + i < tu.size := Nat.lt_of_lt_of_le (Nat.add_lt_add_left h2 k) hk
    simp [win, Array.getD_eq_getD_getElem?, Nat.add_comm i k, h3]

theorem lmsOut_eq (len : Nat) (w tu : Array τ) (k : Nat) (hw : w.size = len) (hk : k + len ≤ tu.size) :
    lmsOut (ρ := ρ) len w tu k = outC ρ w.toList (win tu.toList k len) := by
  unfold lmsOut outC rd
  rw [acc_eq_sumL, toList_eq_map_range w len (zero ρ) hw, win_eq_map_range tu k len (zero ρ) hk, List.zipWith_map, List.zipWith_self]

theorem lmsUpd_eq (p : LmsP ρ) (w tu : Array τ) (k : Nat) (e : τ) (hw : w.size = p.len) (hk : k + p.len ≤ tu.size) :
    (lmsUpd p w tu k e).toList = updC p w.toList (win tu.toList k p.len) e := by
  unfold lmsUpd updC rd
  rw [toList_eq_map_range w p.len (zero ρ) hw, win_eq_map_range tu k p.len (zero ρ) hk, acc_eq_sumL, List.map_map]
  dsimp only
  split
  all_goals
    rw [List.zipWith_map, List.zipWith_self]
    symm
    exact map_range_eq_ofFn_toList p.len _

theorem win_snoc (l : List τ) (k n : Nat) (x : τ) (h : l[k + n]? = some x) : win l k n ++ [x] = win l k (n + 1) := by
  unfold win
  rw [List.take_add_one, List.getElem?_drop, h]; rfl

theorem win_drop_one (l : List τ) (k n : Nat) : (win l k (n + 1)).drop 1 = win l (k + 1) n := by
  unfold win
  rw [List.drop_take, List.drop_drop]
  rfl

theorem lmsUpd_size (p : LmsP ρ) (w tu : Array τ) (k : Nat) (e : τ) : (lmsUpd p w tu k e).size = p.len := by
  unfold lmsUpd; split <;> exact Array.size_ofFn

theorem lmsProcess_ok (p : LmsP ρ) (s : LmsState τ) (x d : Array τ) (hxd : x.size = d.size) :
    lmsProcess p s x d = .ok
      ({ s with u := (s.u ++ x).extract x.size (x.size + p.len - 1),
                w := ((List.range x.size).foldl (lmsIter p s.locked (s.u ++ x) d) (s.w, #[], #[])).1 },
        ((List.range x.size).foldl (lmsIter p s.locked (s.u ++ x) d) (s.w, #[], #[])).2) := by
  unfold lmsProcess
  rw [if_neg (not_not.mpr hxd)]

theorem lmsProcess_size {p : LmsP ρ} {s : LmsState τ} {x d : Array τ} {r : LmsState τ × Array τ × Array τ}
    (h : lmsProcess p s x d = .ok r) : x.size = d.size := not_not.mp (guard_ok.mp h).1

/-- before iteration `k` the clean recursion holds the coefficients `_w` and, as history, the window of the `len-1` samples
in front of `tu[len-1+k]` -/
def LmsSim (tu : Array τ) (len k : Nat) (a : Array τ) (c : CState τ) : Prop :=
  a.toList = c.w ∧ c.h = win tu.toList k (len - 1) ∧ a.size = len

/-- iteration `k` of the sample loop is one step of the clean recursion on `z.1 = tu[len-1+k]`, `z.2 = d[k]` -/
theorem lmsIter_stepC (p : LmsP ρ) (locked : Bool) (tu d : Array τ) (a ys es : Array τ) (c : CState τ) (k : Nat) (z : τ × τ)
    (hlen : 1 ≤ p.len) (hk : k + p.len ≤ tu.size) (hz1 : tu.toList[k + (p.len - 1)]? = some z.1) (hz2 : d[k]? = some z.2)
    (hR : LmsSim tu p.len k a c) :
    LmsSim tu p.len (k + 1) (lmsIter p locked tu d (a, ys, es) k).1 (stepC p locked c z.1 z.2).1 ∧
    (lmsIter p locked tu d (a, ys, es) k).2.1 = ys.push (stepC p locked c z.1 z.2).2.1 ∧
    (lmsIter p locked tu d (a, ys, es) k).2.2 = es.push (stepC p locked c z.1 z.2).2.2 := by
  obtain ⟨h1, h2, h3⟩ := hR
  have hl : p.len - 1 + 1 = p.len := Nat.sub_add_cancel hlen
  have hwin : c.h ++ [z.1] = win tu.toList k p.len := by rw [h2, win_snoc _ _ _ _ hz1, hl]
  have hout : outC ρ c.w (c.h ++ [z.1]) = lmsOut (ρ := ρ) p.len a tu k := by rw [hwin, ← h1, lmsOut_eq p.len a tu k h3 hk]
  have hdk : rd (ρ := ρ) d k = z.2 := by rw [rd, Array.getD_eq_getD_getElem?, hz2]; rfl
  simp only [lmsIter, stepC, hout, hdk, and_true]
  refine ⟨?_, ?_, ?_⟩
  · cases locked
    · simp only [Bool.false_eq_true, if_false]; rw [lmsUpd_eq p a tu k _ h3 hk, hwin, h1]
    · exact h1
  · rw [hwin, ← hl, win_drop_one, hl]
  · cases locked
    · exact lmsUpd_size p a tu k _
    · exact h3

/-- **T12.1 (LMS, NLMS; every scalar type, every input history, every frame).**  One call of the buffer-indexed
`LmsFilter::process` (working buffer `tu = _u | x`, indices `tu[i + k]`, reversed `_w`) computes exactly the clean
per-sample recursion `(w, r) ↦ (y = w·r, e = d − y, w')` run over the samples of the frame from the state
`(w, h) = (_w, _u)`: same outputs, same errors, same final coefficients and history. -/
theorem lms_refines (p : LmsP ρ) (s : LmsState τ) (x d : Array τ)
    (hlen : 1 ≤ p.len) (hu : s.u.size = p.len - 1) (hw : s.w.size = p.len) (hxd : x.size = d.size) :
    let r := runC p s.locked ⟨s.w.toList, s.u.toList⟩ (x.toList.zip d.toList)
    ∃ s' y e, lmsProcess p s x d = .ok (s', y, e) ∧ s'.locked = s.locked ∧ s'.w.size = p.len ∧ s'.u.size = p.len - 1 ∧
      s'.w.toList = r.1.w ∧ s'.u.toList = r.1.h ∧ y.toList = r.2.1 ∧ e.toList = r.2.2 := by
  intro r
  have hzl := length_zip_toList hxd
  have h0 : s.u.toList = win (s.u ++ x).toList 0 (p.len - 1) := by
    rw [win, List.drop_zero, Array.toList_append, List.take_left' (by rw [Array.length_toList, hu])]
  obtain ⟨⟨h1, h2, h5⟩, h3, h4⟩ := foldl_range'_sim (lmsIter p s.locked (s.u ++ x) d) (runC p s.locked)
    (fun c z => stepC p s.locked c z.1 z.2) (fun _ => rfl) (fun _ _ _ => rfl)
    (LmsSim (s.u ++ x) p.len) (x.toList.zip d.toList)
    (fun k hk a c ys es hR => by
      rw [hzl] at hk
      refine lmsIter_stepC p s.locked (s.u ++ x) d a ys es c k _ hlen (by rw [Array.size_append, hu]; omega) ?_ ?_ hR
      · rw [List.getElem_zip, Array.toList_append, List.getElem?_append_right (by rw [Array.length_toList, hu]; exact Nat.le_add_left _ k),
          Array.length_toList, hu, Nat.add_sub_cancel, List.getElem?_eq_getElem]
      · rw [List.getElem_zip, ← Array.getElem?_toList, List.getElem?_eq_getElem])
    x.size 0 s.w #[] #[] ⟨s.w.toList, s.u.toList⟩ (by rw [hzl, Nat.zero_add]) ⟨rfl, h0, hw⟩
  simp only [hzl, List.drop_zero, ← List.range_eq_range'] at h1 h2 h3 h4 h5
  refine ⟨_, _, _, lmsProcess_ok p s x d hxd, rfl, h5, ?_, h1, ?_, h3, h4⟩
  · rw [Array.size_extract, Array.size_append, hu, Nat.add_sub_assoc hlen, Nat.add_comm (p.len - 1), Nat.min_self,
      Nat.add_sub_cancel_left]
  · rw [h2, win, Array.toList_extract, List.extract_eq_take_drop, Nat.add_sub_assoc hlen, Nat.add_sub_cancel_left]


theorem runC_length (p : LmsP ρ) (locked : Bool) : ∀ (l : List (τ × τ)) (c : CState τ),
    (runC p locked c l).2.1.length = l.length ∧ (runC p locked c l).2.2.length = l.length := by
  intro l
  induction l with
  | nil => intro c; exact ⟨rfl, rfl⟩
  | cons a t ih => intro c; exact ⟨congrArg (· + 1) (ih _).1, congrArg (· + 1) (ih _).2⟩

/-- in the clean recursion every error is `d − y` of the same sample -/
theorem runC_err (p : LmsP ρ) (locked : Bool) : ∀ (l : List (τ × τ)) (c : CState τ),
    (runC p locked c l).2.2 = List.zipWith (fun dk yk => dk - yk) (l.map Prod.snd) (runC p locked c l).2.1 := by
  intro l
  induction l with
  | nil => intro c; rfl
  | cons a t ih => intro c; exact congrArg (_ :: ·) (ih _)

/-- **T12.1, error clause (LMS, NLMS; every scalar type).**  `e[k] = d[k] − y[k]` for every sample of every call. -/
theorem lms_error_exact (p : LmsP ρ) (s s' : LmsState τ) (x d y e : Array τ)
    (hlen : 1 ≤ p.len) (hu : s.u.size = p.len - 1) (hw : s.w.size = p.len)
    (h : lmsProcess p s x d = .ok (s', y, e)) :
    e.toList = List.zipWith (fun dk yk => dk - yk) d.toList y.toList := by
  obtain ⟨_, _, _, _, _, hy, he⟩ := of_ok (lms_refines p s x d hlen hu hw (lmsProcess_size h)) h
  rw [he, runC_err, ← hy, List.map_snd_zip (by simp [lmsProcess_size h])]

/-- running the clean recursion over a concatenation = running it over the parts in sequence -/
theorem runC_append (p : LmsP ρ) (locked : Bool) : ∀ (l1 l2 : List (τ × τ)) (c : CState τ),
    runC p locked c (l1 ++ l2) =
      ((runC p locked (runC p locked c l1).1 l2).1,
        (runC p locked c l1).2.1 ++ (runC p locked (runC p locked c l1).1 l2).2.1,
        (runC p locked c l1).2.2 ++ (runC p locked (runC p locked c l1).1 l2).2.2) := by
  intro l1
  induction l1 with
  | nil => intro l2 c; rfl
  | cons a t ih => intro l2 c; exact congrArg (fun q => (q.1, _ :: q.2.1, _ :: q.2.2)) (ih l2 _)

variable (ρ) in
/-- noise-free desired signal of the system `ws` (orientation of `_w`) driven by the inputs `xs` from history `h` -/
def desiredC (ws : List τ) : List τ → List τ → List τ
  | _, [] => []
  | h, x :: t => outC ρ ws (h ++ [x]) :: desiredC ws ((h ++ [x]).drop 1) t

/-- locked: the clean recursion never changes the coefficients -/
theorem runC_locked_w (p : LmsP ρ) : ∀ (l : List (τ × τ)) (c : CState τ), (runC p true c l).1.w = c.w := by
  intro l
  induction l with
  | nil => intro c; rfl
  | cons a t ih => intro c; exact ih (stepC p true c a.1 a.2).1

theorem updC_length (p : LmsP ρ) (w r : List τ) (e : τ) : (updC p w r e).length = min w.length r.length := by
  unfold updC; split <;> exact List.length_zipWith

/-- a quantity `M` of the coefficient vector that no update with the noise-free error of the system `ws` increases does
not increase along the clean recursion driven by `ws` (a locked sample leaves the coefficients alone) -/
theorem runC_antitone {γ : Type} [Preorder γ] (p : LmsP ρ) (locked : Bool) (ws : List τ) (M : List τ → γ)
    (hM : ∀ w r : List τ, w.length = r.length → ws.length = r.length →
      M (updC p w r (outC ρ ws r - outC ρ w r)) ≤ M w) :
    ∀ (xs : List τ) (c : CState τ), c.w.length = c.h.length + 1 → ws.length = c.h.length + 1 →
      M (runC p locked c (xs.zip (desiredC ρ ws c.h xs))).1.w ≤ M c.w := by
  intro xs
  induction xs with
  | nil => intro c _ _; exact le_refl _
  | cons x t ih =>
    intro c hw hws
    simp only [desiredC, List.zip_cons_cons, runC, stepC]
    have hr : (c.h ++ [x]).length = c.h.length + 1 := List.length_append
    have hd : ((c.h ++ [x]).drop 1).length = c.h.length := by rw [List.length_drop, hr]; rfl
    cases locked with
    | true => exact ih ⟨c.w, (c.h ++ [x]).drop 1⟩ (by rw [hd]; exact hw) (by rw [hd]; exact hws)
    | false =>
      refine le_trans (ih ⟨_, (c.h ++ [x]).drop 1⟩ ?_ (by rw [hd]; exact hws)) (hM c.w (c.h ++ [x]) (by rw [hr, hw]) (by rw [hr, hws]))
      simp only [Bool.false_eq_true, if_false, updC_length, hr, hw, hd, Nat.min_self]

theorem lmsProcess_antitone {γ : Type} [Preorder γ] (p : LmsP ρ) (ws : List τ) (M : List τ → γ)
    (hM : ∀ w r : List τ, w.length = r.length → ws.length = r.length →
      M (updC p w r (outC ρ ws r - outC ρ w r)) ≤ M w)
    (s s' : LmsState τ) (x d y e : Array τ)
    (hlen : 1 ≤ p.len) (hu : s.u.size = p.len - 1) (hw : s.w.size = p.len) (hws : ws.length = p.len)
    (hd : d.toList = desiredC ρ ws s.u.toList x.toList)
    (h : lmsProcess p s x d = .ok (s', y, e)) :
    M s'.w.toList ≤ M s.w.toList := by
  obtain ⟨_, _, _, hw1, _⟩ := of_ok (lms_refines p s x d hlen hu hw (lmsProcess_size h)) h
  rw [hw1, hd]
  have hl : s.u.toList.length + 1 = p.len := by rw [Array.length_toList, hu, Nat.sub_add_cancel hlen]
  exact runC_antitone p s.locked ws M hM x.toList ⟨s.w.toList, s.u.toList⟩
    (by rw [Array.length_toList, hw, hl]) (by rw [hws, hl])


/-- **T12.1, framing (LMS, NLMS; every scalar type).**  Processing a stream in two calls gives exactly the outputs,
errors and final state of processing it in one call — hence every framing of a stream gives the same result. -/
theorem lms_framing (p : LmsP ρ) (s s1 s2 : LmsState τ) (x1 d1 y1 e1 x2 d2 y2 e2 : Array τ)
    (hlen : 1 ≤ p.len) (hu : s.u.size = p.len - 1) (hw : s.w.size = p.len)
    (h1 : lmsProcess p s x1 d1 = .ok (s1, y1, e1)) (h2 : lmsProcess p s1 x2 d2 = .ok (s2, y2, e2)) :
    lmsProcess p s (x1 ++ x2) (d1 ++ d2) = .ok (s2, y1 ++ y2, e1 ++ e2) := by
  have hxd1 := lmsProcess_size h1
  have hxd2 := lmsProcess_size h2
  obtain ⟨l1, w1, u1, tw1, tu1, ty1, te1⟩ := of_ok (lms_refines p s x1 d1 hlen hu hw hxd1) h1
  obtain ⟨l2, _, _, tw2, tu2, ty2, te2⟩ := of_ok (lms_refines p s1 x2 d2 hlen u1 w1 hxd2) h2
  obtain ⟨s3, y3, e3, r3, l3, _, _, tw3, tu3, ty3, te3⟩ :=
    lms_refines p s (x1 ++ x2) (d1 ++ d2) hlen hu hw (by rw [Array.size_append, Array.size_append, hxd1, hxd2])
  have hzip : (x1 ++ x2).toList.zip (d1 ++ d2).toList = x1.toList.zip d1.toList ++ x2.toList.zip d2.toList := by
    rw [Array.toList_append, Array.toList_append]
    exact List.zip_append (by rw [Array.length_toList, Array.length_toList, hxd1])
  -- the clean recursion over the whole stream is the one over the first frame followed by the one over the second,
  -- which starts in the state the first call left
  have hc : (⟨s1.w.toList, s1.u.toList⟩ : CState τ) = (runC p s.locked ⟨s.w.toList, s.u.toList⟩ (x1.toList.zip d1.toList)).1 := by
    rw [tw1, tu1]
  rw [l1] at tw2 tu2 ty2 te2
  rw [hzip, runC_append, ← hc] at tw3 tu3 ty3 te3
  rw [r3]
  have ea : s3 = s2 := by
    cases s3; cases s2
    simp only [LmsState.mk.injEq]
    exact ⟨Array.toList_inj.mp (tu3.trans tu2.symm), Array.toList_inj.mp (tw3.trans tw2.symm), l3.trans (l1.symm.trans l2.symm)⟩
  have eb : y3 = y1 ++ y2 := Array.toList_inj.mp (by rw [ty3, Array.toList_append, ty1, ty2])
  have ec : e3 = e1 ++ e2 := Array.toList_inj.mp (by rw [te3, Array.toList_append, te1, te2])
  rw [ea, eb, ec]

end lms

/-! ## T12.3 -/
section real

theorem sumL_real (z : ℝ) (l : List ℝ) : sumL z l = z + l.sum :=
  (foldl_add_map id l z).trans (by rw [List.map_id])

/-- squared misalignment `‖w − w*‖²` -/
def mis (w ws : List ℝ) : ℝ := (List.zipWith (fun a b => (a - b) ^ 2) w ws).sum

/-- `Σ (w_i − w*_i) r_i` -/
def cross (w ws r : List ℝ) : ℝ := (List.zipWith (· * ·) (List.zipWith (· - ·) w ws) r).sum

/-- `Σ r_i²` -/
def pow2 (r : List ℝ) : ℝ := (r.map (fun x => x * x)).sum

theorem pow2_nonneg (r : List ℝ) : 0 ≤ pow2 r := sum_map_nonneg _ mul_self_nonneg r

theorem mis_axpy (c : ℝ) : ∀ (w ws r : List ℝ), w.length = r.length → ws.length = r.length →
    mis (List.zipWith (fun wi ri => wi + c * ri) w r) ws = mis w ws + 2 * c * cross w ws r + c ^ 2 * pow2 r := by
  refine list_induction₃ ?_ ?_
  · simp [mis, cross, pow2]
  · intro a b x w ws r ih
    simp only [mis, cross, pow2, List.zipWith_cons_cons, List.sum_cons, List.map_cons] at ih ⊢
    rw [ih]; ring

theorem out_diff : ∀ (w ws r : List ℝ), w.length = r.length → ws.length = r.length →
    cross w ws r = - (outC ℝ ws r - outC ℝ w r) := by
  refine list_induction₃ ?_ ?_
  · simp [outC, cross, sumL_real]
  · intro a b x w ws r ih
    simp only [outC, cross, sumL_real, List.zipWith_cons_cons, List.sum_cons] at ih ⊢
    rw [ih]; ring

theorem eps_pos : (0 : ℝ) < (eps : ℝ) := by
  unfold eps; simp

/-- the NLMS update at `ℝ` with leak 1 is `w + c·r`, `c = μ e / (‖r‖² + eps)` -/
theorem updC_nlms_real (p : LmsP ℝ) (hn : p.nlms = true) (hlk : p.lk = 1) (w r : List ℝ) (e : ℝ) :
    updC p w r e = List.zipWith (fun wi ri => wi + (p.mu * e / (pow2 r + eps)) * ri) w r := by
  unfold updC
  rw [if_pos hn]
  have : sumL (Fn.ofNat 0 : ℝ) (r.map abs2) = pow2 r := by
    rw [sumL_real, fn_ofNat, Nat.cast_zero, zero_add]; rfl
  simp only [this]
  congr 1
  funext wi ri
  simp only [Mixed.mulr, Mixed.divr, Mixed.rmul, Mixed.conj, hlk]
  ring

/-- **T12.3 (ℝ, per-step identity).**  NLMS, leakage 1, noise-free desired sample `d = w*·r`: one update changes the
squared misalignment `‖w − w*‖²` by exactly `− μ e² (2(p+ε) − μ p) / (p+ε)²`, `p = ‖r‖²`, `ε = eps()`, `e = d − w·r`
the a-priori error.  (`p + ε > 0` always: no division by zero is hidden.) -/
theorem nlms_misalignment_step (p : LmsP ℝ) (hn : p.nlms = true) (hlk : p.lk = 1) (w ws r : List ℝ)
    (hw : w.length = r.length) (hws : ws.length = r.length) :
    mis (updC p w r (outC ℝ ws r - outC ℝ w r)) ws
      = mis w ws - p.mu * (outC ℝ ws r - outC ℝ w r) ^ 2 * (2 * (pow2 r + eps) - p.mu * pow2 r) / (pow2 r + eps) ^ 2 := by
  rw [updC_nlms_real p hn hlk, mis_axpy _ w ws r hw hws, out_diff w ws r hw hws]
  generalize outC ℝ ws r - outC ℝ w r = e
  have hN : pow2 r + (eps : ℝ) ≠ 0 := by
    have := pow2_nonneg r; have := eps_pos; linarith
  field_simp
  ring

/-- `μq ≤ 2q ≤ 2(q+ε)` -/
theorem nlms_gain_nonneg (mu a q ε : ℝ) (hmu0 : 0 < mu) (hmu2 : mu < 2) (ha : 0 ≤ a) (hq : 0 ≤ q) (hε : 0 < ε) :
    0 ≤ mu * a * (2 * (q + ε) - mu * q) / (q + ε) ^ 2 :=
  div_nonneg (mul_nonneg (mul_nonneg hmu0.le ha) (sub_nonneg.mpr ((mul_le_mul_of_nonneg_right hmu2.le hq).trans
    (mul_le_mul_of_nonneg_left (le_add_of_nonneg_right hε.le) zero_le_two)))) (sq_nonneg _)

/-- **T12.3 (ℝ).**  For `0 < μ < 2` the squared misalignment does not increase. -/
theorem nlms_misalignment_le (p : LmsP ℝ) (hn : p.nlms = true) (hlk : p.lk = 1) (hmu0 : 0 < p.mu) (hmu2 : p.mu < 2)
    (w ws r : List ℝ) (hw : w.length = r.length) (hws : ws.length = r.length) :
    mis (updC p w r (outC ℝ ws r - outC ℝ w r)) ws ≤ mis w ws := by
  rw [nlms_misalignment_step p hn hlk w ws r hw hws]
  exact sub_le_self _ (nlms_gain_nonneg _ _ _ _ hmu0 hmu2 (sq_nonneg _) (pow2_nonneg r) eps_pos)

/-- **T12.3 (ℝ, the implementation model).**  One call of `LmsFilter<real_t>::process` in NLMS mode, leakage 1,
`0 < μ < 2`, with a desired frame that is the noise-free output of a system of the filter's length (`ws`, in the
orientation of `_w`, i.e. the flipped impulse response; the squared distance is the same for `coeffs()`), never
increases the squared coefficient misalignment — whatever the frame, the history and the lock flag. -/
theorem nlms_process_misalignment_le (p : LmsP ℝ) (hn : p.nlms = true) (hlk : p.lk = 1) (hmu0 : 0 < p.mu)
    (hmu2 : p.mu < 2) (s s' : LmsState ℝ) (x d y e : Array ℝ) (ws : List ℝ)
    (hlen : 1 ≤ p.len) (hu : s.u.size = p.len - 1) (hw : s.w.size = p.len) (hws : ws.length = p.len)
    (hd : d.toList = desiredC ℝ ws s.u.toList x.toList)
    (h : lmsProcess p s x d = .ok (s', y, e)) :
    mis s'.w.toList ws ≤ mis s.w.toList ws :=
  lmsProcess_antitone p ws (mis · ws) (fun w r => nlms_misalignment_le p hn hlk hmu0 hmu2 w ws r) s s' x d y e
    hlen hu hw hws hd h

end real

section lockedlms
variable {ρ τ : Type} [Add ρ] [Div ρ] [Fn ρ] [Add τ] [Sub τ] [Mul τ] [Div τ] [Mixed ρ τ]

theorem lms_loop_locked (p : LmsP ρ) (tu d : Array τ) : ∀ (m k : Nat) (a : Array τ × Array τ × Array τ),
    ((List.range' k m).foldl (lmsIter p true tu d) a).1 = a.1 ∧
    ((List.range' k m).foldl (lmsIter p true tu d) a).2.1.toList
      = a.2.1.toList ++ (List.range' k m).map (fun j => lmsOut (ρ := ρ) p.len a.1 tu j) := by
  intro m
  induction m with
  | zero => intro k a; simp
  | succ m ih =>
    intro k a
    simp only [List.range'_succ, List.foldl_cons]
    obtain ⟨h1, h2⟩ := ih (k + 1) (lmsIter p true tu d a k)
    rw [h1, h2]
    simp [lmsIter]

/-- **T12.2 (LMS, NLMS; every scalar type, no size hypothesis).**  With adaptation locked a call of `process` leaves
`_w` — hence `coeffs()` — untouched, and every output sample is the fixed inner product of that coefficient vector
with the working-buffer window: `y[k] = Σ_i _w[i]·tu[i+k]`, `tu = _u | x`. -/
theorem lms_locked (p : LmsP ρ) (s s' : LmsState τ) (x d y e : Array τ) (hl : s.locked = true)
    (h : lmsProcess p s x d = .ok (s', y, e)) :
    s'.w = s.w ∧ s'.coeffs = s.coeffs ∧ s'.locked = true ∧
      y.toList = (List.range x.size).map (fun k => lmsOut (ρ := ρ) p.len s.w (s.u ++ x) k) := by
  obtain ⟨-, h⟩ := guard_ok.mp h
  cases h
  obtain ⟨h1, h2⟩ := lms_loop_locked p (s.u ++ x) d x.size 0 (s.w, #[], #[])
  rw [hl, List.range_eq_range']
  exact ⟨h1, congrArg Array.reverse h1, rfl, h2⟩

end lockedlms

/-! ### the FIR form `y[k] = Σ_j coeffs()[j] · x(k − j)` -/
section fir
open Finset

theorem acc_eq_sum {β : Type} [AddCommMonoid β] (n : Nat) (f : Nat → β) : acc (0 : β) n f = ∑ i ∈ range n, f i := by
  induction n with
  | zero => exact (Finset.sum_range_zero f).symm
  | succ n ih => rw [Finset.sum_range_succ, ← ih]; rfl

/-- re-indexing `i ↦ j = len-1-i`: `_w[i]` is `coeffs()[j]`, `tu[i+k]` is the input `j` samples before `tu[len-1+k]` -/
theorem sum_reflect_fir {β γ : Type} [AddCommMonoid β] (F : γ → γ → β) (z : γ) (len : Nat) (w tu : Array γ) (k : Nat)
    (hw : w.size = len) :
    ∑ i ∈ range len, F (w.getD i z) (tu.getD (i + k) z)
      = ∑ j ∈ range len, F (w.reverse.getD j z) (tu.getD (len - 1 + k - j) z) := by
  rw [← Finset.sum_range_reflect]
  apply Finset.sum_congr rfl
  intro j hj
  have hj : j < len := Finset.mem_range.mp hj
  rw [getD_reverse w j z (hw ▸ hj), hw, Nat.sub_add_comm (Nat.le_sub_one_of_lt hj)]

/-- **T12.2, FIR form over any (semi)ring — in particular `ℝ`.**  The locked output is the FIR sum with `coeffs()`:
`Σ_i _w[i]·tu[i+k] = Σ_j coeffs()[j]·tu[(len-1+k) − j]`, `tu[len-1+k] = x[k]` being the current input sample. -/
theorem lmsOut_fir {ρ τ : Type} [NonUnitalNonAssocSemiring τ] [Mixed ρ τ] (hz : Mixed.zero ρ = (0 : τ))
    (len : Nat) (w tu : Array τ) (k : Nat) (hw : w.size = len) :
    lmsOut (ρ := ρ) len w tu k
      = ∑ j ∈ range len, rd (ρ := ρ) w.reverse j * rd (ρ := ρ) tu (len - 1 + k - j) := by
  unfold lmsOut rd
  rw [hz, acc_eq_sum]
  exact sum_reflect_fir (· * ·) 0 len w tu k hw

theorem zero_real : Mixed.zero ℝ = (0 : ℝ) := by simp [Mixed.zero]

/-- `ℝ` instance of the FIR form, with `coeffs()` spelled out -/
theorem lms_locked_fir_real (len : Nat) (s : LmsState ℝ) (tu : Array ℝ) (k : Nat) (hw : s.w.size = len) :
    lmsOut (ρ := ℝ) len s.w tu k = ∑ j ∈ range len, s.coeffs.getD j 0 * tu.getD (len - 1 + k - j) 0 := by
  rw [lmsOut_fir (ρ := ℝ) zero_real len s.w tu k hw]
  simp only [rd, zero_real, LmsState.coeffs]

theorem toC_zero : Cx.toC (Mixed.zero ℝ : Cx ℝ) = 0 := by
  apply Complex.ext <;> simp [Mixed.zero]

theorem toC_acc (n : Nat) (f : Nat → Cx ℝ) : Cx.toC (acc (Mixed.zero ℝ) n f) = ∑ i ∈ range n, Cx.toC (f i) := by
  induction n with
  | zero => rw [Finset.sum_range_zero]; exact toC_zero
  | succ n ih => rw [Finset.sum_range_succ, ← ih, ← Cx.toC_add]; rfl

/-- **T12.2, FIR form for complex data** (through `toC : Cx ℝ → ℂ`): no conjugation of the coefficients. -/
theorem lms_locked_fir_complex (len : Nat) (s : LmsState (Cx ℝ)) (tu : Array (Cx ℝ)) (k : Nat) (hw : s.w.size = len) :
    Cx.toC (lmsOut (ρ := ℝ) len s.w tu k)
      = ∑ j ∈ range len, Cx.toC (s.coeffs.getD j (Mixed.zero ℝ)) * Cx.toC (tu.getD (len - 1 + k - j) (Mixed.zero ℝ)) := by
  unfold lmsOut rd
  rw [toC_acc]
  simp only [Cx.toC_mul]
  exact sum_reflect_fir (fun a b => Cx.toC a * Cx.toC b) (Mixed.zero ℝ) len s.w tu k hw

end fir

section rls
variable {ρ τ : Type} [Add ρ] [Div ρ] [Fn ρ] [Add τ] [Sub τ] [Mul τ] [Div τ] [Mixed ρ τ]

variable (ρ) in
/-- the delay line after `memmove(_u + 1, _u, n - 1); _u[0] = x`: newest sample first -/
def shiftIn (n : Nat) (u : Array τ) (x : τ) : Array τ :=
  Array.ofFn (n := n) fun i => if i.val = 0 then x else rd (ρ := ρ) u (i.val - 1)

theorem rd_ofFn (n : Nat) (f : Fin n → τ) (i : Nat) (hi : i < n) : rd (ρ := ρ) (Array.ofFn f) i = f ⟨i, hi⟩ := by
  simp [rd, hi]

theorem shiftIn_zero (n : Nat) (u : Array τ) (x : τ) (hn : 0 < n) : rd (ρ := ρ) (shiftIn ρ n u x) 0 = x := by
  unfold shiftIn; rw [rd_ofFn _ _ _ hn]; simp

theorem shiftIn_succ (n : Nat) (u : Array τ) (x : τ) (i : Nat) (hi : i + 1 < n) :
    rd (ρ := ρ) (shiftIn ρ n u x) (i + 1) = rd (ρ := ρ) u i := by
  unfold shiftIn; rw [rd_ofFn _ _ _ hi]; exact if_neg (Nat.succ_ne_zero i)

/-- **T12.1 (RLS; every scalar type, every state, locked or not).**  One iteration of the sample loop of
`RlsFilter::process`: the new sample is shifted into the delay line, the output is the inner product of the
coefficient vector held BEFORE the update with that delay line, and the error is exactly `d − y`. -/
theorem rls_step_apriori (P : RlsP ρ) (s : RlsState τ) (x d : τ) :
    (rlsStep P s x d).y = dot (ρ := ρ) P.n s.w (shiftIn ρ P.n s.u x) ∧
    (rlsStep P s x d).e = d - (rlsStep P s x d).y ∧
    (rlsStep P s x d).s.u = shiftIn ρ P.n s.u x ∧
    (rlsStep P s x d).s.locked = s.locked := by
  obtain ⟨u, w, p, locked⟩ := s
  cases locked <;> exact ⟨rfl, rfl, rfl, rfl⟩

/-- **T12.2 (RLS, one sample).**  Locked: neither the coefficients nor the inverse-correlation matrix change. -/
theorem rls_step_locked (P : RlsP ρ) (s : RlsState τ) (x d : τ) (hl : s.locked = true) :
    (rlsStep P s x d).s.w = s.w ∧ (rlsStep P s x d).s.p = s.p := by
  obtain ⟨u, w, p, locked⟩ := s
  cases hl
  exact ⟨rfl, rfl⟩

theorem acc_congr {β : Type} [Add β] (z : β) (n : Nat) (f g : Nat → β) (h : ∀ i, i < n → f i = g i) :
    acc z n f = acc z n g := by
  induction n with
  | zero => rfl
  | succ n ih => simp only [acc]; rw [ih (fun i hi => h i (Nat.lt_succ_of_lt hi)), h n (Nat.lt_succ_self n)]

variable (ρ) in
/-- matrix entry `P i k` of the flat row-major `_p` -/
def rlsPm (n : Nat) (p : Array τ) (i k : Nat) : τ := rd (ρ := ρ) p (i * n + k)
variable (ρ) in
/-- `(P u)_i` -/
def rlsPu (n : Nat) (p u : Array τ) (i : Nat) : τ := acc (zero ρ) n fun k => rlsPm ρ n p i k * rd (ρ := ρ) u k
variable (ρ) in
/-- `(uᴴ P)_i` -/
def rlsUP (n : Nat) (p u : Array τ) (i : Nat) : τ := acc (zero ρ) n fun k => conj ρ (rd (ρ := ρ) u k) * rlsPm ρ n p k i
/-- `λ + uᴴ P u` -/
def rlsDen (P : RlsP ρ) (p u : Array τ) : τ := radd P.mu (acc (zero ρ) P.n fun i => rlsUP ρ P.n p u i * rd (ρ := ρ) u i)
/-- gain `g_i = (P u)_i / (λ + uᴴ P u)` -/
def rlsGain (P : RlsP ρ) (p u : Array τ) (i : Nat) : τ := rlsPu ρ P.n p u i / rlsDen P p u

/-- **T12.1 (RLS update; every scalar type).**  Unlocked, the flat row-major `_p[i*n+k]` code performs the matrix
recursion `g = P u / (λ + uᴴ P u)`, `P' = λ⁻¹ (P − g (uᴴ P))`, `w' = w + conj(g) e` — stated entry-wise,
exactly as the code conjugates (`uᴴ P` uses `conj(u)`, the output `w·u` does not). -/
theorem rls_step_update (P : RlsP ρ) (s : RlsState τ) (x d : τ) (hl : s.locked = false) :
    (∀ i k, i < P.n → k < P.n →
      rd (ρ := ρ) (rlsStep P s x d).s.p (i * P.n + k)
        = rmul (Fn.ofNat 1 / P.mu) (rlsPm ρ P.n s.p i k
            - rlsGain P s.p (shiftIn ρ P.n s.u x) i * rlsUP ρ P.n s.p (shiftIn ρ P.n s.u x) k)) ∧
    (∀ i, i < P.n → rd (ρ := ρ) (rlsStep P s x d).s.w i
        = rd (ρ := ρ) s.w i + conj ρ (rlsGain P s.p (shiftIn ρ P.n s.u x) i) * (rlsStep P s x d).e) := by
  have hden : ∀ (F : Fin P.n → τ) (G : Nat → τ) (u : Array τ), (∀ i (hi : i < P.n), F ⟨i, hi⟩ = G i) →
      dot (ρ := ρ) P.n (Array.ofFn F) u = acc (zero ρ) P.n fun i => G i * rd (ρ := ρ) u i := by
    intro F G u hFG
    unfold dot
    apply acc_congr
    intro i hi
    rw [rd_ofFn _ _ _ hi, hFG i hi]
  simp only [rlsStep, hl, Bool.false_eq_true, if_false]
  rw [hden _ (fun i => rlsUP ρ P.n s.p (shiftIn ρ P.n s.u x) i) _ (fun i hi => rfl)]
  constructor
  · intro i k hi hk
    obtain ⟨hik, hdiv, hmod⟩ := flat_index hi hk
    rw [rd_ofFn _ _ _ hik]
    simp only [hdiv, hmod]
    rw [rd_ofFn _ _ _ hi, rd_ofFn _ _ _ hk, rd_ofFn _ _ _ hi]
    rfl
  · intro i hi
    rw [rd_ofFn _ _ _ hi, rd_ofFn _ _ _ hi, rd_ofFn _ _ _ hi]
    rfl

/-- the clean per-sample recursion of the RLS filter over a sample list -/
def runR (P : RlsP ρ) : RlsState τ → List (τ × τ) → RlsState τ × List τ × List τ
  | s, [] => (s, [], [])
  | s, xd :: t =>
    let r := rlsStep P s xd.1 xd.2
    let q := runR P r.s t
    (q.1, r.y :: q.2.1, r.e :: q.2.2)

theorem rlsProcess_ok (P : RlsP ρ) (s : RlsState τ) (x d : Array τ) (hxd : x.size = d.size) :
    rlsProcess P s x d = .ok ((List.range x.size).foldl (rlsIter P x d) (s, #[], #[])) := by
  unfold rlsProcess
  rw [if_neg (not_not.mpr hxd)]

/-- **T12.1 (RLS, whole calls; framing).**  `RlsFilter::process` on a frame is the per-sample recursion `rlsStep`
run over the samples of the frame; consequently any framing of a stream gives the same outputs and final state. -/
theorem rls_refines (P : RlsP ρ) (s : RlsState τ) (x d : Array τ) (hxd : x.size = d.size) :
    ∃ s' y e, rlsProcess P s x d = .ok (s', y, e) ∧ s' = (runR P s (x.toList.zip d.toList)).1 ∧
      y.toList = (runR P s (x.toList.zip d.toList)).2.1 ∧ e.toList = (runR P s (x.toList.zip d.toList)).2.2 := by
  have hzl := length_zip_toList hxd
  obtain ⟨h1, h2, h3⟩ := foldl_range'_sim (rlsIter P x d) (runR P)
    (fun s z => ((rlsStep P s z.1 z.2).s, (rlsStep P s z.1 z.2).y, (rlsStep P s z.1 z.2).e)) (fun _ => rfl)
    (fun _ _ _ => rfl) (fun _ a c => a = c) (x.toList.zip d.toList)
    (fun k hk a c ys es hR => by
      have hk' : k < x.size := hzl ▸ hk
      have hxk : rd (ρ := ρ) x k = ((x.toList.zip d.toList)[k]).1 := by
        rw [List.getElem_zip, rd, Array.getD_eq_getD_getElem?, Array.getElem?_eq_getElem hk']; rfl
      have hdk : rd (ρ := ρ) d k = ((x.toList.zip d.toList)[k]).2 := by
        rw [List.getElem_zip, rd, Array.getD_eq_getD_getElem?, Array.getElem?_eq_getElem (hxd ▸ hk')]; rfl
      subst hR
      simp only [rlsIter, hxk, hdk, and_self])
    x.size 0 s #[] #[] s (by rw [hzl, Nat.zero_add]) rfl
  simp only [hzl, List.drop_zero, ← List.range_eq_range'] at h1 h2 h3
  exact ⟨_, _, _, rlsProcess_ok P s x d hxd, h1, h2, h3⟩

theorem rlsProcess_size {P : RlsP ρ} {s : RlsState τ} {x d : Array τ} {r : RlsState τ × Array τ × Array τ}
    (h : rlsProcess P s x d = .ok r) : x.size = d.size := not_not.mp (guard_ok.mp h).1

theorem runR_append (P : RlsP ρ) : ∀ (l1 l2 : List (τ × τ)) (s : RlsState τ),
    runR P s (l1 ++ l2) =
      ((runR P (runR P s l1).1 l2).1, (runR P s l1).2.1 ++ (runR P (runR P s l1).1 l2).2.1,
        (runR P s l1).2.2 ++ (runR P (runR P s l1).1 l2).2.2) := by
  intro l1
  induction l1 with
  | nil => intro l2 s; rfl
  | cons a t ih => intro l2 s; exact congrArg (fun q => (q.1, _ :: q.2.1, _ :: q.2.2)) (ih l2 _)

/-- **T12.2 (RLS, whole runs).**  Locked: after any number of samples the coefficients `coeffs()` and the matrix `_p`
are unchanged (and the filter is still locked). -/
theorem runR_locked (P : RlsP ρ) : ∀ (l : List (τ × τ)) (s : RlsState τ), s.locked = true →
    (runR P s l).1.w = s.w ∧ (runR P s l).1.p = s.p ∧ (runR P s l).1.locked = true := by
  intro l
  induction l with
  | nil => intro s hl; simp [runR, hl]
  | cons a t ih =>
    intro s hl
    have h4 := (rls_step_apriori P s a.1 a.2).2.2.2
    obtain ⟨h5, h6⟩ := rls_step_locked P s a.1 a.2 hl
    obtain ⟨i1, i2, i3⟩ := ih (rlsStep P s a.1 a.2).s (by rw [h4, hl])
    simp only [runR]
    exact ⟨by rw [i1, h5], by rw [i2, h6], i3⟩

/-- **T12.2 (RLS, the implementation model).**  A locked call of `process` never changes `coeffs()` nor `_p`. -/
theorem rls_locked (P : RlsP ρ) (s s' : RlsState τ) (x d y e : Array τ) (hl : s.locked = true)
    (h : rlsProcess P s x d = .ok (s', y, e)) : s'.coeffs = s.coeffs ∧ s'.p = s.p ∧ s'.locked = true := by
  rw [(of_ok (rls_refines P s x d (rlsProcess_size h)) h).1]
  exact runR_locked P _ s hl

end rls

/-! ### RLS output as a sum; non-vacuity -/
section rlsfir
open Finset

/-- **T12.2 (RLS, FIR form over ℝ).**  The `dot` of `rls_step_apriori` is `Σ_i w[i] · u[i]`; there `w` is `_w` and `u` the
delay line with `u[0]` the current input and `u[i]` the input `i` samples earlier (`shiftIn_zero`, `shiftIn_succ`). -/
theorem rls_dot_real (n : Nat) (w u : Array ℝ) :
    dot (ρ := ℝ) n w u = ∑ i ∈ range n, w.getD i 0 * u.getD i 0 := by
  unfold dot rd
  rw [zero_real, acc_eq_sum]

/-- **T12.2 (RLS, FIR form for complex data)**: no conjugation of the coefficients (as the code does). -/
theorem rls_dot_complex (n : Nat) (w u : Array (Cx ℝ)) :
    Cx.toC (dot (ρ := ℝ) n w u)
      = ∑ i ∈ range n, Cx.toC (w.getD i (Mixed.zero ℝ)) * Cx.toC (u.getD i (Mixed.zero ℝ)) := by
  unfold dot rd
  rw [toC_acc]
  simp only [Cx.toC_mul]

end rlsfir

section nonvacuity
variable {ρ τ : Type} [Add ρ] [Div ρ] [Fn ρ] [Add τ] [Sub τ] [Mul τ] [Div τ] [Mixed ρ τ]

/-- the constructor establishes the size invariant that `lms_refines` assumes and preserves: the hypotheses of the
LMS theorems hold in every reachable state -/
theorem lmsInit_sizes (p : LmsP ρ) :
    (lmsInit p : LmsState τ).u.size = p.len - 1 ∧ (lmsInit p : LmsState τ).w.size = p.len ∧
      (lmsInit p : LmsState τ).locked = false := by
  simp [lmsInit]

/-- a concrete NLMS filter of length 3 -/
noncomputable def exP : LmsP ℝ := ⟨3, 1 / 2, true, 1⟩

/-- non-vacuity of `lms_refines` / `lms_error_exact`: `exP` on a 2-sample frame from the constructor state -/
example : ∃ (s' : LmsState ℝ) (y e : Array ℝ),
    lmsProcess exP (lmsInit exP : LmsState ℝ) (#[1, 2] : Array ℝ) (#[3, 4] : Array ℝ) = .ok (s', y, e) ∧
    e.toList = List.zipWith (fun dk yk => dk - yk) [3, 4] y.toList := by
  have h := lmsProcess_ok exP (lmsInit exP : LmsState ℝ) (#[1, 2] : Array ℝ) (#[3, 4] : Array ℝ) rfl
  exact ⟨_, _, _, h, lms_error_exact exP _ _ _ _ _ _ (by decide) (lmsInit_sizes exP).1 (lmsInit_sizes exP).2.1 h⟩

/-- non-vacuity of T12.3: `w = 0`, system `[1, 2]`, regressor `[1, 1]`, `μ = 1` -/
example : mis (updC (⟨2, 1, true, 1⟩ : LmsP ℝ) [0, 0] [1, 1] (outC ℝ [1, 2] [1, 1] - outC ℝ [0, 0] [1, 1])) [1, 2]
    ≤ mis [0, 0] [1, 2] :=
  nlms_misalignment_le _ rfl rfl (by norm_num) (by norm_num) _ _ _ rfl rfl

/-- the noise-free hypothesis of `nlms_process_misalignment_le` is satisfiable for every input frame -/
example (ws h : List ℝ) (x : Array ℝ) : ∃ d : Array ℝ, d.toList = desiredC ℝ ws h x.toList :=
  ⟨(desiredC ℝ ws h x.toList).toArray, by simp⟩

/-- non-vacuity of `rls_step_update` / `rls_locked`: both lock states are reachable (`setLock`) from the constructor -/
example (P : RlsP ℝ) (dl : ℝ) : ((rlsInit P dl : RlsState ℝ).setLock true).locked = true ∧
    (rlsInit P dl : RlsState ℝ).locked = false := by
  simp [rlsInit, RlsState.setLock]

end nonvacuity

end Dsp.C12
