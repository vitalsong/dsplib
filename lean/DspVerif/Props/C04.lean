import DspVerif.Model.Slice
import DspVerif.Lib.CeilDiv
import DspVerif.Lib.Guard
import Mathlib.Tactic.Ring
import Mathlib.Tactic.SplitIfs
import Mathlib.Data.List.Nodup
/-!
# C04 — slices select and assign exactly the numpy-designated elements

Theorems about `Gen.BaseSlice.ctor` (REGENERATED from `include/dsplib/slice.h` on every run) and the
hand-written `Model/Slice`.  `n` is the array length (`n ≥ 0`); `i1 i2 m` range over all of `Int`.
-/
namespace Dsp.C04
open Dsp Dsp.Gen Dsp.Slice

def res (n i : Int) : Int := if i < 0 then n + i else i

/-- `_nc` as the constructor computes it -/
def count (r1 r2 m : Int) : Int :=
  if Int.tmod (Int.ofNat (Int.natAbs (r2 - r1))) (Int.ofNat (Int.natAbs m)) ≠ 0
  then Int.tdiv (Int.ofNat (Int.natAbs (r2 - r1))) (Int.ofNat (Int.natAbs m)) + 1
  else Int.tdiv (Int.ofNat (Int.natAbs (r2 - r1))) (Int.ofNat (Int.natAbs m))

def built (n i1 i2 m : Int) : BaseSlice :=
  { i1 := res n i1, i2 := res n i2, m := m, n := n, nc := count (res n i1) (res n i2) m }

/-- the accepted region, in resolved indices (as the constructor tests it) -/
def Accept (n i1 i2 m : Int) : Prop :=
  n ≠ 0 ∧ m ≠ 0 ∧ ¬(res n i1 < 0 ∨ res n i1 ≥ n) ∧ ¬(res n i2 < 0 ∨ res n i2 > n) ∧
    ¬(m < 0 ∧ res n i1 < res n i2) ∧ ¬(m > 0 ∧ res n i1 > res n i2) ∧ ¬ (count (res n i1) (res n i2) m > n)

theorem res_fold (n i : Int) : (if i < 0 then n + i else i) = res n i := rfl

/-- Bridge from the REGENERATED constructor to `Accept`/`built`: it returns `s` exactly on accepted arguments, and then
    `s = built`.  The proof does not depend on the shape of the generated term (order of tests, how `_nc` is assembled,
    duplicated continuations): the index resolution is folded into `res`, the opaque sub-terms are abstracted, the one
    test that is not a guard (`d % tm ≠ 0`) is decided, and each guard `if c then throw else k` contributes the conjunct
    `¬ c` (`guard_ok`); both sides are then conjunctions of the same facts, and each rewrites the other to `True`. -/
theorem ctor_ok_iff (n i1 i2 m : Int) (s : BaseSlice) :
    BaseSlice.ctor n i1 i2 m = .ok s ↔ Accept n i1 i2 m ∧ s = built n i1 i2 m := by
  unfold BaseSlice.ctor Accept built count
  simp only [res_fold]
  generalize res n i1 = r1
  generalize res n i2 = r2
  generalize Int.tmod (Int.ofNat (Int.natAbs (r2 - r1))) (Int.ofNat (Int.natAbs m)) = md
  generalize Int.tdiv (Int.ofNat (Int.natAbs (r2 - r1))) (Int.ofNat (Int.natAbs m)) = dv
  by_cases hmd : md = 0 <;>
    simp only [hmd, ne_eq, not_true_eq_false, not_false_eq_true, if_true, if_false, guard_ok, Except.ok.injEq, not_not] <;>
    constructor <;> intro h <;> simp only [h, not_false_eq_true, and_self]

theorem ctor_spec (n i1 i2 m : Int) :
    (Accept n i1 i2 m → BaseSlice.ctor n i1 i2 m = .ok (built n i1 i2 m)) ∧
    (¬ Accept n i1 i2 m → ∃ e, BaseSlice.ctor n i1 i2 m = .error e) := by
  refine ⟨fun ha => (ctor_ok_iff n i1 i2 m _).2 ⟨ha, rfl⟩, fun ha => ?_⟩
  cases h : BaseSlice.ctor n i1 i2 m with
  | error e => exact ⟨e, rfl⟩
  | ok s => exact absurd ((ctor_ok_iff n i1 i2 m s).1 h).1 ha

/-! ### the element count -/

/-- for a non-zero step the count is `⌈|r2 - r1| / |m|⌉` -/
theorem count_spec (r1 r2 m : Int) (hm : m ≠ 0) :
    0 ≤ count r1 r2 m ∧ (count r1 r2 m - 1) * (Int.natAbs m : Int) < (Int.natAbs (r2 - r1) : Int) ∧
      (Int.natAbs (r2 - r1) : Int) ≤ count r1 r2 m * (Int.natAbs m : Int) ∧
      ((Int.natAbs (r2 - r1) : Int) = 0 → count r1 r2 m = 0) :=
  ceilDiv_spec (Int.natCast_nonneg _) (show (0 : Int) < (Int.natAbs m : Int) by omega)

/-- for every step (also `m = 0`, where C++ would divide by zero and `count` is 0 or 1) -/
theorem count_range (r1 r2 m : Int) : 0 ≤ count r1 r2 m ∧ count r1 r2 m ≤ (Int.natAbs (r2 - r1) : Int) := by
  by_cases hm : m = 0
  · subst hm
    unfold count
    simp only [Int.ofNat_eq_natCast, Int.natAbs_zero, Int.tmod_zero, Int.tdiv_zero, Int.natCast_zero]
    split <;> omega
  · obtain ⟨h0, h1, -, -⟩ := count_spec r1 r2 m hm
    refine ⟨h0, ?_⟩
    rcases Int.lt_or_le 0 (count r1 r2 m) with h | h
    · -- `count - 1 ≤ (count - 1)·|m| < |r2 - r1|`
      have := Int.mul_le_mul_of_nonneg_left (show (1 : Int) ≤ (Int.natAbs m : Int) by omega)
        (show 0 ≤ count r1 r2 m - 1 by omega)
      omega
    · omega

/-- the five situations in which the statement allows an exception:
empty array, zero step, start outside [-n, n-1], stop outside [-n, n],
or a step whose sign contradicts the order of the resolved indices -/
def MayThrow (n i1 i2 m : Int) : Prop :=
  n = 0 ∨ m = 0 ∨ ¬(-n ≤ i1 ∧ i1 ≤ n - 1) ∨ ¬(-n ≤ i2 ∧ i2 ≤ n) ∨
  (m < 0 ∧ res n i1 < res n i2) ∨ (m > 0 ∧ res n i1 > res n i2)

theorem res_range {n : Int} (hn : 0 ≤ n) (i : Int) :
    (¬(res n i < 0 ∨ res n i ≥ n) ↔ -n ≤ i ∧ i ≤ n - 1) ∧ (¬(res n i < 0 ∨ res n i > n) ↔ -n ≤ i ∧ i ≤ n) := by
  unfold res; split <;> omega

/-- T04.1a the acceptance region of the generated constructor is exactly the complement of the five situations -/
theorem accept_iff (n i1 i2 m : Int) (hn : 0 ≤ n) : Accept n i1 i2 m ↔ ¬ MayThrow n i1 i2 m := by
  -- with both indices in range the last test cannot fail: `count ≤ |r2 - r1| ≤ n`
  have hc : ¬(res n i1 < 0 ∨ res n i1 ≥ n) → ¬(res n i2 < 0 ∨ res n i2 > n) →
      ¬ count (res n i1) (res n i2) m > n := by
    have := (count_range (res n i1) (res n i2) m).2; omega
  unfold MayThrow
  simp only [not_or, not_not]
  unfold Accept
  rw [(res_range hn i1).1, (res_range hn i2).2] at *
  exact ⟨fun ⟨h0, hm, h1, h2, h3, h4, _⟩ => ⟨h0, hm, h1, h2, h3, h4⟩,
    fun ⟨h0, hm, h1, h2, h3, h4⟩ => ⟨h0, hm, h1, h2, h3, h4, hc h1 h2⟩⟩

/-- T04.1 the constructor throws exactly in the five listed situations -/
theorem throws_iff (n i1 i2 m : Int) (hn : 0 ≤ n) :
    (∃ e, BaseSlice.ctor n i1 i2 m = .error e) ↔ MayThrow n i1 i2 m := by
  rw [← not_not (a := MayThrow n i1 i2 m), ← accept_iff n i1 i2 m hn]
  refine ⟨fun ⟨e, he⟩ ha => ?_, (ctor_spec n i1 i2 m).2⟩
  rw [(ctor_spec n i1 i2 m).1 ha] at he
  cases he

/-! ### Python reference, position bounds -/

theorem pyLen_eq (r1 r2 m : Int) (hm : m ≠ 0) (h3 : ¬(m < 0 ∧ r1 < r2)) (h4 : ¬(m > 0 ∧ r1 > r2)) :
    pyLen r1 r2 m = count r1 r2 m := by
  obtain ⟨-, h1, h2, hz⟩ := count_spec r1 r2 m hm
  unfold pyLen
  by_cases hpos : m > 0
  · simp only [Int.natAbs_of_nonneg (Int.le_of_lt hpos), Int.natAbs_of_nonneg (show 0 ≤ r2 - r1 by omega)] at h1 h2 hz
    rw [if_pos hpos]
    by_cases h : r1 < r2
    · rw [if_pos h, ceilDiv_unique hpos h1 h2]
    · rw [if_neg h, hz (by omega)]
  · simp only [Int.ofNat_natAbs_of_nonpos (show m ≤ 0 by omega),
      Int.ofNat_natAbs_of_nonpos (show r2 - r1 ≤ 0 by omega), Int.neg_sub] at h1 h2 hz
    rw [if_neg hpos]
    by_cases h : r2 < r1
    · rw [if_pos h, ceilDiv_unique (show 0 < -m by omega) h1 h2]
    · rw [if_neg h, hz (by omega)]

/-- an index that resolves into `[0, n]` (`= n` only for a stop index of a non-negative step) is not clamped by Python -/
theorem pyStart_eq (n i m : Int) (h0 : 0 ≤ res n i) (h1 : res n i ≤ n) (h2 : res n i = n → 0 ≤ m) :
    pyStart n i m = res n i := by
  unfold pyStart; unfold res at *
  by_cases hi : i < 0
  · simp only [if_pos hi] at *; rw [if_neg (by omega), Int.add_comm]
  · simp only [if_neg hi] at *
    by_cases hn : i ≥ n
    · rw [if_pos hn, if_neg (by omega)]; omega
    · rw [if_neg hn]

/-- T04.2 when it returns, the slice denotes exactly Python's `x[i1:i2:m]`, in the same order -/
theorem slice_denotes (n i1 i2 m : Int) (hn : 0 ≤ n) (s : BaseSlice)
    (h : BaseSlice.ctor n i1 i2 m = .ok s) : indices s = pyIndices n i1 i2 m := by
  have _ := hn
  obtain ⟨⟨-, hm, h1, h2, h3, h4, -⟩, rfl⟩ := (ctor_ok_iff n i1 i2 m s).1 h
  unfold pyIndices indices built
  simp only
  rw [pyStart_eq n i1 m (by omega) (by omega) (by omega), pyStart_eq n i2 m (by omega) (by omega) (by omega),
    pyLen_eq _ _ _ hm h3 h4]

/-- T04.3 every position the iterator touches lies inside the array -/
theorem in_bounds (n i1 i2 m : Int) (hn : 0 ≤ n) (s : BaseSlice)
    (h : BaseSlice.ctor n i1 i2 m = .ok s) : ∀ x ∈ indices s, 0 ≤ x ∧ x < n := by
  obtain ⟨⟨-, hm, h1, h2, h3, h4, -⟩, rfl⟩ := (ctor_ok_iff n i1 i2 m s).1 h
  intro x hx
  unfold indices built at hx
  simp only [List.mem_map, List.mem_range] at hx
  obtain ⟨j, hj, rfl⟩ := hx
  -- the `j`-th position lies in `[r1, r2)` for a positive step and in `(r2, r1]` for a negative step
  have hb := stride_bounds (count_spec _ _ m hm).2.1 (Int.natCast_nonneg j)
    (show (j : Int) < count (res n i1) (res n i2) m by omega)
  omega

/-- the positions are pairwise distinct (so "writes exactly those positions" is well defined) -/
theorem indices_nodup (n i1 i2 m : Int) (s : BaseSlice)
    (h : BaseSlice.ctor n i1 i2 m = .ok s) : (indices s).Nodup := by
  obtain ⟨ha, rfl⟩ := (ctor_ok_iff n i1 i2 m s).1 h
  unfold indices
  refine List.Nodup.map ?_ List.nodup_range
  intro a b hab
  simp only [built] at hab
  have : (a : Int) * m = b * m := by omega
  have := Int.eq_of_mul_eq_mul_right ha.2.1 this
  omega

theorem res_idem (n i : Int) (h : 0 ≤ res n i) : res n (res n i) = res n i := by
  unfold res at *
  split_ifs at * <;> omega

/-- re-running the constructor on the stored members `(n, i1, i2, m)` of a constructed slice returns the same object -/
theorem copy_same_aux {n i1 i2 m : Int} {s : BaseSlice}
    (h : BaseSlice.ctor n i1 i2 m = .ok s) : BaseSlice.ctor s.n s.i1 s.i2 s.m = .ok s := by
  obtain ⟨ha, rfl⟩ := (ctor_ok_iff n i1 i2 m s).1 h
  have e1 := res_idem n i1 (by have := ha.2.2.1; omega)
  have e2 := res_idem n i2 (by have := ha.2.2.2.1; omega)
  refine (ctor_ok_iff _ _ _ _ _).2 ?_
  show Accept n (res n i1) (res n i2) m ∧ built n i1 i2 m = built n (res n i1) (res n i2) m
  unfold Accept built
  rw [e1, e2]
  exact ⟨ha, rfl⟩

/-- T04.5 a copy of a slice object denotes the same elements (three copy constructors, generated argument lists) -/
theorem copy_same_const_from_const (n i1 i2 m : Int) (hn : 0 ≤ n) (s : BaseSlice)
    (h : BaseSlice.ctor n i1 i2 m = .ok s) :
    BaseSlice.ctor (copyArgs_const_from_const s).1 (copyArgs_const_from_const s).2.1
      (copyArgs_const_from_const s).2.2.1 (copyArgs_const_from_const s).2.2.2 = .ok s := by
  have _ := hn
  exact copy_same_aux h

theorem copy_same_const_from_mut (n i1 i2 m : Int) (hn : 0 ≤ n) (s : BaseSlice)
    (h : BaseSlice.ctor n i1 i2 m = .ok s) :
    BaseSlice.ctor (copyArgs_const_from_mut s).1 (copyArgs_const_from_mut s).2.1
      (copyArgs_const_from_mut s).2.2.1 (copyArgs_const_from_mut s).2.2.2 = .ok s := by
  have _ := hn
  exact copy_same_aux h

theorem copy_same_mut_from_mut (n i1 i2 m : Int) (hn : 0 ≤ n) (s : BaseSlice)
    (h : BaseSlice.ctor n i1 i2 m = .ok s) :
    BaseSlice.ctor (copyArgs_mut_from_mut s).1 (copyArgs_mut_from_mut s).2.1
      (copyArgs_mut_from_mut s).2.2.1 (copyArgs_mut_from_mut s).2.2.2 = .ok s := by
  have _ := hn
  exact copy_same_aux h

/-! ### T04.4: no 32-bit overflow inside the box; machine-checked witnesses that the box cannot be widened

With `n = i1 = 2^30` the first conjunct `n + i1 < 2^31` fails.  Tightening only `n` to `n < 2^30`
(as the docstring says) is still not enough: `n = 0, i1 = -2^30, i2 = 2^30` gives
`res n i2 - res n i1 = 2^31`. -/

/-- the box of `no_overflow` cannot be widened to `0 ≤ n ≤ 2^30`: `n = 2^30, i1 = 2^30, i2 = 0, m = 1` (then `n + i1 = 2^31`) -/
theorem no_overflow_box_tight :
    ¬ (∀ (n i1 i2 m : Int), 0 ≤ n → n ≤ 2^30 → (-(2^30) ≤ i1 ∧ i1 ≤ 2^30) →
      (-(2^30) ≤ i2 ∧ i2 ≤ 2^30) → (-(2^31) < m ∧ m < 2^31) →
      let I32 := fun (x : Int) => -(2^31) ≤ x ∧ x < 2^31
      I32 (n + i1) ∧ I32 (n + i2) ∧ I32 (res n i2 - res n i1) ∧ I32 (Int.natAbs (res n i2 - res n i1)) ∧
        I32 (Int.natAbs m) ∧ I32 (count (res n i1) (res n i2) m)) := by
  intro h
  have := (h (2^30) (2^30) 0 1 (by decide) (by decide) (by decide) (by decide) (by decide)).1
  simp only at this
  omega

/-- nor can `n = 0` be allowed together with `|i| ≤ 2^30`: `n = 0, i1 = -2^30, i2 = 2^30, m = 1`
    (then `res n i2 - res n i1 = 2^31`) -/
theorem no_overflow_box_tight' :
    ¬ (∀ (n i1 i2 m : Int), 0 ≤ n → n < 2^30 → (-(2^30) ≤ i1 ∧ i1 ≤ 2^30) →
      (-(2^30) ≤ i2 ∧ i2 ≤ 2^30) → (-(2^31) < m ∧ m < 2^31) →
      let I32 := fun (x : Int) => -(2^31) ≤ x ∧ x < 2^31
      I32 (n + i1) ∧ I32 (n + i2) ∧ I32 (res n i2 - res n i1) ∧ I32 (Int.natAbs (res n i2 - res n i1)) ∧
        I32 (Int.natAbs m) ∧ I32 (count (res n i1) (res n i2) m)) := by
  intro h
  have := (h 0 (-(2^30)) (2^30) 1 (by decide) (by decide) (by decide) (by decide) (by decide)).2.2.1
  simp only [res] at this
  omega

theorem res_Ioc {n i B : Int} (hn : 0 ≤ n) (hnB : n ≤ B) (hi : -B ≤ i ∧ i ≤ B) (h : 0 < n ∨ -B < i) :
    -B < res n i ∧ res n i ≤ B := by
  unfold res; split <;> omega

/-- both variants of T04.4: the closed box with one of its two bad corners cut off (`h`) keeps every resolved index in
    `(-2^30, 2^30]` -/
theorem no_overflow_of_box (n i1 i2 m : Int) (hn : 0 ≤ n) (hn' : n ≤ 2^30) (h1 : -(2^30) ≤ i1 ∧ i1 ≤ 2^30)
    (h2 : -(2^30) ≤ i2 ∧ i2 ≤ 2^30) (hm : -(2^31) < m ∧ m < 2^31)
    (h : (0 < n ∧ n < 2^30) ∨ ((-(2^30) < i1 ∧ i1 < 2^30) ∧ (-(2^30) < i2 ∧ i2 < 2^30))) :
    let I32 := fun (x : Int) => -(2^31) ≤ x ∧ x < 2^31
    I32 (n + i1) ∧ I32 (n + i2) ∧ I32 (res n i2 - res n i1) ∧ I32 (Int.natAbs (res n i2 - res n i1)) ∧
      I32 (Int.natAbs m) ∧ I32 (count (res n i1) (res n i2) m) := by
  intro I32
  have hc := count_range (res n i1) (res n i2) m
  have hr1 := res_Ioc hn hn' h1 (h.imp And.left fun h => h.1.1)
  have hr2 := res_Ioc hn hn' h2 (h.imp And.left fun h => h.2.1)
  generalize count (res n i1) (res n i2) m = c at hc
  generalize res n i1 = r1 at hr1 hc ⊢
  generalize res n i2 = r2 at hr2 hc ⊢
  simp only [I32]
  omega

/-- T04.4, variant A: `0 < n < 2^30` (the constructor rejects `n = 0` before any arithmetic),
    `|i1|,|i2| ≤ 2^30`, `m ≠ INT_MIN` -/
theorem no_overflow (n i1 i2 m : Int) (hn : 0 < n) (hn' : n < 2^30) (h1 : -(2^30) ≤ i1 ∧ i1 ≤ 2^30)
    (h2 : -(2^30) ≤ i2 ∧ i2 ≤ 2^30) (hm : -(2^31) < m ∧ m < 2^31) :
    let I32 := fun (x : Int) => -(2^31) ≤ x ∧ x < 2^31
    I32 (n + i1) ∧ I32 (n + i2) ∧ I32 (res n i2 - res n i1) ∧ I32 (Int.natAbs (res n i2 - res n i1)) ∧
      I32 (Int.natAbs m) ∧ I32 (count (res n i1) (res n i2) m) :=
  no_overflow_of_box n i1 i2 m hn.le hn'.le h1 h2 hm (.inl ⟨hn, hn'⟩)

/-- T04.4, variant B: `0 ≤ n ≤ 2^30` kept, strict bounds `|i1|,|i2| < 2^30`, `m ≠ INT_MIN` -/
theorem no_overflow' (n i1 i2 m : Int) (hn : 0 ≤ n) (hn' : n ≤ 2^30) (h1 : -(2^30) < i1 ∧ i1 < 2^30)
    (h2 : -(2^30) < i2 ∧ i2 < 2^30) (hm : -(2^31) < m ∧ m < 2^31) :
    let I32 := fun (x : Int) => -(2^31) ≤ x ∧ x < 2^31
    I32 (n + i1) ∧ I32 (n + i2) ∧ I32 (res n i2 - res n i1) ∧ I32 (Int.natAbs (res n i2 - res n i1)) ∧
      I32 (Int.natAbs m) ∧ I32 (count (res n i1) (res n i2) m) :=
  no_overflow_of_box n i1 i2 m hn hn' ⟨h1.1.le, h1.2.le⟩ ⟨h2.1.le, h2.2.le⟩ hm (.inr ⟨h1, h2⟩)

/-! ### assignment -/
variable {α : Type} [Inhabited α]

omit [Inhabited α] in
theorem setI_length (a : List α) (i : Int) (v : α) : (setI a i v).length = a.length := by
  unfold setI; split <;> simp

theorem getI_setI (a : List α) (i p : Int) (v : α) (hi : 0 ≤ i ∧ i < a.length) (hp : 0 ≤ p) :
    getI (setI a i v) p = if p = i then v else getI a p := by
  unfold getI setI
  rw [if_neg (by omega), List.getD_eq_getElem?_getD, List.getD_eq_getElem?_getD]
  by_cases h : p = i
  · rw [if_pos h, h, List.getElem?_set_self (by omega)]; rfl
  · rw [if_neg h, List.getElem?_set_ne (by omega)]

set_option linter.unusedSectionVars false in
theorem scatter_length (a : List α) (idx : List Int) (vals : List α) :
    (scatter a idx vals).length = a.length := by
  induction idx generalizing a vals with
  | nil => simp [scatter]
  | cons i is ih =>
    cases vals with
    | nil => simp [scatter]
    | cons v vs => simp only [scatter]; rw [ih, setI_length]

/-- scatter writes exactly the listed positions: position `idx[j]` receives `vals[j]`, every other cell is unchanged -/
theorem scatter_get (a : List α) (idx : List Int) (vals : List α) (hnd : idx.Nodup)
    (hb : ∀ x ∈ idx, 0 ≤ x ∧ x < a.length) (hl : idx.length = vals.length) (p : Int) (hp : 0 ≤ p ∧ p < a.length) :
    getI (scatter a idx vals) p =
      match idx.idxOf? p with
      | some j => vals.getD j default
      | none => getI a p := by
  induction idx generalizing a vals with
  | nil => simp [scatter]
  | cons i is ih =>
    cases vals with
    | nil => simp at hl
    | cons v vs =>
      simp only [scatter]
      have hi := hb i (by simp)
      rw [List.nodup_cons] at hnd
      rw [ih (setI a i v) vs hnd.2 (by
            intro x hx; rw [setI_length]; exact hb x (by simp [hx])) (by simpa using hl)
            (by rw [setI_length]; exact hp)]
      rw [List.idxOf?_cons, getI_setI a i p v hi hp.1]
      by_cases h : i = p
      · subst h
        have : List.idxOf? i is = none := by simpa using hnd.1
        simp [this]
      · have h' : ¬ p = i := fun e => h e.symm
        simp only [beq_iff_eq, h, if_false, h']
        cases List.idxOf? p is <;> simp

/-- T04.6 / T04.8 assignment of a slice (possibly of the same array, any overlap, any strides):
    every destination position `(indices d)[j]` receives the value the SOURCE array held at `(indices s)[j]`
    BEFORE the assignment (the source is read first), every other cell is unchanged -/
theorem assign_spec (dstArr srcArr : List α) (nd i1 i2 m ns j1 j2 k : Int) (d s : BaseSlice)
    (hnd : nd = dstArr.length) (hns : ns = srcArr.length)
    (hd : BaseSlice.ctor nd i1 i2 m = .ok d) (hs : BaseSlice.ctor ns j1 j2 k = .ok s) (hc : d.nc = s.nc)
    (p : Int) (hp : 0 ≤ p ∧ p < dstArr.length) :
    ∃ r, assignSlice dstArr srcArr d s = .ok r ∧ r.length = dstArr.length ∧
      getI r p = match (indices d).idxOf? p with
        | some j => getI srcArr ((indices s).getD j 0)
        | none => getI dstArr p := by
  have _ := hns
  have _ := hs
  refine ⟨scatter dstArr (indices d) (gather srcArr (indices s)), ?_, scatter_length _ _ _, ?_⟩
  · unfold assignSlice; rw [if_neg (not_not.2 hc)]
  · have hls : (indices d).length = (indices s).length := by simp [indices, hc]
    have hbd : ∀ x ∈ indices d, 0 ≤ x ∧ x < (dstArr.length : Int) := by
      subst hnd; exact in_bounds _ i1 i2 m (by omega) d hd
    rw [scatter_get dstArr (indices d) _ (indices_nodup nd i1 i2 m d hd) hbd (by simpa [gather] using hls) p hp]
    cases h : List.idxOf? p (indices d) with
    | none => rfl
    | some j =>
      simp only
      have hj' : j < (indices s).length := hls ▸ (List.idxOf?_eq_some_iff.1 h).1
      unfold gather
      simp [List.getD_eq_getElem?_getD, hj']

/-- T04.7 different element counts are rejected (nothing is written: the model returns no array) -/
theorem assign_len (dstArr srcArr : List α) (d s : BaseSlice) (hc : d.nc ≠ s.nc) :
    ∃ e, assignSlice dstArr srcArr d s = .error e := by
  unfold assignSlice
  rw [if_pos hc]
  exact ⟨_, rfl⟩

set_option linter.unusedSectionVars false in
theorem assignList_len (a : List α) (d : BaseSlice) (rhs : List α) (hc : d.nc ≠ rhs.length) :
    ∃ e, assignList a d rhs = .error e := by
  unfold assignList
  rw [if_pos hc]
  exact ⟨_, rfl⟩

/-- scalar fill writes exactly the slice positions -/
theorem fill_spec (a : List α) (n i1 i2 m : Int) (d : BaseSlice) (v : α) (hn : n = a.length)
    (hd : BaseSlice.ctor n i1 i2 m = .ok d) (p : Int) (hp : 0 ≤ p ∧ p < a.length) :
    getI (fill a d v) p = if p ∈ indices d then v else getI a p := by
  have hbd : ∀ x ∈ indices d, 0 ≤ x ∧ x < (a.length : Int) := by
    subst hn; exact in_bounds _ i1 i2 m (by omega) d hd
  unfold fill
  rw [scatter_get a (indices d) _ (indices_nodup n i1 i2 m d hd) hbd
    (by simp [indices]) p hp]
  by_cases hmem : p ∈ indices d
  · rw [if_pos hmem]
    cases h : List.idxOf? p (indices d) with
    | none => exact absurd hmem (List.idxOf?_eq_none_iff.1 h)
    | some j =>
      simp only
      have hj : j < d.nc.toNat := by
        have := (List.idxOf?_eq_some_iff.1 h).1
        simpa [indices] using this
      simp [List.getD_eq_getElem?_getD, hj]
  · rw [if_neg hmem, List.idxOf?_eq_none_iff.2 hmem]

/-! ### non-vacuity: concrete instances of the hypotheses -/
example : BaseSlice.ctor 10 3 (-1) 2 = .ok { i1 := 3, i2 := 9, m := 2, n := 10, nc := 3 } := by decide
example : indices { i1 := 3, i2 := 9, m := 2, n := 10, nc := 3 } = [3, 5, 7] := by decide
example : pyIndices 10 3 (-1) 2 = [3, 5, 7] := by decide
example : BaseSlice.ctor 10 8 1 (-3) = .ok { i1 := 8, i2 := 1, m := -3, n := 10, nc := 3 } := by decide
example : pyIndices 10 8 1 (-3) = [8, 5, 2] := by decide

end Dsp.C04
