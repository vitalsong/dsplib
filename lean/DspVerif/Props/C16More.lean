import DspVerif.Props.C16
/-!
# C16, remaining clauses: Pearson = ±1 for affine relations, Spearman = ±1 for strictly monotone ones

Exactly over `ℝ`, for the moment formula the code evaluates (`pearson_eq`): Pearson for `y = a·x + b` with `x` not constant,
Spearman for tie-free samples of length ≥ 2; and `|r| ≤ 1`, `|ρ| ≤ 1` with the positivity hypotheses of `Props/C16.lean`
discharged (`varN_pos`).  The excluded points (constant `x`; `n < 2`) are the 0/0 of the C++ code (NaN there, `0` in Lean's `ℝ`).
-/
namespace Dsp.C16
open Dsp Dsp.Order List

/-! ## The scaled variance `n·Σx² − (Σx)²` -/

/-- `x` takes at least two different values -/
def NonConst (x : List ℝ) : Prop := ∃ u ∈ x, ∃ v ∈ x, u ≠ v

/-- `n·Σx² − (Σx)²` (= `n²` × the population variance) -/
def varN (x : List ℝ) : ℝ := (x.length : ℝ) * (x.map (fun t => t * t)).sum - x.sum ^ 2

/-- adding one sample `a` adds `Σ_u (a − u)²`: hence `varN x = Σ_{i<j} (x_i − x_j)²` -/
theorem varN_cons (a : ℝ) (t : List ℝ) :
    varN (a :: t) = varN t + (t.map (fun u => (a - u) * (a - u))).sum := by
  have key : (t.map (fun u => (a - u) * (a - u))).sum =
      (t.length : ℝ) * (a * a) - 2 * a * t.sum + (t.map (fun u => u * u)).sum := by
    induction t with
    | nil => simp
    | cons u t ih => simp only [List.map_cons, List.sum_cons, ih, List.length_cons, Nat.cast_add, Nat.cast_one]; ring
  rw [key]
  simp only [varN, List.map_cons, List.sum_cons, List.length_cons, Nat.cast_add, Nat.cast_one]
  ring

theorem sq_diff_nonneg (a : ℝ) (t : List ℝ) : ∀ r ∈ t.map (fun u => (a - u) * (a - u)), 0 ≤ r :=
  List.forall_mem_map.2 fun _ _ => mul_self_nonneg _

theorem varN_nonneg (x : List ℝ) : 0 ≤ varN x := by
  induction x with
  | nil => simp [varN]
  | cons a t ih => rw [varN_cons]; exact add_nonneg ih (List.sum_nonneg (sq_diff_nonneg a t))

theorem sum_sq_diff_pos {a : ℝ} {t : List ℝ} (h : ∃ u ∈ t, u ≠ a) :
    0 < (t.map (fun u => (a - u) * (a - u))).sum := by
  obtain ⟨u, hu, hne⟩ := h
  exact (mul_self_pos.2 (sub_ne_zero.2 hne.symm)).trans_le
    (List.single_le_sum (sq_diff_nonneg a t) _ (List.mem_map.2 ⟨u, hu, rfl⟩))

/-- **the variance of a non-constant sample is positive** (strictness of Cauchy–Schwarz) -/
theorem varN_pos {x : List ℝ} (h : NonConst x) : 0 < varN x := by
  cases x with
  | nil => obtain ⟨u, hu, _⟩ := h; simp at hu
  | cons a t =>
    rw [varN_cons]
    obtain ⟨u, hu, v, hv, hne⟩ := h
    have hex : ∃ w ∈ t, w ≠ a := by
      by_cases hua : u = a
      · exact ⟨v, (List.mem_cons.1 hv).resolve_left fun hva => hne (hua.trans hva.symm), fun hva => hne (hua.trans hva.symm)⟩
      · exact ⟨u, (List.mem_cons.1 hu).resolve_left hua, hua⟩
    exact add_pos_of_nonneg_of_pos (varN_nonneg t) (sum_sq_diff_pos hex)

/-- conversely a positive variance needs two different values: `NonConst` is exactly the domain -/
theorem nonConst_of_varN_pos {x : List ℝ} (h : 0 < varN x) : NonConst x := by
  by_contra hc
  have hall : ∀ u ∈ x, ∀ v ∈ x, u = v := fun u hu v hv => by_contra fun hne => hc ⟨u, hu, v, hv, hne⟩
  have h0 : varN x = 0 := by
    clear h hc
    induction x with
    | nil => simp [varN]
    | cons a t ih =>
      rw [varN_cons, ih (fun u hu v hv => hall u (List.mem_cons_of_mem _ hu) v (List.mem_cons_of_mem _ hv))]
      have : t.map (fun u => (a - u) * (a - u)) = t.map (fun _ => (0 : ℝ)) := by
        apply List.map_congr_left
        intro u hu
        rw [hall a List.mem_cons_self u (List.mem_cons_of_mem _ hu)]; ring
      rw [this]; simp
  linarith

/-! ## The moment sums of `zip x y` in terms of `x` and `y` -/

theorem lsum_zip_fst (x y : List ℝ) (h : x.length ≤ y.length) (f : ℝ → ℝ) :
    lsum (zip x y) (fun p => f p.1) = (x.map f).sum := by
  conv_rhs => rw [← List.map_fst_zip h, List.map_map]
  rfl

theorem lsum_zip_snd (x y : List ℝ) (h : y.length ≤ x.length) (f : ℝ → ℝ) :
    lsum (zip x y) (fun p => f p.2) = (y.map f).sum := by
  conv_rhs => rw [← List.map_snd_zip h, List.map_map]
  rfl

/-- the `x`-factor under the square root of `pearson x y` is `varN x` -/
theorem pearson_den_fst (x y : List ℝ) (h : x.length = y.length) :
    (x.length : ℝ) * lsum (zip x y) (fun p => p.1 * p.1) - lsum (zip x y) (·.1) ^ 2 = varN x := by
  rw [lsum_zip_fst x y h.le fun t => t * t, lsum_zip_fst x y h.le fun t => t, List.map_id', varN]

/-- the `y`-factor under the square root of `pearson x y` is `varN y` -/
theorem pearson_den_snd (x y : List ℝ) (h : x.length = y.length) :
    (x.length : ℝ) * lsum (zip x y) (fun p => p.2 * p.2) - lsum (zip x y) (·.2) ^ 2 = varN y := by
  rw [lsum_zip_snd x y h.ge fun t => t * t, lsum_zip_snd x y h.ge fun t => t, List.map_id', varN, h]

/-- **|r| ≤ 1 for all non-constant samples**: `pearson_abs_le_one` with its positivity hypothesis discharged -/
theorem pearson_abs_le_one_nonconst (x y : List ℝ) (h : x.length = y.length) (hx : NonConst x) (hy : NonConst y) :
    |pearson x y| ≤ 1 := by
  apply pearson_abs_le_one x y h
  rw [pearson_den_fst x y h, pearson_den_snd x y h]
  exact mul_pos (varN_pos hx) (varN_pos hy)

/-! ## Pearson of an affine relation -/

theorem lsum_map_pair (x : List ℝ) (g : ℝ → ℝ) (f : ℝ × ℝ → ℝ) :
    lsum (zip x (x.map g)) f = (x.map (fun t => f (t, g t))).sum := by
  unfold lsum
  have : zip x (x.map g) = x.map (fun t => (t, g t)) := by
    rw [show zip x (x.map g) = zip (x.map id) (x.map g) by simp, List.zip_map']; rfl
  rw [this, List.map_map]; rfl

theorem sum_affine (x : List ℝ) (a b : ℝ) :
    (x.map (fun t => a * t + b)).sum = a * x.sum + (x.length : ℝ) * b ∧
    (x.map (fun t => t * (a * t + b))).sum = a * (x.map (fun t => t * t)).sum + b * x.sum ∧
    (x.map (fun t => (a * t + b) * (a * t + b))).sum =
      a * a * (x.map (fun t => t * t)).sum + 2 * a * b * x.sum + (x.length : ℝ) * (b * b) := by
  induction x with
  | nil => simp
  | cons u t ih =>
    obtain ⟨h1, h2, h3⟩ := ih
    simp only [List.map_cons, List.sum_cons, List.length_cons, Nat.cast_add, Nat.cast_one, h1, h2, h3]
    refine ⟨by ring, by ring, by ring⟩

/-- Pearson of `x` against `a·x + b` is `a·V / (|a|·V)`: the sign of `a` wherever the variance `V` of `x` is not 0 -/
theorem pearson_affine (x : List ℝ) (a b : ℝ) :
    pearson x (x.map (fun t => a * t + b)) = a * varN x / (|a| * varN x) := by
  obtain ⟨h1, h2, h3⟩ := sum_affine x a b
  rw [← Real.sqrt_mul_self (mul_nonneg (abs_nonneg a) (varN_nonneg x)), mul_mul_mul_comm, abs_mul_abs_self,
    pearson_eq _ _ (by simp)]
  simp only [lsum_map_pair]
  rw [h1, h2, h3, show (x.map (fun t => t)).sum = x.sum by simp]
  unfold varN
  congr 1
  · ring
  · congr 1; ring

/-- **T16.4 Pearson = +1 for an increasing affine relation** `y = a·x + b`, `a > 0`, `x` not constant -/
theorem pearson_affine_pos (x : List ℝ) (a b : ℝ) (ha : 0 < a) (hx : NonConst x) :
    pearson x (x.map (fun t => a * t + b)) = 1 := by
  rw [pearson_affine, abs_of_pos ha, div_self (mul_pos ha (varN_pos hx)).ne']

/-- **T16.4 Pearson = −1 for a decreasing affine relation** `y = a·x + b`, `a < 0`, `x` not constant -/
theorem pearson_affine_neg (x : List ℝ) (a b : ℝ) (ha : a < 0) (hx : NonConst x) :
    pearson x (x.map (fun t => a * t + b)) = -1 := by
  rw [pearson_affine, abs_of_neg ha, neg_mul, div_neg, div_self (mul_ne_zero ha.ne (varN_pos hx).ne')]

theorem eq_map_of_getElem {β γ : Type} {x : List β} {y : List γ} (g : β → γ) (h : x.length = y.length)
    (hy : ∀ (i : Nat) (h1 : i < x.length) (h2 : i < y.length), y[i] = g x[i]) : y = x.map g :=
  List.ext_getElem (by simp [h]) fun i h1 h2 => by simp [hy i (by simpa using h2) h1]

/-- the same two statements for samples given position by position -/
theorem pearson_affine_pos' (x y : List ℝ) (a b : ℝ) (h : x.length = y.length)
    (hy : ∀ (i : Nat) (h1 : i < x.length) (h2 : i < y.length), y[i] = a * x[i] + b)
    (ha : 0 < a) (hx : NonConst x) : pearson x y = 1 := by
  rw [eq_map_of_getElem (fun t => a * t + b) h hy]; exact pearson_affine_pos x a b ha hx

theorem pearson_affine_neg' (x y : List ℝ) (a b : ℝ) (h : x.length = y.length)
    (hy : ∀ (i : Nat) (h1 : i < x.length) (h2 : i < y.length), y[i] = a * x[i] + b)
    (ha : a < 0) (hx : NonConst x) : pearson x y = -1 := by
  rw [eq_map_of_getElem (fun t => a * t + b) h hy]; exact pearson_affine_neg x a b ha hx

/-- non-vacuity: `x = [1, 3, 2]`, `y = 2x + 5` resp. `y = −3x + 1` -/
example : pearson [(1 : ℝ), 3, 2] [7, 11, 9] = 1 := by
  have := pearson_affine_pos [1, 3, 2] 2 5 (by norm_num) ⟨1, by simp, 3, by simp, by norm_num⟩
  norm_num at this
  exact this
example : pearson [(1 : ℝ), 3, 2] [-2, -8, -5] = -1 := by
  have := pearson_affine_neg [1, 3, 2] (-3) 1 (by norm_num) ⟨1, by simp, 3, by simp, by norm_num⟩
  norm_num at this
  exact this
example : varN [1, 3, 2] = 6 := by norm_num [varN]
example : NonConst [1, 3, 2] := ⟨1, by simp, 3, by simp, by norm_num⟩

/-! ## Spearman -/

/-- Pearson of a non-constant sample with itself is 1: the affine relation with `a = 1`, `b = 0` -/
theorem pearson_self_nonconst (x : List ℝ) (hx : NonConst x) : pearson x x = 1 := by
  simpa using pearson_affine_pos x 1 0 one_pos hx

theorem countP_lt_of_imp {β : Type} {p q : β → Bool} {l : List β} (himp : ∀ a ∈ l, p a = true → q a = true)
    (hex : ∃ a ∈ l, p a = false ∧ q a = true) : l.countP p < l.countP q := by
  obtain ⟨a, ha, hpa, hqa⟩ := hex
  -- split `l` by `p`: on the part where `p` holds so does `q`, the other part holds `a`
  rw [List.countP_eq_countP_filter_add l q p,
    List.countP_eq_length.2 fun b hb => himp b (List.mem_filter.1 hb).1 (List.mem_filter.1 hb).2,
    ← List.countP_eq_length_filter]
  exact Nat.lt_add_of_pos_right (List.countP_pos_iff.2 ⟨a, List.mem_filter.2 ⟨ha, by simp [hpa]⟩, hqa⟩)

theorem rank_lt {l : List ℝ} {u v : ℝ} (hu : u ∈ l) (huv : u < v) :
    l.countP (fun w => decide (w < u)) < l.countP (fun w => decide (w < v)) :=
  countP_lt_of_imp (fun a _ h => by simp only [decide_eq_true_eq] at h ⊢; exact lt_trans h huv)
    ⟨u, hu, by simp, by simpa using huv⟩

/-- **the ranks of ≥ 2 tie-free samples are not constant**, so their variance is positive -/
theorem realRanks_nonConst (x : Array ℝ) (hx : x.toList.Nodup) (hn : 2 ≤ x.size) : NonConst (realRanks x) := by
  have h0 : 0 < x.size := by omega
  have h1 : 1 < x.size := by omega
  have hne : x[0] ≠ x[1] := fun he => absurd (Fin.mk.inj (List.nodup_iff_injective_getElem.1 hx (a₁ := ⟨0, h0⟩) (a₂ := ⟨1, h1⟩) he)) zero_ne_one
  have m0 : x[0] ∈ x.toList := by simp
  have m1 : x[1] ∈ x.toList := by simp
  refine ⟨_, List.mem_map_of_mem m0, _, List.mem_map_of_mem m1, ?_⟩
  rcases lt_or_gt_of_ne hne with hlt | hgt
  · exact (Nat.cast_lt.2 (rank_lt m0 hlt)).ne
  · exact (Nat.cast_lt.2 (rank_lt m1 hgt)).ne'

/-- **T16.4 |ρ| ≤ 1 for all tie-free samples of length ≥ 2** — the positivity hypothesis of `spearman_abs_le_one`
(rank variance > 0) is discharged -/
theorem spearman_abs_le_one_tiefree (x y : Array ℝ) (h : x.size = y.size) (hx : x.toList.Nodup) (hy : y.toList.Nodup)
    (hn : 2 ≤ x.size) : |spearman x y| ≤ 1 := by
  rw [spearman_eq x y hx hy]
  exact pearson_abs_le_one_nonconst _ _ (by simp [realRanks, h]) (realRanks_nonConst x hx hn)
    (realRanks_nonConst y hy (h ▸ hn))

/-- the hypothesis of `spearman_abs_le_one`, literally -/
theorem spearman_den_pos (x y : Array ℝ) (h : x.size = y.size) (hx : x.toList.Nodup) (hy : y.toList.Nodup)
    (hn : 2 ≤ x.size) :
    0 < (((realRanks x).length : ℝ) * lsum (zip (realRanks x) (realRanks y)) (fun p => p.1 * p.1) -
                  lsum (zip (realRanks x) (realRanks y)) (·.1) ^ 2) *
                (((realRanks x).length : ℝ) * lsum (zip (realRanks x) (realRanks y)) (fun p => p.2 * p.2) -
                  lsum (zip (realRanks x) (realRanks y)) (·.2) ^ 2) := by
  have hl : (realRanks x).length = (realRanks y).length := by simp [realRanks, h]
  rw [pearson_den_fst _ _ hl, pearson_den_snd _ _ hl]
  exact mul_pos (varN_pos (realRanks_nonConst x hx hn)) (varN_pos (realRanks_nonConst y hy (h ▸ hn)))

theorem countP_toList (y : Array ℝ) {n : ℕ} (h : n = y.size) (p : ℝ → Bool) :
    y.toList.countP p = (List.finRange n).countP (fun i => p (y[i.val]'(h ▸ i.isLt))) := by
  subst h
  rw [← gather_finRange y, gather, List.countP_map]; rfl

theorem lt_iff_of_mono {ι : Type} {a b : ι → ℝ} (hinj : Function.Injective a) (hmono : ∀ i j, a i < a j → b i < b j)
    (i j : ι) : b i < b j ↔ a i < a j := by
  refine ⟨fun hb => ?_, hmono i j⟩
  rcases lt_trichotomy (a i) (a j) with h | h | h
  · exact h
  · rw [hinj h] at hb; exact absurd hb (lt_irrefl _)
  · exact absurd (hmono j i h) (lt_asymm hb)

/-- the ranks of `y` counted over the samples of `x` -/
theorem realRanks_transport (x y : Array ℝ) (h : x.size = y.size) (R : ℝ → ℝ → Prop) [DecidableRel R]
    (hiff : ∀ i j : Fin x.size, y[i.val]'(h ▸ i.isLt) < y[j.val]'(h ▸ j.isLt) ↔ R (x[i.val]'i.isLt) (x[j.val]'j.isLt)) :
    realRanks y = x.toList.map (fun v => ((x.toList.countP (fun u => decide (R u v)) : ℕ) : ℝ)) := by
  apply List.ext_getElem
  · simp [realRanks, h]
  · intro j h1 h2
    have hj : j < x.size := by simpa using h2
    simp only [realRanks, List.getElem_map, Array.getElem_toList, Nat.cast_inj]
    rw [countP_toList y h, countP_toList x rfl]
    exact List.countP_congr fun i _ => by simpa using hiff i ⟨j, hj⟩

/-- a strictly increasing relation between tie-free samples: the rank vectors coincide -/
theorem realRanks_eq_of_increasing (x y : Array ℝ) (h : x.size = y.size) (hx : x.toList.Nodup)
    (hmono : ∀ i j : Fin x.size, x[i.val]'i.isLt < x[j.val]'j.isLt → y[i.val]'(h ▸ i.isLt) < y[j.val]'(h ▸ j.isLt)) :
    realRanks y = realRanks x :=
  realRanks_transport x y h (· < ·) (lt_iff_of_mono (List.nodup_iff_injective_getElem.1 hx) hmono)

/-- **T16.4 Spearman's ρ = +1 for a strictly increasing relation** (tie-free samples, `n ≥ 2`) -/
theorem spearman_increasing (x y : Array ℝ) (h : x.size = y.size) (hx : x.toList.Nodup) (hy : y.toList.Nodup)
    (hn : 2 ≤ x.size)
    (hmono : ∀ i j : Fin x.size, x[i] < x[j] → y[i.val]'(h ▸ i.isLt) < y[j.val]'(h ▸ j.isLt)) :
    spearman x y = 1 := by
  rw [spearman_eq x y hx hy, realRanks_eq_of_increasing x y h hx hmono]
  exact pearson_self_nonconst _ (realRanks_nonConst x hx hn)

theorem countP_gt_add_lt_add_count (l : List ℝ) (v : ℝ) :
    l.countP (fun u => decide (v < u)) + l.countP (fun u => decide (u < v)) + l.count v = l.length := by
  induction l with
  | nil => rfl
  | cons a t ih =>
    simp only [List.countP_cons, List.count_cons, List.length_cons, decide_eq_true_eq, beq_iff_eq]
    rcases lt_trichotomy a v with h | h | h
    · rw [if_neg h.not_gt, if_pos h, if_neg h.ne]; omega
    · rw [if_neg h.not_gt, if_neg h.not_lt, if_pos h]; omega
    · rw [if_pos h, if_neg h.not_gt, if_neg h.ne']; omega

/-- a strictly decreasing relation between tie-free samples: the ranks are reversed, `rank_y[j] = n − 1 − rank_x[j]` -/
theorem realRanks_of_decreasing (x y : Array ℝ) (h : x.size = y.size) (hx : x.toList.Nodup)
    (hmono : ∀ i j : Fin x.size, x[i.val]'i.isLt < x[j.val]'j.isLt → y[j.val]'(h ▸ j.isLt) < y[i.val]'(h ▸ i.isLt)) :
    realRanks y = (realRanks x).map (fun t => (-1) * t + ((x.size : ℝ) - 1)) := by
  rw [realRanks_transport x y h (fun u v => v < u) fun i j => by
    simpa using lt_iff_of_mono (b := fun i => -y[i.val]'(h ▸ i.isLt)) (List.nodup_iff_injective_getElem.1 hx)
      (fun i j hij => neg_lt_neg (hmono i j hij)) j i, realRanks, List.map_map]
  refine List.map_congr_left fun v hv => ?_
  have e := countP_gt_add_lt_add_count x.toList v
  rw [List.count_eq_one_of_mem hx hv, Array.length_toList] at e
  rw [Function.comp, ← e]
  push_cast; ring

/-- **T16.4 Spearman's ρ = −1 for a strictly decreasing relation** (tie-free samples, `n ≥ 2`) -/
theorem spearman_decreasing (x y : Array ℝ) (h : x.size = y.size) (hx : x.toList.Nodup) (hy : y.toList.Nodup)
    (hn : 2 ≤ x.size)
    (hmono : ∀ i j : Fin x.size, x[i] < x[j] → y[j.val]'(h ▸ j.isLt) < y[i.val]'(h ▸ i.isLt)) :
    spearman x y = -1 := by
  rw [spearman_eq x y hx hy, realRanks_of_decreasing x y h hx hmono]
  exact pearson_affine_neg _ (-1) _ (by norm_num) (realRanks_nonConst x hx hn)

/-- non-vacuity: `x = [1, 3, 2]` against the NON-affine increasing `y = x³` and the decreasing `y = 1/x`-like `[6, 2, 3]`:
the hypotheses of `spearman_increasing` / `spearman_decreasing` / `spearman_abs_le_one_tiefree` hold -/
example : spearman #[(1 : ℝ), 3, 2] #[1, 27, 8] = 1 := by
  apply spearman_increasing #[(1 : ℝ), 3, 2] #[1, 27, 8] rfl (by norm_num) (by norm_num) (by decide)
  intro i j
  fin_cases i <;> fin_cases j <;> norm_num
example : spearman #[(1 : ℝ), 3, 2] #[6, 2, 3] = -1 := by
  apply spearman_decreasing #[(1 : ℝ), 3, 2] #[6, 2, 3] rfl (by norm_num) (by norm_num) (by decide)
  intro i j
  fin_cases i <;> fin_cases j <;> norm_num
example : |spearman #[(1 : ℝ), 3, 2] #[6, 7, 3]| ≤ 1 :=
  spearman_abs_le_one_tiefree #[(1 : ℝ), 3, 2] #[6, 7, 3] rfl (by norm_num) (by norm_num) (by decide)
example : NonConst (realRanks #[(1 : ℝ), 3, 2]) := realRanks_nonConst _ (by norm_num) (by decide)

end Dsp.C16
