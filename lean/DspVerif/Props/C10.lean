import DspVerif.Model.Lru
import Mathlib.Tactic.Linarith
import Mathlib.Data.List.Nodup
import Mathlib.Data.List.Induction
/-!
# C10 — transform results do not depend on call history; plan caching is transparent

Theorems about `Model/Lru` (tied to `lib/lru-cache.h` + `lib/fft/fft.cpp` by the lock-step
correspondence run: key lists of both caches after every request of every enumerated history).
All statements are for EVERY capacity `cap ≥ 1`, EVERY history and EVERY plan-construction function `mk`.
-/
namespace Dsp.C10
open Dsp Dsp.Lru Dsp.Gen

variable {ν : Type}

/-- cache invariant: no key twice, never more than `cap` entries -/
def Inv (c : Cache ν) : Prop := c.keys.Nodup ∧ c.keys.length ≤ c.cap

/-- every cached value is the plan a fresh construction would give for its key -/
def Pure (mk : Nat → ν) (c : Cache ν) : Prop := ∀ e ∈ c.items, e.2 = mk e.1

/-! ### the container -/

theorem has_iff (c : Cache ν) (k : Nat) : c.has k = true ↔ k ∈ c.keys := by
  simp only [Cache.has, Cache.keys, List.any_eq_true, List.mem_map, beq_iff_eq]

theorem put_cap (c : Cache ν) (k : Nat) (v : ν) : (c.put k v).cap = c.cap := by
  rfl

theorem get_cap (c : Cache ν) (k : Nat) : (c.get k).1.cap = c.cap := by
  unfold Cache.get
  split <;> rfl

theorem map_filter_fst (l : List (Nat × ν)) (k : Nat) :
    (l.filter (fun e => e.1 != k)).map (·.1) = (l.map (·.1)).filter (· != k) := by
  induction l with
  | nil => rfl
  | cons a l ih => by_cases h : a.1 = k <;> simp [h, ih]

theorem touch_nodup (cap : Nat) (ks : List Nat) (k : Nat) (h : ks.Nodup) : (touch cap ks k).Nodup := by
  unfold touch
  refine List.Nodup.sublist (List.take_sublist _ _) ?_
  rw [List.nodup_cons]
  exact ⟨by simp, h.filter _⟩

theorem touch_length (cap : Nat) (ks : List Nat) (k : Nat) : (touch cap ks k).length ≤ cap := by
  unfold touch
  rw [List.length_take]
  exact Nat.min_le_left _ _

theorem put_items_take (c : Cache ν) (k : Nat) (v : ν) (h : Inv c) :
    (c.put k v).items = ((k, v) :: c.items.filter (fun e => e.1 != k)).take c.cap := by
  have hf : (c.items.filter (fun e => e.1 != k)).length ≤ c.cap := by
    have := h.2
    simp only [Cache.keys, List.length_map] at this
    exact le_trans (List.length_filter_le _ _) this
  simp only [Cache.put]
  split
  · rename_i hgt
    rw [List.dropLast_eq_take]
    congr 1
    simp only [List.length_cons] at hgt ⊢
    omega
  · rename_i hgt
    simp only [List.length_cons] at hgt
    rw [List.take_of_length_le (by simp only [List.length_cons]; omega)]

/-- `put` refines the abstract move-to-front-and-truncate (`put_inv` needs it; `keys_put` is the same statement) -/
theorem keys_put' (c : Cache ν) (k : Nat) (v : ν) (h : Inv c) : (c.put k v).keys = touch c.cap c.keys k := by
  unfold Cache.keys
  rw [put_items_take c k v h, List.map_take]
  simp [touch, map_filter_fst]

theorem get_of_find_some (c : Cache ν) (k : Nat) (e : Nat × ν) (h : c.items.find? (·.1 == k) = some e) :
    c.get k = (⟨c.cap, e :: c.items.filter (fun e => e.1 != k)⟩, some e.2) := by
  simp [Cache.get, h]

theorem get_of_find_none (c : Cache ν) (k : Nat) (h : c.items.find? (·.1 == k) = none) :
    c.get k = (c, none) := by
  simp [Cache.get, h]

theorem find_some_props (c : Cache ν) (k : Nat) (e : Nat × ν) (h : c.items.find? (·.1 == k) = some e) :
    e.1 = k ∧ e ∈ c.items := by
  refine ⟨?_, List.mem_of_find?_eq_some h⟩
  simpa using List.find?_some h

theorem get_keys_of_find_some (c : Cache ν) (k : Nat) (e : Nat × ν) (h : c.items.find? (·.1 == k) = some e) :
    (c.get k).1.keys = k :: c.keys.filter (· != k) := by
  rw [get_of_find_some c k e h]
  simp [Cache.keys, map_filter_fst, (find_some_props c k e h).1]

theorem length_filter_of_mem (ks : List Nat) (k : Nat) (hk : k ∈ ks) :
    (k :: ks.filter (· != k)).length ≤ ks.length := by
  have : (ks.filter (· != k)).length < ks.length :=
    List.length_filter_lt_length_iff_exists.2 ⟨k, hk, by simp⟩
  simp only [List.length_cons]
  omega

/-- T10.1 `put` keeps the invariant -/
theorem put_inv (c : Cache ν) (k : Nat) (v : ν) (h : Inv c) : Inv (c.put k v) := by
  unfold Inv
  rw [keys_put' c k v h, put_cap]
  exact ⟨touch_nodup _ _ _ h.1, touch_length _ _ _⟩

/-- T10.1 `get` keeps the invariant -/
theorem get_inv (c : Cache ν) (k : Nat) (h : Inv c) : Inv (c.get k).1 := by
  rcases hf : c.items.find? (·.1 == k) with _ | e
  · rw [get_of_find_none c k hf]; exact h
  · obtain ⟨he1, hem⟩ := find_some_props c k e hf
    have hk : k ∈ c.keys := by
      rw [← he1]; exact List.mem_map_of_mem hem
    refine ⟨?_, ?_⟩
    · rw [get_keys_of_find_some c k e hf, List.nodup_cons]
      exact ⟨by simp, h.1.filter _⟩
    · rw [get_keys_of_find_some c k e hf, get_cap]
      exact le_trans (length_filter_of_mem _ _ hk) h.2

/-- `put` refines the abstract move-to-front-and-truncate -/
theorem keys_put (c : Cache ν) (k : Nat) (v : ν) (h : Inv c) : (c.put k v).keys = touch c.cap c.keys k :=
  keys_put' c k v h

/-- `get` of a present key refines the same abstract step and returns the stored value -/
theorem keys_get (c : Cache ν) (k : Nat) (h : Inv c) (hk : k ∈ c.keys) :
    (c.get k).1.keys = touch c.cap c.keys k ∧ ∃ v, (c.get k).2 = some v ∧ (k, v) ∈ c.items := by
  rcases hf : c.items.find? (·.1 == k) with _ | e
  · exfalso
    rw [List.find?_eq_none] at hf
    simp only [Cache.keys, List.mem_map] at hk
    obtain ⟨e, he, rfl⟩ := hk
    exact hf e he (by simp)
  · obtain ⟨he1, hem⟩ := find_some_props c k e hf
    refine ⟨?_, e.2, ?_, ?_⟩
    · rw [get_keys_of_find_some c k e hf]
      unfold touch
      rw [List.take_of_length_le]
      exact le_trans (length_filter_of_mem _ _ hk) h.2
    · rw [get_of_find_some c k e hf]
    · rw [← he1]; exact hem

theorem put_pure (mk : Nat → ν) (c : Cache ν) (k : Nat) (h : Pure mk c) : Pure mk (c.put k (mk k)) := by
  intro e he
  have hsub : e ∈ (k, mk k) :: c.items.filter (fun e => e.1 != k) := by
    simp only [Cache.put] at he
    split at he
    · exact List.dropLast_subset _ he
    · exact he
  rcases List.mem_cons.1 hsub with rfl | hm
  · rfl
  · exact h e (List.mem_filter.1 hm).1

theorem get_pure (mk : Nat → ν) (c : Cache ν) (k : Nat) (h : Pure mk c) :
    Pure mk (c.get k).1 ∧ ∀ v, (c.get k).2 = some v → v = mk k := by
  rcases hf : c.items.find? (·.1 == k) with _ | e
  · rw [get_of_find_none c k hf]
    exact ⟨h, by simp⟩
  · obtain ⟨he1, hem⟩ := find_some_props c k e hf
    rw [get_of_find_some c k e hf]
    refine ⟨?_, ?_⟩
    · intro x hx
      rcases List.mem_cons.1 hx with rfl | hm
      · exact h _ hem
      · exact h x (List.mem_filter.1 hm).1
    · intro v hv
      simp only [Option.some.injEq] at hv
      rw [← hv, ← he1]; exact h e hem

/-! ### "the most recently used ones" -/

/-- distinct elements of a list, first occurrences kept, in order -/
def dd : List Nat → List Nat
  | [] => []
  | a :: l => a :: (dd l).filter (· != a)

/-- the `cap` most recently used distinct keys of a request log (oldest request first), most recent first -/
def mru (cap : Nat) (log : List Nat) : List Nat := (dd log.reverse).take cap

theorem dd_nodup : ∀ l : List Nat, (dd l).Nodup
  | [] => List.nodup_nil
  | a :: l => by
    simp only [dd, List.nodup_cons]
    exact ⟨by simp, (dd_nodup l).filter _⟩

theorem take_filter_take (k : Nat) : ∀ (L : List Nat) (c : Nat), L.Nodup →
    ((L.take (c + 1)).filter (· != k)).take c = (L.filter (· != k)).take c
  | [], c, _ => by simp
  | a :: L, c, h => by
    rw [List.nodup_cons] at h
    by_cases hak : a = k
    · subst hak
      have hf : L.filter (· != a) = L := by
        rw [List.filter_eq_self]
        intro x hx
        simp only [bne_iff_ne, ne_eq]
        rintro rfl
        exact h.1 hx
      have hf2 : (L.take c).filter (· != a) = L.take c := by
        rw [List.filter_eq_self]
        intro x hx
        simp only [bne_iff_ne, ne_eq]
        rintro rfl
        exact h.1 (List.mem_of_mem_take hx)
      simp [List.take_succ_cons, hf, hf2, List.take_take]
    · cases c with
      | zero => simp
      | succ c =>
        have := take_filter_take k L c h.2
        simp [List.take_succ_cons, hak, this]

theorem touch_mru (cap : Nat) (log : List Nat) (k : Nat) :
    touch cap (mru cap log) k = mru cap (log ++ [k]) := by
  cases cap with
  | zero => simp [touch, mru]
  | succ c =>
    simp only [touch, mru, List.reverse_append, List.reverse_cons, List.reverse_nil, List.nil_append,
      List.singleton_append, dd, List.take_succ_cons]
    rw [take_filter_take k _ c (dd_nodup _)]

/-- iterating the abstract step over a log, from the key list left by an earlier log -/
theorem touch_foldl_append (cap : Nat) (log1 log2 : List Nat) :
    log2.foldl (touch cap) (mru cap log1) = mru cap (log1 ++ log2) := by
  induction log2 generalizing log1 with
  | nil => simp
  | cons k l ih =>
    rw [List.foldl_cons, touch_mru, ih (log1 ++ [k]), List.append_assoc]
    rfl

/-- from the empty cache: exactly the most recently used keys -/
theorem touch_foldl_mru (cap : Nat) (log : List Nat) : log.foldl (touch cap) [] = mru cap log := by
  simpa [mru, dd] using touch_foldl_append cap [] log

/-! ### the factory: key-level abstract machine, its log, refinement -/

/-- `reqC` on key lists only, also returning the flattened log of touched keys (in order) -/
def reqK (cap : Nat) : Nat → List Nat → Nat → List Nat × List Nat
  | 0, ks, _ => (ks, [])
  | fuel + 1, ks, n =>
    if bypassC n then (ks, [])
    else if n ∈ ks then (touch cap ks n, [n])
    else
      let r := (childrenC n).foldl (fun (acc : List Nat × List Nat) k =>
        let r := reqK cap fuel acc.1 k
        (r.1, acc.2 ++ r.2)) (ks, [])
      (touch cap r.1 n, r.2 ++ [n])

theorem foldK_log (cap : Nat) (g : List Nat → Nat → List Nat × List Nat)
    (hg : ∀ ks k, (g ks k).1 = (g ks k).2.foldl (touch cap) ks) (ks0 : List Nat) :
    ∀ (l : List Nat) (acc : List Nat × List Nat), acc.1 = acc.2.foldl (touch cap) ks0 →
      (l.foldl (fun (acc : List Nat × List Nat) k => ((g acc.1 k).1, acc.2 ++ (g acc.1 k).2)) acc).1 =
      (l.foldl (fun (acc : List Nat × List Nat) k => ((g acc.1 k).1, acc.2 ++ (g acc.1 k).2)) acc).2.foldl
        (touch cap) ks0 := by
  intro l
  induction l with
  | nil => intro acc h; exact h
  | cons k l ih =>
    intro acc h
    rw [List.foldl_cons]
    apply ih
    simp only [List.foldl_append]
    rw [← h]
    exact hg _ _

/-- T10.2a the key list after a request is the old key list touched by the request's flattened log -/
theorem reqK_log (cap fuel : Nat) (ks : List Nat) (n : Nat) :
    (reqK cap fuel ks n).1 = (reqK cap fuel ks n).2.foldl (touch cap) ks := by
  induction fuel generalizing ks n with
  | zero => simp [reqK]
  | succ fuel ih =>
    rw [reqK]
    split_ifs with h1 h2
    · simp
    · simp
    · have := foldK_log cap (reqK cap fuel) (fun ks k => ih ks k) ks (childrenC n) (ks, []) rfl
      simp only [List.foldl_append, List.foldl_cons, List.foldl_nil]
      congr 1

/-- the five-part specification of one `reqC` call at a given fuel -/
def Spec (mk : Nat → ν) (fuel : Nat) : Prop :=
  ∀ (c : Cache ν) (n : Nat), Inv c → Pure mk c → 0 < c.cap →
    Inv (reqC mk fuel c n).1 ∧ Pure mk (reqC mk fuel c n).1 ∧ (reqC mk fuel c n).1.cap = c.cap ∧
      (reqC mk fuel c n).1.keys = (reqK c.cap fuel c.keys n).1 ∧ (reqC mk fuel c n).2 = mk n

/-- folding `reqC` over a list of nested requests: invariants kept, refines the key-level fold -/
theorem foldC_refines (mk : Nat → ν) (fuel : Nat) (ih : Spec mk fuel) :
    ∀ (l : List Nat) (c : Cache ν) (lg : List Nat), Inv c → Pure mk c → 0 < c.cap →
      Inv (l.foldl (fun c k => (reqC mk fuel c k).1) c) ∧
      Pure mk (l.foldl (fun c k => (reqC mk fuel c k).1) c) ∧
      (l.foldl (fun c k => (reqC mk fuel c k).1) c).cap = c.cap ∧
      (l.foldl (fun c k => (reqC mk fuel c k).1) c).keys =
        (l.foldl (fun (acc : List Nat × List Nat) k =>
          ((reqK c.cap fuel acc.1 k).1, acc.2 ++ (reqK c.cap fuel acc.1 k).2)) (c.keys, lg)).1 := by
  intro l
  induction l with
  | nil => intro c lg hi hp hc; exact ⟨hi, hp, rfl, rfl⟩
  | cons k l ihl =>
    intro c lg hi hp hc
    obtain ⟨i1, p1, c1, k1, _⟩ := ih c k hi hp hc
    obtain ⟨i2, p2, c2, k2⟩ := ihl (reqC mk fuel c k).1 (lg ++ (reqK c.cap fuel c.keys k).2) i1 p1 (c1 ▸ hc)
    simp only [List.foldl_cons]
    refine ⟨i2, p2, c2.trans c1, ?_⟩
    rw [k2, c1, k1]

theorem reqC_succ_has (mk : Nat → ν) (fuel : Nat) (c : Cache ν) (n : Nat) (hb : ¬ bypassC n)
    (hh : c.has n = true) (v : ν) (hv : (c.get n).2 = some v) :
    reqC mk (fuel + 1) c n = ((c.get n).1, v) := by
  rw [reqC]
  simp only [if_neg hb, if_pos hh]
  revert hv
  generalize c.get n = p
  intro hv
  obtain ⟨c', o⟩ := p
  cases hv
  rfl

/-- T10.1 + T10.2b + T10.3: `create_fft_plan` keeps the invariant and purity, refines the key-level machine,
    and returns the freshly-constructed plan of its argument — after ANY history -/
theorem reqC_refines (mk : Nat → ν) (fuel : Nat) : Spec mk fuel := by
  induction fuel with
  | zero => intro c n hi hp hc; exact ⟨hi, hp, rfl, rfl, rfl⟩
  | succ fuel ih =>
    intro c n hi hp hc
    by_cases hb : bypassC n
    · rw [reqC, reqK]
      simp only [if_pos hb]
      refine ⟨hi, hp, ?_, ?_, ?_⟩ <;> first | rfl | trivial
    · by_cases hh : c.has n = true
      · have hk := (has_iff c n).1 hh
        obtain ⟨hkeys, v, hv, hmem⟩ := keys_get c n hi hk
        have hvn : v = mk n := hp _ hmem
        rw [reqC_succ_has mk fuel c n hb hh v hv, reqK]
        simp only [if_neg hb, if_pos hk]
        exact ⟨get_inv c n hi, (get_pure mk c n hp).1, get_cap c n, hkeys, hvn⟩
      · have hk : n ∉ c.keys := fun h => hh ((has_iff c n).2 h)
        rw [reqC, reqK]
        simp only [if_neg hb, if_neg hk, if_neg hh]
        obtain ⟨fi, fp, fc, fk⟩ :=
          foldC_refines mk fuel ih (childrenC n) c [] hi hp hc
        refine ⟨put_inv _ _ _ fi, put_pure mk _ _ fp, ?_, ?_, trivial⟩
        · rw [put_cap, fc]
        · rw [keys_put _ _ _ fi, fc, fk]

/-- the complex cache along a whole history of complex requests, from the empty cache.  Fuel 8, as in `Lru.reqR` / `Lru.step`:
nested requests go three deep at most (a factor tree asks for its prime and power-of-two leaves, a prime above `maxDftSize`
for the power of two of its chirp-z plan, a power of two for nothing), as long as `treeLeaves 32` reaches the leaves -/
def runC (mk : Nat → ν) (cap : Nat) (h : List Nat) : Cache ν :=
  h.foldl (fun c n => (reqC mk 8 c n).1) ⟨cap, []⟩

/-- flattened log of a whole history -/
def logC (cap : Nat) (h : List Nat) : List Nat × List Nat :=
  h.foldl (fun (acc : List Nat × List Nat) n =>
    let r := reqK cap 8 acc.1 n
    (r.1, acc.2 ++ r.2)) ([], [])

theorem runC_snoc (mk : Nat → ν) (cap : Nat) (h : List Nat) (n : Nat) :
    runC mk cap (h ++ [n]) = (reqC mk 8 (runC mk cap h) n).1 := by
  simp [runC, List.foldl_append]

theorem logC_snoc (cap : Nat) (h : List Nat) (n : Nat) :
    logC cap (h ++ [n]) =
      ((reqK cap 8 (logC cap h).1 n).1, (logC cap h).2 ++ (reqK cap 8 (logC cap h).1 n).2) := by
  simp [logC, List.foldl_append]

theorem inv_empty (cap : Nat) : Inv (⟨cap, []⟩ : Cache ν) := ⟨List.nodup_nil, Nat.zero_le _⟩

theorem pure_empty (mk : Nat → ν) (cap : Nat) : Pure mk (⟨cap, []⟩ : Cache ν) := by
  intro e he; cases he

/-- the whole-history invariant: concrete cache and key-level machine stay in lock step -/
theorem runC_spec (mk : Nat → ν) (cap : Nat) (hc : 0 < cap) (h : List Nat) :
    Inv (runC mk cap h) ∧ Pure mk (runC mk cap h) ∧ (runC mk cap h).cap = cap ∧
      (runC mk cap h).keys = (logC cap h).1 ∧
      (logC cap h).1 = (logC cap h).2.foldl (touch cap) [] := by
  induction h using List.reverseRec with
  | nil => exact ⟨inv_empty cap, pure_empty mk cap, rfl, rfl, rfl⟩
  | append_singleton h n ih =>
    obtain ⟨i, p, c, k, l⟩ := ih
    obtain ⟨i1, p1, c1, k1, _⟩ := reqC_refines mk 8 (runC mk cap h) n i p (lt_of_lt_of_eq hc c.symm)
    rw [runC_snoc, logC_snoc]
    refine ⟨i1, p1, c1.trans c, ?_, ?_⟩
    · rw [k1, c, k]
    · simp only [List.foldl_append]
      rw [← l]
      exact reqK_log _ _ _ _

/-- T10.2 (main): after ANY history, for ANY capacity ≥ 1, the cache holds exactly the `cap` most recently
    used lengths of the flattened request log, most recent first; never more than `cap`, no duplicates -/
theorem history_mru (mk : Nat → ν) (cap : Nat) (hc : 0 < cap) (h : List Nat) :
    (runC mk cap h).keys = mru cap (logC cap h).2 ∧ Inv (runC mk cap h) ∧ (runC mk cap h).cap = cap := by
  obtain ⟨i, _, c, k, l⟩ := runC_spec mk cap hc h
  refine ⟨?_, i, c⟩
  rw [k, l, touch_foldl_mru]

/-- T10.3 (main): after ANY history the plan returned for length `n` is the one a fresh thread would construct -/
theorem plan_history_independent (mk : Nat → ν) (cap : Nat) (hc : 0 < cap) (h : List Nat) (n : Nat) :
    (reqC mk 8 (runC mk cap h) n).2 = mk n := by
  obtain ⟨i, p, c, _, _⟩ := runC_spec mk cap hc h
  exact (reqC_refines mk 8 (runC mk cap h) n i p (lt_of_lt_of_eq hc c.symm)).2.2.2.2

theorem foldC_inv (mk : Nat → ν) (l : List Nat) (c : Cache ν) (hi : Inv c) (hp : Pure mk c)
    (hc : 0 < c.cap) :
    Inv (l.foldl (fun c k => (reqC mk 8 c k).1) c) ∧
    Pure mk (l.foldl (fun c k => (reqC mk 8 c k).1) c) ∧
    (l.foldl (fun c k => (reqC mk 8 c k).1) c).cap = c.cap := by
  obtain ⟨a, b, d, _⟩ :=
    foldC_refines mk 8 (reqC_refines mk 8) l c [] hi hp hc
  exact ⟨a, b, d⟩

theorem reqR_has (mkC mkR : Nat → ν) (s : FftState ν) (n : Nat) (hb : ¬ bypassR n)
    (hh : s.cR.has n = true) (v : ν) (hv : (s.cR.get n).2 = some v) :
    reqR mkC mkR s n = ({ s with cR := (s.cR.get n).1 }, v) := by
  unfold reqR
  simp only [if_neg hb, if_pos hh]
  revert hv
  generalize s.cR.get n = p
  intro hv
  obtain ⟨c', o⟩ := p
  cases hv
  rfl

theorem reqR_miss (mkC mkR : Nat → ν) (s : FftState ν) (n : Nat) (hb : ¬ bypassR n)
    (hh : ¬ s.cR.has n = true) :
    reqR mkC mkR s n =
      ({ cC := (childrenR n).foldl (fun c k => (reqC mkC 8 c k).1) s.cC, cR := s.cR.put n (mkR n) },
        mkR n) := by
  unfold reqR
  simp only [if_neg hb, if_neg hh]

theorem reqR_bypass (mkC mkR : Nat → ν) (s : FftState ν) (n : Nat) (hb : bypassR n) :
    reqR mkC mkR s n = (s, mkR n) := by
  unfold reqR
  simp only [if_pos hb]

theorem reqR_spec' (mkC mkR : Nat → ν) (s : FftState ν) (n : Nat)
    (hiC : Inv s.cC) (hiR : Inv s.cR) (hpC : Pure mkC s.cC) (hpR : Pure mkR s.cR) (hcC : 0 < s.cC.cap) :
    Inv (reqR mkC mkR s n).1.cC ∧ Inv (reqR mkC mkR s n).1.cR ∧
      Pure mkC (reqR mkC mkR s n).1.cC ∧ Pure mkR (reqR mkC mkR s n).1.cR ∧
      (reqR mkC mkR s n).1.cC.cap = s.cC.cap ∧ (reqR mkC mkR s n).1.cR.cap = s.cR.cap ∧
      (reqR mkC mkR s n).2 = mkR n := by
  by_cases hb : bypassR n
  · rw [reqR_bypass mkC mkR s n hb]
    exact ⟨hiC, hiR, hpC, hpR, rfl, rfl, rfl⟩
  · by_cases hh : s.cR.has n = true
    · have hk := (has_iff s.cR n).1 hh
      obtain ⟨_, v, hv, hmem⟩ := keys_get s.cR n hiR hk
      have hvn : v = mkR n := hpR _ hmem
      rw [reqR_has mkC mkR s n hb hh v hv]
      exact ⟨hiC, get_inv _ _ hiR, hpC, (get_pure mkR _ n hpR).1, rfl, get_cap _ _, hvn⟩
    · rw [reqR_miss mkC mkR s n hb hh]
      obtain ⟨a, b, d⟩ := foldC_inv mkC (childrenR n) s.cC hiC hpC hcC
      exact ⟨a, put_inv _ _ _ hiR, b, put_pure mkR _ _ hpR, d, put_cap _ _ _, rfl⟩

/-- real-input factory: both caches keep their invariants and purity, and the returned plan is the fresh one -/
theorem reqR_spec (mkC mkR : Nat → ν) (s : FftState ν) (n : Nat)
    (hiC : Inv s.cC) (hiR : Inv s.cR) (hpC : Pure mkC s.cC) (hpR : Pure mkR s.cR)
    (hcC : 0 < s.cC.cap) (hcR : 0 < s.cR.cap) :
    let r := reqR mkC mkR s n
    Inv r.1.cC ∧ Inv r.1.cR ∧ Pure mkC r.1.cC ∧ Pure mkR r.1.cR ∧
      r.1.cC.cap = s.cC.cap ∧ r.1.cR.cap = s.cR.cap ∧ r.2 = mkR n := by
  exact reqR_spec' mkC mkR s n hiC hiR hpC hpR hcC

/-- the state after any sequence of API operations (fft/ifft/rfft/irfft/czt), from a fresh thread -/
def run (mkC mkR : Nat → ν) (cap : Nat) (ops : List Op) : FftState ν :=
  ops.foldl (step mkC mkR) (FftState.init cap)

/-- the two-cache invariant of the thread state -/
def Good (mkC mkR : Nat → ν) (cap : Nat) (s : FftState ν) : Prop :=
  Inv s.cC ∧ Inv s.cR ∧ Pure mkC s.cC ∧ Pure mkR s.cR ∧ s.cC.cap = cap ∧ s.cR.cap = cap

theorem good_init (mkC mkR : Nat → ν) (cap : Nat) : Good mkC mkR cap (FftState.init cap) :=
  ⟨inv_empty cap, inv_empty cap, pure_empty mkC cap, pure_empty mkR cap, rfl, rfl⟩

theorem step_good (mkC mkR : Nat → ν) (cap : Nat) (hc : 0 < cap) (s : FftState ν) (op : Op)
    (h : Good mkC mkR cap s) : Good mkC mkR cap (step mkC mkR s op) := by
  obtain ⟨hiC, hiR, hpC, hpR, hcC, hcR⟩ := h
  have hcC' : 0 < s.cC.cap := hcC ▸ hc
  cases op with
  | fftC n =>
    obtain ⟨i1, p1, c1, _, _⟩ := reqC_refines mkC 8 s.cC n hiC hpC hcC'
    exact ⟨i1, hiR, p1, hpR, c1.trans hcC, hcR⟩
  | fftR n =>
    obtain ⟨a, b, c, d, e, f, _⟩ := reqR_spec' mkC mkR s n hiC hiR hpC hpR hcC'
    exact ⟨a, b, c, d, e.trans hcC, f.trans hcR⟩
  | irfft n =>
    obtain ⟨i1, p1, c1, _, _⟩ := reqC_refines mkC 8 s.cC (n / 2) hiC hpC hcC'
    exact ⟨i1, hiR, p1, hpR, c1.trans hcC, hcR⟩
  | czt n m =>
    show Good mkC mkR cap { s with cC := (cztRequests n m).foldl (fun c k => (reqC mkC 8 c k).1) s.cC }
    generalize cztRequests n m = l   -- keeps `2 ^ nextpow2 …` out of the unifier's reach
    obtain ⟨a, b, d⟩ := foldC_inv mkC l s.cC hiC hpC hcC'
    exact ⟨a, hiR, b, hpR, d.trans hcC, hcR⟩

theorem foldl_good (mkC mkR : Nat → ν) (cap : Nat) (hc : 0 < cap) (ops : List Op) :
    ∀ s : FftState ν, Good mkC mkR cap s → Good mkC mkR cap (ops.foldl (step mkC mkR) s) := by
  induction ops with
  | nil => intro s h; exact h
  | cons op ops ih => intro s h; exact ih _ (step_good mkC mkR cap hc s op h)

/-- T10.1/T10.3 for mixed histories over both caches -/
theorem run_inv (mkC mkR : Nat → ν) (cap : Nat) (hc : 0 < cap) (ops : List Op) :
    let s := run mkC mkR cap ops
    Inv s.cC ∧ Inv s.cR ∧ Pure mkC s.cC ∧ Pure mkR s.cR ∧ s.cC.cap = cap ∧ s.cR.cap = cap := by
  intro s
  exact foldl_good mkC mkR cap hc ops _ (good_init mkC mkR cap)

/-- after any mixed history every transform request obtains the fresh plan of its length -/
theorem run_plan_independent (mkC mkR : Nat → ν) (cap : Nat) (hc : 0 < cap) (ops : List Op) (n : Nat) :
    (reqC mkC 8 (run mkC mkR cap ops).cC n).2 = mkC n ∧ (reqR mkC mkR (run mkC mkR cap ops) n).2 = mkR n := by
  obtain ⟨hiC, hiR, hpC, hpR, hcC, hcR⟩ := run_inv mkC mkR cap hc ops
  have hcC' := lt_of_lt_of_eq hc hcC.symm
  exact ⟨(reqC_refines mkC 8 _ n hiC hpC hcC').2.2.2.2,
    (reqR_spec' mkC mkR _ n hiC hiR hpC hpR hcC').2.2.2.2.2.2⟩

/-! ### non-vacuity / concrete instances -/
example : (runC id 4 [16, 60, 45, 47, 7]).keys = [7, 47, 128, 45] := by decide +kernel
example : (logC 4 [16, 60, 45, 47, 7]).2 = [16, 3, 5, 60, 3, 3, 5, 45, 128, 128, 47, 7] := by decide +kernel
example : mru 4 [16, 3, 5, 60, 3, 3, 5, 45, 128, 128, 47, 7] = [7, 47, 128, 45] := by decide

end Dsp.C10
