import DspVerif.Model.MathFns
import DspVerif.Lib.RealFn
import DspVerif.Lib.Db
import DspVerif.Lib.ListSum
import DspVerif.Lib.CeilDiv
import DspVerif.Lib.ArrayGetD
import Mathlib.Analysis.SpecialFunctions.Complex.Arg
import Mathlib.Analysis.SpecialFunctions.Pow.Real
import Mathlib.Analysis.SpecialFunctions.Log.Base
import Mathlib.Algebra.BigOperators.Group.List.Basic
import Mathlib.Algebra.Order.Round
import Mathlib.Tactic.Linarith
import Mathlib.Tactic.Ring
import Mathlib.Tactic.FieldSimp
/-!
# C17 — elementary and reduction functions return their mathematical values

Theorems about the executable models of `Model/MathFns.lean` (the formulas `lib/math.cpp`,
`include/dsplib/math.h`, `lib/utils.cpp`, `include/dsplib/utils.h` evaluate, in the code's operation order) and, for the
dB conversions and `abs2(real_t)`, about the definitions regenerated from the C++ AST (`Gen/Dynamics.lean`).

* Part (a), shape / index functions — for EVERY element type `β`, on the domains stated in each theorem
  (`zeropad`: `n ≥ size`; `downsample`: `phase < size`; the inverse pair: non-empty `x`):
  integer `arange` (count = `⌈(stop-start)/step⌉` clamped at 0; lists `start + k·step` for EXACTLY the
  `k ≥ 0` strictly before `stop`, both directions), fractional `arange` with integral count, `linspace`
  (count, endpoints, spacing), `repelem`, `flip`, `upsample`, `downsample` (all factors and phases),
  `downsample ∘ upsample = id`, `zeropad`, `delayseq`, `cumsum` (both directions), `complex ∘ (real, imag) = id`.
* Part (b), value functions — in exact arithmetic (`ℝ`, `ℂ`) the evaluated formula IS the definition:
  `abs`, `abs2`, `angle = Complex.arg` (the `atan2` case split), `exp`, `expj`, `power(x, n) = xⁿ` through the polar
  form, the integer-power shortcuts, `sum`, `dot`, `mean`, `rms` (n), `stddev` (n-1), `norm` (p = 1, 2, ≥ 3),
  `max/min/argmax/argmin/peak2peak` (first / last extreme, real and complex-by-magnitude), dB and degree
  conversions and their round trips.

Floating-point rounding is NOT modelled here: "within a few rounding units" is measured by the ORACLE
of `harness/c17.cpp` against `long double`.  `angle` is `std::atan2` in the code; the model is the
textbook case split (glibc's `atan2` is trusted to implement it).
-/
namespace Dsp.C17
open Dsp Dsp.MathFns

variable {β : Type}

/-- "strictly before `stop`" in the direction of `step` -/
def Before (step x stop : Int) : Prop := if 0 < step then x < stop else stop < x

/-- `ceilDiv a b` is `⌈a / b⌉`: an integer `k` lies below it iff `k·b` has not reached `a` (in the direction of `b`) -/
theorem ceilDiv_lt_iff (a b k : Int) (hb : b ≠ 0) :
    k < ceilDiv a b ↔ (if 0 < b then k * b < a else a < k * b) := by
  -- both branches of `ceilDiv` are `-(x / c)` with `c = |b| > 0`
  have key : ∀ x c : Int, 0 < c → (k < -(x / c) ↔ x < -k * c) := fun x c hc => by
    rw [lt_neg, Int.ediv_lt_iff_lt_mul hc]
  unfold ceilDiv
  rcases lt_or_gt_of_ne hb with h | h
  · have e : a / b = -(a / -b) := by rw [Int.ediv_neg, neg_neg]
    rw [if_pos h, if_neg (by omega), e, key a (-b) (by omega), neg_mul_neg]
  · rw [if_neg (by omega), if_pos h, key (-a) b h, neg_mul, neg_lt_neg_iff]

/-- INTEGER `arange`, the "exactly" clause, both directions: for `step ≠ 0` an index `k ≥ 0` is listed iff
`start + k·step` lies strictly before `stop` (in the direction of `step`).  The count is therefore
`⌈(stop-start)/step⌉` clamped at 0 (`arangeCount` is `Int.toNat` of the ceiling). -/
theorem arangeCount_exact (start stop step : Int) (hs : step ≠ 0) (k : Nat) :
    k < arangeCount start stop step ↔ Before step (start + k * step) stop := by
  unfold arangeCount Before
  rw [Int.lt_toNat, ceilDiv_lt_iff _ _ _ hs]
  split <;> omega

/-- integer `arange` rejects `step = 0` -/
theorem arangeInt_step_zero (start stop : Int) : ∃ e, arangeInt start stop 0 = .error e :=
  ⟨"arange step cannot be zero", by simp [arangeInt]⟩

/-- integer `arange` (`step ≠ 0`) returns `arangeCount` elements, the `i`-th being `start + i·step` -/
theorem arangeInt_spec (start stop step : Int) (hs : step ≠ 0) :
    ∃ r, arangeInt start stop step = .ok r ∧ r.size = arangeCount start stop step ∧
      ∀ (i : Nat) (h : i < r.size), r[i] = start + i * step :=
  ⟨_, if_neg hs, Array.size_ofFn, fun i h => Array.getElem_ofFn _⟩


/-- `repelem(x, n)` has `size·n` elements (`n = 0`: empty) -/
theorem repelem_size (x : Array β) (n : Nat) : (repelem x n).size = x.size * n := by
  unfold repelem
  by_cases h0 : n = 0
  · simp [h0]
  by_cases h1 : n = 1
  · simp [h1]
  simp [h0, h1]

/-- `repelem(x, n)[k] = x[k / n]`: each element repeated `n` times, in order -/
theorem repelem_getElem (x : Array β) (n k : Nat) (h : k < (repelem x n).size) :
    (repelem x n)[k] = x[k / n]'(by
      rw [repelem_size] at h
      exact Nat.div_lt_of_lt_mul (Nat.mul_comm x.size n ▸ h)) := by
  unfold repelem
  by_cases h0 : n = 0
  · rw [repelem_size] at h; simp [h0] at h
  by_cases h1 : n = 1
  · simp [h1]
  simp [h0, h1]

theorem flip_size (x : Array β) : (MathFns.flip x).size = x.size := Array.size_ofFn

theorem flip_getElem (x : Array β) (i : Nat) (h : i < (MathFns.flip x).size) :
    (MathFns.flip x)[i] = x[x.size - 1 - i]'(by rw [flip_size] at h; omega) :=
  Array.getElem_ofFn _

/-- `zeropad(x, n)` throws when `n` is below the length -/
theorem zeropad_short (zero : β) (x : Array β) (n : Int) (h : n < x.size) :
    ∃ e, zeropad zero x n = .error e := ⟨"padding size error", by simp [zeropad, h]⟩

/-- `zeropad(x, n)`, `n ≥ size`: `n` elements, `x` followed by zeros -/
theorem zeropad_spec (zero : β) (x : Array β) (n : Nat) (h : x.size ≤ n) :
    ∃ r, zeropad zero x n = .ok r ∧ r.size = n ∧
      ∀ (i : Nat) (hi : i < r.size), r[i] = if h' : i < x.size then x[i] else zero := by
  unfold zeropad
  rw [if_neg (by omega)]
  by_cases h2 : x.size = n
  · exact ⟨x, by rw [if_pos (by omega)], h2, fun i hi => by rw [dif_pos hi]⟩
  · refine ⟨_, by rw [if_neg (by omega), Int.toNat_natCast],
      by rw [Array.size_append, Array.size_replicate]; omega, fun i hi => ?_⟩
    simp only [Array.getElem_append, Array.getElem_replicate]


/-- `upsample` with valid arguments is one `Array.ofFn`, also for `n = 1`, where the code returns `x` itself -/
theorem upsample_eq (zero : β) (x : Array β) (n phase : Nat) (hp : phase < n) :
    upsample zero x n phase = .ok (Array.ofFn (n := x.size * n) fun k =>
      if k.val % n = phase then x.getD (k.val / n) zero else zero) := by
  unfold upsample
  rw [if_neg (by omega), if_neg (by omega)]
  split
  · obtain rfl : n = 1 := by omega
    obtain rfl : phase = 0 := by omega
    congr 1
    apply Array.ext (by rw [Array.size_ofFn, Nat.mul_one])
    intro i h1 _
    rw [Array.getElem_ofFn, if_pos (Nat.mod_one i), Nat.div_one, getD_of_lt zero x h1]
  · simp only [Int.toNat_natCast]

/-- `upsample(x, n, phase)`, `0 ≤ phase < n`: `size·n` elements, `x[i]` at position `i·n + phase`, zero elsewhere -/
theorem upsample_spec (zero : β) (x : Array β) (n phase : Nat) (hp : phase < n) :
    ∃ r, upsample zero x n phase = .ok r ∧ r.size = x.size * n ∧
      (∀ (i : Nat) (hi : i < x.size) (hk : i * n + phase < r.size), r[i * n + phase] = x[i]) ∧
      (∀ (k : Nat) (hk : k < r.size), k % n ≠ phase → r[k] = zero) := by
  refine ⟨_, upsample_eq zero x n phase hp, Array.size_ofFn, fun i hi hk => ?_, fun k hk hne => ?_⟩
  · rw [Array.getElem_ofFn, (mul_add_mod_div hp i).1, (mul_add_mod_div hp i).2, if_pos rfl, getD_of_lt zero x hi]
  · rw [Array.getElem_ofFn, if_neg hne]

/-- the C `int` expression `(size - phase - 1) / n + 1` of `_downsample` for `phase < size` -/
theorem downsample_nr (N n phase : Nat) (hN : phase < N) :
    (Int.tdiv ((N : Int) - phase - 1) n + 1).toNat = (N - phase - 1) / n + 1 := by
  have : (N : Int) - phase - 1 = ((N - phase - 1 : Nat) : Int) := by omega
  rw [this, ← Int.ofNat_tdiv]
  generalize (N - phase - 1) / n = q
  omega

/-- `downsample` with valid arguments and `phase < size` is one `Array.ofFn`, also for `n = 1` -/
theorem downsample_eq (zero : β) (x : Array β) (n phase : Nat) (hp : phase < n) (hN : phase < x.size) :
    downsample zero x n phase = .ok (Array.ofFn (n := (x.size - phase - 1) / n + 1) fun i =>
      x.getD (phase + i.val * n) zero) := by
  unfold downsample
  rw [if_neg (by omega), if_neg (by omega)]
  split
  · obtain rfl : n = 1 := by omega
    obtain rfl : phase = 0 := by omega
    congr 1
    apply Array.ext (by rw [Array.size_ofFn, Nat.div_one]; omega)
    intro i h1 _
    rw [Array.getElem_ofFn, Nat.zero_add, Nat.mul_one, getD_of_lt zero x h1]
  · simp only [Int.toNat_natCast]
    rw [downsample_nr _ _ _ hN]

/-- `downsample(x, n, phase)`, `0 ≤ phase < n`, `phase < size`: keeps EXACTLY the indices `phase + k·n < size`
(so `⌈(size - phase)/n⌉` elements), `r[i] = x[phase + i·n]`.  The excluded point `phase ≥ size` (outside the
property's quantifier) is an input class of the harness: there C truncation yields one zero element. -/
theorem downsample_spec (zero : β) (x : Array β) (n phase : Nat) (hp : phase < n) (hN : phase < x.size) :
    ∃ r, downsample zero x n phase = .ok r ∧ r.size = (x.size - phase - 1) / n + 1 ∧
      (∀ k : Nat, k < r.size ↔ phase + k * n < x.size) ∧
      (∀ (i : Nat) (hi : i < r.size) (hx : phase + i * n < x.size), r[i] = x[phase + i * n]) := by
  refine ⟨_, downsample_eq zero x n phase hp hN, Array.size_ofFn, fun k => ?_, fun i hi hx => ?_⟩
  · rw [Array.size_ofFn, Nat.lt_succ_iff, Nat.le_div_iff_mul_le (by omega)]; omega
  · rw [Array.getElem_ofFn, getD_of_lt zero x hx]

/-- inverse pair: `downsample(upsample(x, n, phase), n, phase) = x` for every factor `n ≥ 1`, every phase `< n`
and every non-empty `x` (for the empty array and `phase < n - 1` the C truncation returns one zero — lengths
start at 1 in the property) -/
theorem downsample_upsample (zero : β) (x : Array β) (n phase : Nat) (hp : phase < n) (hx : 0 < x.size) :
    ∃ u, upsample zero x n phase = .ok u ∧ downsample zero u n phase = .ok x := by
  refine ⟨_, upsample_eq zero x n phase hp, ?_⟩
  have hn0 : 0 < n := by omega
  rw [downsample_eq zero _ n phase hp
    (by rw [Array.size_ofFn]; exact Nat.lt_of_lt_of_le hp (Nat.le_mul_of_pos_left n hx))]
  congr 1
  obtain ⟨m, hm⟩ : ∃ m, x.size = m + 1 := ⟨x.size - 1, by omega⟩
  have hsz : (x.size * n - phase - 1) / n + 1 = x.size := by
    have : x.size * n - phase - 1 = (n - phase - 1) + m * n := by rw [hm, Nat.succ_mul]; omega
    rw [this, Nat.add_mul_div_right _ _ hn0, Nat.div_eq_of_lt (by omega), hm]; omega
  apply Array.ext (by simp only [Array.size_ofFn, hsz])
  intro i _ h2
  have e := mul_add_mod_div hp i
  rw [Nat.add_comm] at e
  have hi : phase + i * n < x.size * n := (Nat.div_lt_iff_lt_mul hn0).mp (by rw [e.2]; exact h2)
  rw [Array.getElem_ofFn, getD_of_lt zero _ (by simp only [Array.size_ofFn]; exact hi), Array.getElem_ofFn, if_pos e.1]
  simp only [e.2, getD_of_lt zero x h2]

theorem delayseq_size (zero : β) (x : Array β) (d : Int) : (delayseq zero x d).size = x.size := by
  rw [delayseq, apply_ite Array.size, apply_ite Array.size, Array.size_replicate, Array.size_ofFn, ite_self, ite_self]

/-- `delayseq` shifts by exactly `d` with zero fill: `r[i] = x[i - d]` when `0 ≤ i - d < N`, else zero -/
theorem delayseq_getElem (zero : β) (x : Array β) (d : Int) (i : Nat) (hi : i < (delayseq zero x d).size) :
    (delayseq zero x d)[i] =
      if h : 0 ≤ (i : Int) - d ∧ (i : Int) - d < x.size then x[((i : Int) - d).toNat]'(by omega) else zero := by
  have hi' : i < x.size := by rwa [delayseq_size] at hi
  rw [Array.getElem_eq_iff]
  unfold delayseq
  by_cases h0 : d = 0
  · subst h0
    rw [if_pos rfl, dif_pos (by omega), Array.getElem?_eq_getElem hi']
    simp only [Int.sub_zero, Int.toNat_natCast]
  · rw [if_neg h0]
    by_cases h1 : d.natAbs ≥ x.size
    · rw [if_pos h1, Array.getElem?_replicate, if_pos hi', dif_neg (by omega)]
    · rw [if_neg h1, Array.getElem?_ofFn, dif_pos hi']
      by_cases hd : d > 0
      · simp only [if_pos hd]
        by_cases h2 : i < d.natAbs
        · rw [if_pos h2, dif_neg (by omega)]
        · have e : (0 ≤ (i : Int) - d ∧ (i : Int) - d < x.size) ∧ ((i : Int) - d).toNat = i - d.natAbs := by omega
          rw [if_neg h2, dif_pos e.1, getD_of_lt zero x ((Nat.sub_le _ _).trans_lt hi')]
          simp only [e.2]
      · simp only [if_neg hd]
        by_cases h2 : i < x.size - d.natAbs
        · have e : (0 ≤ (i : Int) - d ∧ (i : Int) - d < x.size) ∧ ((i : Int) - d).toNat = i + d.natAbs := by omega
          rw [if_pos h2, dif_pos e.1, getD_of_lt zero x (Nat.add_lt_of_lt_sub h2)]
          simp only [e.2]
        · rw [if_neg h2, dif_neg (by omega)]

/-! ### cumsum -/
section
variable {γ : Type} [AddCommMonoid γ]

theorem scanFwd_length (acc : γ) (l : List γ) : (scanFwd acc l).length = l.length := by
  induction l generalizing acc with
  | nil => rfl
  | cons y ys ih => simp [scanFwd, ih]

theorem scanFwd_getElem (acc : γ) (l : List γ) (i : Nat) (h : i < (scanFwd acc l).length) :
    (scanFwd acc l)[i] = acc + (l.take (i + 1)).sum := by
  induction l generalizing acc i with
  | nil => simp [scanFwd] at h
  | cons y ys ih =>
    cases i with
    | zero => simp [scanFwd, add_comm]
    | succ j =>
      simp only [scanFwd, List.getElem_cons_succ]
      rw [ih]
      simp [List.take_succ_cons, add_assoc, add_comm y acc]

theorem cumsumFwd_eq_scanFwd (l : List γ) : cumsumFwd l = scanFwd 0 l := by
  cases l with
  | nil => rfl
  | cons y ys => simp only [cumsumFwd, scanFwd, add_zero]

theorem cumsumFwd_length (l : List γ) : (cumsumFwd l).length = l.length := by
  rw [cumsumFwd_eq_scanFwd, scanFwd_length]

/-- forward `cumsum`: element `i` is the sum of the first `i + 1` inputs -/
theorem cumsumFwd_getElem (l : List γ) (i : Nat) (h : i < (cumsumFwd l).length) :
    (cumsumFwd l)[i] = (l.take (i + 1)).sum := by
  simp only [cumsumFwd_eq_scanFwd, scanFwd_getElem, zero_add]

/-- reverse `cumsum`: same length, element `i` is the sum of the inputs from `i` to the end -/
theorem cumsumRev_eq (l : List γ) : cumsumRev l = (List.range l.length).map (fun i => (l.drop i).sum) := by
  induction l with
  | nil => rfl
  | cons y ys ih =>
    rw [cumsumRev, ih]
    cases ys with
    | nil => simp
    | cons z zs =>
      simp only [List.length_cons, List.range_succ_eq_map, List.map_cons, List.drop_zero, List.sum_cons,
        List.map_map]
      congr 1

end

/-- `linspace(x1, x2, 0)` throws -/
theorem linspace_zero (x1 x2 : ℝ) : ∃ e, linspace x1 x2 0 = .error e := ⟨"n must be greater or equal 1", by simp [linspace]⟩

/-- `linspace(x1, x2, n)`, `n ≥ 1`: `n` points, the last is `x2`, the first is `x1` (for `n ≥ 2`), equally spaced -/
theorem linspace_spec (x1 x2 : ℝ) (n : Nat) (hn : 1 ≤ n) :
    ∃ r, linspace x1 x2 n = .ok r ∧ r.size = n ∧
      (∀ h : n - 1 < r.size, r[n - 1] = x2) ∧
      (2 ≤ n → ∀ h : 0 < r.size, r[0] = x1) ∧
      (2 ≤ n → ∀ (i : Nat) (h : i < r.size), r[i] = x1 + i * ((x2 - x1) / ((n : ℝ) - 1))) := by
  unfold linspace
  rw [if_neg (by omega)]
  by_cases h1 : n = 1
  · subst h1
    exact ⟨#[x2], if_pos rfl, rfl, fun _ => rfl, fun h => absurd h (by omega), fun h => absurd h (by omega)⟩
  rw [if_neg h1]
  by_cases h2 : n = 2
  · subst h2
    refine ⟨#[x1, x2], if_pos rfl, rfl, fun _ => rfl, fun _ _ => rfl, fun _ i h => ?_⟩
    have e : ((2 : ℕ) : ℝ) - 1 = 1 := by norm_num
    rw [e, div_one]
    match i, h with
    | 0, _ => simp
    | 1, _ => simp
  · have hn1 : ((n - 1 : Nat) : ℝ) = (n : ℝ) - 1 := by rw [Nat.cast_sub hn, Nat.cast_one]
    have hne : (n : ℝ) - 1 ≠ 0 := by
      rw [← hn1]; exact Nat.cast_ne_zero.mpr (by omega)
    refine ⟨_, if_neg h2, Array.size_ofFn, fun h => ?_, fun _ h => ?_, fun _ i h => ?_⟩
    · simp only [Array.getElem_ofFn, fn_ofNat, hn1]
      rw [mul_div_cancel₀ _ hne, add_sub_cancel]
    · rw [Array.getElem_ofFn, fn_ofNat, Nat.cast_zero, zero_mul, add_zero]
    · simp only [Array.getElem_ofFn, fn_ofNat, hn1]

/-- fractional `arange` whose count `(stop - start) / step` is the integer `n`: exactly `n` elements
`start + i step`, each strictly before `stop` (in the direction of `step`), and the next point IS `stop` -/
theorem arangeF_spec (start stop step : ℝ) (n : Nat) (hs : step ≠ 0) (hq : (stop - start) / step = n) :
    arangeFCount start stop step = n ∧ (arangeF start step n).size = n ∧
      (∀ (i : Nat) (h : i < (arangeF start step n).size), (arangeF start step n)[i] = start + i * step) ∧
      (∀ i : Nat, i < n → if 0 < step then start + i * step < stop else stop < start + i * step) ∧
      start + n * step = stop := by
  have hstop : start + n * step = stop := by rw [← hq, div_mul_cancel₀ _ hs, add_sub_cancel]
  refine ⟨?_, Array.size_ofFn, fun i h => Array.getElem_ofFn .., fun i hi => ?_, hstop⟩
  · -- `round` of an integer: `⌊n + 1/2⌋ = n`
    rw [arangeFCount, hq, fn_round, if_pos (Nat.cast_nonneg n), ← round_eq, round_natCast, Int.cast_natCast]
  · have hi' : (i : ℝ) < n := Nat.cast_lt.mpr hi
    rw [← hstop]
    split
    · next hp => exact add_lt_add_right (mul_lt_mul_of_pos_right hi' hp) _
    · next hp => exact add_lt_add_right (mul_lt_mul_of_neg_right hi' (lt_of_le_of_ne (not_lt.mp hp) hs)) _

noncomputable instance : FnX ℝ := ⟨fun x => Real.log x / Real.log 2⟩

/-- over `ℝ` there is no negative zero: the sign-bit test is `x < 0` -/
theorem signNeg_real (x : ℝ) : signNeg x = decide (x < 0) := by
  simp only [signNeg, fn_ofNat, Nat.cast_zero, Nat.cast_one, one_div, inv_lt_zero, Bool.or_self]

/-- `abs(cmplx_t)` = `√(re² + im²)` is the modulus -/
theorem cabs_eq (z : Cx ℝ) : cabs z = ‖Cx.toC z‖ := by
  rw [Complex.norm_def, Complex.normSq_apply]
  rfl

/-- `abs2(cmplx_t)` = `re² + im²` is the squared modulus -/
theorem abs2_eq (z : Cx ℝ) : Cx.abs2 z = ‖Cx.toC z‖ ^ 2 := by
  rw [Cx.abs2_eq, Complex.sq_norm]

/-- `(im/re) / √(1 + (im/re)²) = sign(re) · im / ‖z‖` -/
theorem tan_norm (a b : ℝ) (ha : a ≠ 0) :
    (b / a) / Real.sqrt (1 + (b / a) ^ 2) = (if 0 < a then b else -b) / Real.sqrt (a * a + b * b) := by
  have h1 : 1 + (b / a) ^ 2 = (a * a + b * b) / (a ^ 2) := by
    rw [div_pow, add_div, ← sq, div_self (pow_ne_zero 2 ha), sq b]
  rw [h1, Real.sqrt_div' _ (sq_nonneg a), Real.sqrt_sq_eq_abs]
  split
  · next h => rw [abs_of_pos h, div_div_div_cancel_right₀ ha]
  · next h =>
    have h' : a < 0 := lt_of_le_of_ne (not_lt.mp h) ha
    rw [abs_of_neg h', ← neg_div_neg_eq b a, div_div_div_cancel_right₀ (neg_ne_zero.mpr ha)]

/-- `angle` (the case split evaluated for `std::atan2(im, re)`) is the principal argument -/
theorem angle_eq_arg (z : Cx ℝ) : angle z = Complex.arg (Cx.toC z) := by
  have hn : ‖Cx.toC z‖ = Real.sqrt (z.re * z.re + z.im * z.im) := (cabs_eq z).symm
  unfold angle
  simp only [signNeg_real, fn_ofNat, fn_atan, fn_pi, Nat.cast_zero, Nat.cast_ofNat]
  by_cases h1 : 0 < z.re
  · rw [if_pos h1, Complex.arg_of_re_nonneg (le_of_lt h1), Real.arctan_eq_arcsin,
      tan_norm _ _ h1.ne', if_pos h1, hn]; rfl
  rw [if_neg h1]
  by_cases h2 : z.re < 0
  · rw [if_pos h2, Real.arctan_eq_arcsin, tan_norm _ _ h2.ne, if_neg h1, ← hn]
    by_cases h3 : z.im < 0
    · rw [decide_eq_true h3, if_pos rfl, Complex.arg_of_re_neg_of_im_neg h2 h3]; rfl
    · rw [decide_eq_false h3, if_neg Bool.false_ne_true, Complex.arg_of_re_neg_of_im_nonneg h2 (not_lt.mp h3)]; rfl
  rw [if_neg h2]
  have h0 : z.re = 0 := le_antisymm (not_lt.mp h1) (not_lt.mp h2)
  by_cases h3 : 0 < z.im
  · rw [if_pos h3]; exact (Complex.arg_eq_pi_div_two_iff.mpr ⟨h0, h3⟩).symm
  rw [if_neg h3]
  by_cases h4 : z.im < 0
  · rw [if_pos h4]; exact (Complex.arg_eq_neg_pi_div_two_iff.mpr ⟨h0, h4⟩).symm
  rw [if_neg h4]
  have h5 : z.im = 0 := le_antisymm (not_lt.mp h3) (not_lt.mp h4)
  have : Cx.toC z = 0 := Complex.ext h0 h5
  rw [this, Complex.arg_zero, decide_eq_false h2, if_neg Bool.false_ne_true, h5]

/-- `exp(cmplx_t)` is the complex exponential -/
theorem cexp_eq (z : Cx ℝ) : Cx.toC (cexp z) = Complex.exp (Cx.toC z) := by
  apply Complex.ext <;> simp [cexp, Complex.exp_re, Complex.exp_im]

/-- `expj(x)` = `(cos x, sin x)` is `e^{ix}` -/
theorem expj_eq (x : ℝ) : Cx.toC (expj x) = Complex.exp (x * Complex.I) := by
  apply Complex.ext <;> simp [expj, Complex.exp_re, Complex.exp_im]

/-- `power(cmplx_t, real_t)`: the polar form `|x|ⁿ·(cos(n·angle x), sin(n·angle x))` IS the principal power `xⁿ`
(this is `Complex.cpow_ofReal_re/im` with `angle = arg`, `abs = ‖·‖`).  No hypothesis is needed in `ℝ`; for the CODE the
statement is meaningful for `x ≠ 0`, and for `x = 0` with `n ≥ 0` (`pow(0, 0) = 1`, `pow(0, n) = 0`, matching Mathlib's
`0 ^ n`); `x = 0, n < 0` (IEEE `+∞`) is outside the domain and is an excluded input class of the harness. -/
theorem cpow_eq (x : Cx ℝ) (n : ℝ) : Cx.toC (cpow x n) = (Cx.toC x) ^ (n : ℂ) := by
  apply Complex.ext <;>
    simp [Complex.cpow_ofReal_re, Complex.cpow_ofReal_im, cpow, Cx.rmul, Cx.mulr, expj, rpow, cabs_eq, angle_eq_arg, mul_comm]


/-- `power(real_t, int)` with its shortcuts is the integer power -/
theorem rpowi_eq (x : ℝ) (n : ℤ) (_hx : x ≠ 0 ∨ 0 ≤ n) : rpowi x n = x ^ n := by
  unfold rpowi
  by_cases h2 : n = 2
  · rw [if_pos h2, h2]; exact (zpow_two x).symm
  rw [if_neg h2]
  by_cases h1 : n = -1
  · rw [if_pos h1, h1, zpow_neg_one, fn_ofNat, Nat.cast_one, one_div]
  rw [if_neg h1]
  by_cases h0 : n = 0
  · rw [if_pos h0, h0, zpow_zero, fn_ofNat, Nat.cast_one]
  rw [if_neg h0]
  by_cases h1' : n = 1
  · rw [if_pos h1', h1', zpow_one]
  · rw [if_neg h1']; exact Real.rpow_intCast x n

/-- the REGENERATED `cmplx_t::operator/` is complex division (`Cx.toC_div` of `Lib/RealFn`; `hb` documents the code's domain and is
not used: over `ℝ` both sides are `0` at `b = 0`; likewise `hx` of `cpowi_eq` and `_hx` of `rpowi_eq`) -/
theorem toC_div (a b : Cx ℝ) (hb : Cx.toC b ≠ 0) : Cx.toC (a / b) = Cx.toC a / Cx.toC b :=
  Cx.toC_div a b

/-- `power(cmplx_t, int)` with its shortcuts (`x*x`, `1/x`, `1`, `x`, else polar form) is the integer power -/
theorem cpowi_eq (x : Cx ℝ) (n : ℤ) (hx : Cx.toC x ≠ 0) : Cx.toC (cpowi x n) = (Cx.toC x) ^ n := by
  unfold cpowi
  by_cases h2 : n = 2
  · rw [if_pos h2, h2, Cx.toC_mul]; exact (zpow_two _).symm
  rw [if_neg h2]
  by_cases h1 : n = -1
  · rw [if_pos h1, h1, Cx.toC_rdiv, zpow_neg_one, fn_ofNat, Nat.cast_one, Complex.ofReal_one, one_div]
  rw [if_neg h1]
  by_cases h0 : n = 0
  · rw [if_pos h0, h0, zpow_zero]; exact Complex.ext (by simp) (by simp)
  rw [if_neg h0]
  by_cases h1' : n = 1
  · rw [if_pos h1', h1', zpow_one]
  · rw [if_neg h1', cpow_eq, fn_ofInt, Complex.ofReal_intCast, Complex.cpow_intCast]

/-- `sum(arr_real)` is the sum of the elements -/
theorem sum_eq (x : Array ℝ) : MathFns.sum x = x.toList.sum := by
  unfold MathFns.sum
  rw [← Array.foldl_toList]
  simpa using foldl_add_map (fun v : ℝ => v) x.toList (0 : ℝ)

/-- `mean(arr_real)` = Σ xᵢ / n -/
theorem mean_eq (x : Array ℝ) : mean x = x.toList.sum / x.size := by
  simp [mean, sum_eq]

/-- `dot(x, y)` = Σ xᵢ yᵢ for equal sizes -/
theorem dot_eq (x y : Array ℝ) (h : x.size = y.size) :
    dot x y = .ok ((x.toList.zip y.toList).map (fun p => p.1 * p.2)).sum := by
  unfold dot
  rw [if_neg (by simpa using h), ← Array.foldl_toList]
  have := foldl_add_map (fun p : ℝ × ℝ => p.1 * p.2) (x.zip y).toList (0 : ℝ)
  simp only [fn_ofNat, Nat.cast_zero] at this ⊢
  rw [this]; simp

/-- `dot` of arrays of different sizes throws -/
theorem dot_size_mismatch (x y : Array ℝ) (h : x.size ≠ y.size) : ∃ e, dot x y = .error e :=
  ⟨"arrays sizes must be equal", by simp [dot, h]⟩

/-- `rms(arr_real)` = √(Σ xᵢ² / n) -/
theorem rms_eq (x : Array ℝ) : rms x = Real.sqrt ((x.toList.map (fun v => v ^ 2)).sum / x.size) := by
  unfold rms
  rw [← Array.foldl_toList]
  have := foldl_add_map (fun v : ℝ => v * v) x.toList (0 : ℝ)
  simp only [fn_ofNat, Nat.cast_zero, fn_sqrt] at this ⊢
  rw [this]; simp [pow_two]

/-- the correction `√(n / (n-1))` turns the `rms` of the deviations (divide by `n`) into the sample deviation (`n - 1`) -/
theorem sqrt_bessel (S : ℝ) (n : ℕ) (hn : 2 ≤ n) :
    Real.sqrt (S / n) * Real.sqrt ((n : ℝ) / (((n : ℤ) - 1 : ℤ) : ℝ)) = Real.sqrt (S / ((n : ℝ) - 1)) := by
  have h0 : (0 : ℝ) < n := Nat.cast_pos.mpr (by omega)
  have h1 : (0 : ℝ) ≤ (n : ℝ) - 1 := sub_nonneg.mpr (Nat.one_le_cast.mpr (by omega))
  rw [Int.cast_sub, Int.cast_natCast, Int.cast_one, ← Real.sqrt_mul' _ (div_nonneg h0.le h1), div_mul_div_comm,
    mul_comm S, mul_div_mul_left _ _ h0.ne']

/-- `stddev(arr_real)` = √(Σ (xᵢ - mean)² / (n - 1)) for `n ≥ 2` (sample standard deviation) -/
theorem stddev_eq (x : Array ℝ) (hn : 2 ≤ x.size) :
    stddev x = Real.sqrt ((x.toList.map (fun v => (v - x.toList.sum / x.size) ^ 2)).sum / ((x.size : ℝ) - 1)) := by
  unfold stddev
  simp only [rms_eq, mean_eq, fn_sqrt, fn_ofNat, fn_ofInt, Array.size_map, Array.toList_map, List.map_map]
  exact sqrt_bessel _ _ hn

/-- `norm(x, 1)` = Σ |xᵢ| -/
theorem norm_one_eq (x : Array ℝ) : MathFns.norm x 1 = (x.toList.map (fun v => |v|)).sum := by
  simp only [MathFns.norm, if_true, sum_eq, Array.toList_map]; rfl

/-- `norm(x, 2)` (the default) = √(Σ xᵢ²) -/
theorem norm_two_eq (x : Array ℝ) : MathFns.norm x 2 = Real.sqrt ((x.toList.map (fun v => v ^ 2)).sum) := by
  have e : (fun v : ℝ => rpowi v 2) = fun v => v ^ 2 := by funext v; simp [rpowi, pow_two]
  simp [MathFns.norm, sum_eq, rpowiArr, e]

/-- the general branch of `norm`, on the array of magnitudes -/
theorem normP_eq (a : Array ℝ) (p : Nat) (hp : 3 ≤ p) :
    normP a p = ((a.toList.map (fun v => v ^ p)).sum) ^ ((1 : ℝ) / p) := by
  have h1 : ¬ ((p : Int) = 1) := by omega
  have h0 : ¬ ((p : Int) = 0) := by omega
  simp only [normP, rpow, fn_pow, sum_eq, rpowiArr, h0, h1, if_false, Array.toList_map, fn_ofNat, fn_ofInt, Nat.cast_one,
    Int.cast_natCast]
  congr 2
  apply List.map_congr_left
  intro v _
  rw [rpowi_eq v p (Or.inr (Int.natCast_nonneg p)), zpow_natCast]

/-- `norm(x, p)`, `p ≥ 3` = (Σ |xᵢ|^p)^(1/p) -/
theorem norm_p_eq (x : Array ℝ) (p : Nat) (hp : 3 ≤ p) :
    MathFns.norm x p = ((x.toList.map (fun v => |v| ^ p)).sum) ^ ((1 : ℝ) / p) := by
  rw [MathFns.norm, if_neg (by omega), if_neg (by omega), normP_eq _ _ hp, Array.toList_map, List.map_map]; rfl

/-- complex `norm(x, p)`, `p ≥ 3` -/
theorem cnorm_p_eq (x : Array (Cx ℝ)) (p : Nat) (hp : 3 ≤ p) :
    cnorm x p = ((x.toList.map (fun v => ‖Cx.toC v‖ ^ p)).sum) ^ ((1 : ℝ) / p) := by
  rw [cnorm, if_neg (by omega), if_neg (by omega), normP_eq _ _ hp, Array.toList_map, List.map_map, funext cabs_eq]; rfl
/-- complex `norm(x, 1)` = Σ |zᵢ| -/
theorem cnorm_one_eq (x : Array (Cx ℝ)) : cnorm x 1 = (x.toList.map (fun v => ‖Cx.toC v‖)).sum := by
  simp [cnorm, sum_eq, funext cabs_eq]

/-- complex `norm(x, 2)` = √(Σ |zᵢ|²) -/
theorem cnorm_two_eq (x : Array (Cx ℝ)) : cnorm x 2 = Real.sqrt ((x.toList.map (fun v => ‖Cx.toC v‖ ^ 2)).sum) := by
  simp [cnorm, sum_eq, funext abs2_eq]

/-! ### complex reductions -/
theorem toC_czero : Cx.toC (czero : Cx ℝ) = 0 := by apply Complex.ext <;> simp [czero]

theorem foldl_toC {δ : Type} (g : δ → Cx ℝ) (l : List δ) (a : Cx ℝ) :
    Cx.toC (l.foldl (fun acc v => acc + g v) a) = Cx.toC a + (l.map (fun v => Cx.toC (g v))).sum := by
  induction l generalizing a with
  | nil => simp
  | cons y ys ih => simp [ih, Cx.toC_add, add_assoc]

/-- `sum(arr_cmplx)` -/
theorem csum_eq (x : Array (Cx ℝ)) : Cx.toC (csum x) = (x.toList.map Cx.toC).sum := by
  unfold csum
  rw [← Array.foldl_toList, foldl_toC (fun v => v), toC_czero]; simp

/-- `mean(arr_cmplx)` -/
theorem cmean_eq (x : Array (Cx ℝ)) : Cx.toC (cmean x) = (x.toList.map Cx.toC).sum / x.size := by
  rw [cmean, fn_ofNat, Cx.toC_divr, csum_eq]; rfl

/-- `dot(arr_cmplx, arr_cmplx)` = Σ xᵢ yᵢ (bilinear, no conjugation) -/
theorem cdot_eq (x y : Array (Cx ℝ)) (h : x.size = y.size) :
    ∃ r, cdot x y = .ok r ∧ Cx.toC r = ((x.toList.zip y.toList).map (fun p => Cx.toC p.1 * Cx.toC p.2)).sum := by
  refine ⟨_, by unfold cdot; rw [if_neg (by simpa using h)], ?_⟩
  rw [← Array.foldl_toList, foldl_toC (fun p : Cx ℝ × Cx ℝ => p.1 * p.2), toC_czero]
  simp [Cx.toC_mul]

/-- `rms(arr_cmplx)` = √(Σ |zᵢ|² / n) -/
theorem crms_eq (x : Array (Cx ℝ)) : crms x = Real.sqrt ((x.toList.map (fun v => ‖Cx.toC v‖ ^ 2)).sum / x.size) := by
  unfold crms
  rw [← Array.foldl_toList]
  have := foldl_add_map (fun v : Cx ℝ => v.re * v.re + v.im * v.im) x.toList (0 : ℝ)
  simp only [fn_ofNat, Nat.cast_zero, fn_sqrt, ← add_assoc] at this ⊢
  rw [this]
  simp only [zero_add]
  congr 3
  apply List.map_congr_left
  exact fun v _ => abs2_eq v

/-- `stddev(arr_cmplx)` = √(Σ |zᵢ - mean|² / (n - 1)), `n ≥ 2` -/
theorem cstddev_eq (x : Array (Cx ℝ)) (hn : 2 ≤ x.size) :
    cstddev x = Real.sqrt ((x.toList.map (fun v => ‖Cx.toC v - (x.toList.map Cx.toC).sum / x.size‖ ^ 2)).sum
      / ((x.size : ℝ) - 1)) := by
  unfold cstddev
  simp only [crms_eq, fn_sqrt, fn_ofNat, fn_ofInt, Array.size_map, Array.toList_map, List.map_map]
  rw [sqrt_bessel _ _ hn]
  simp only [Function.comp_def, Cx.toC_sub, cmean_eq x]

/-! ### dB / degree conversions and their round trips

The dB conversions and `abs2(real_t)` are the definitions REGENERATED from the C++ AST
(`Gen/Dynamics.lean`: `Gen.pow2db`, `Gen.db2pow`, `Gen.mag2db`, `Gen.db2mag`, `Gen.abs2r`), not hand copies. -/
theorem pow2db_db2pow (v : ℝ) : Gen.pow2db (Gen.db2pow v) = v := by
  rw [Db.db2pow_real, Db.pow2db_real]
  exact Db.db_linear_db 10 v (by norm_num)

theorem db2pow_pow2db (x : ℝ) (hx : 0 < x) : Gen.db2pow (Gen.pow2db x) = x := by
  rw [Db.pow2db_real, Db.db2pow_real]
  exact Db.linear_db_linear 10 x (by norm_num) hx

theorem mag2db_db2mag (v : ℝ) : Gen.mag2db (Gen.db2mag v) = v := Db.mag2db_db2mag v

theorem db2mag_mag2db (x : ℝ) (hx : 0 < x) : Gen.db2mag (Gen.mag2db x) = x := Db.db2mag_mag2db x hx

theorem deg2rad_eq (x : ℝ) : deg2rad x = x * Real.pi / 180 := by simp [deg2rad]; ring
theorem rad2deg_eq (x : ℝ) : rad2deg x = x * 180 / Real.pi := by simp [rad2deg]; ring

theorem deg2rad_rad2deg (x : ℝ) : deg2rad (rad2deg x) = x := by
  rw [deg2rad_eq, rad2deg_eq]
  field_simp

theorem rad2deg_deg2rad (x : ℝ) : rad2deg (deg2rad x) = x := by
  rw [deg2rad_eq, rad2deg_eq]
  field_simp

/-- the conversions (generated from `lib/math.cpp`) are the textbook definitions -/
theorem pow2db_eq (x : ℝ) : Gen.pow2db x = 10 * Real.logb 10 x := by simp [Gen.pow2db, Real.logb]
theorem db2pow_eq (v : ℝ) : Gen.db2pow v = (10 : ℝ) ^ (v / 10) := Db.db2pow_real v
theorem mag2db_eq (x : ℝ) : Gen.mag2db x = 20 * Real.logb 10 x := by simp [Gen.mag2db, Real.logb]
theorem db2mag_eq (v : ℝ) : Gen.db2mag v = (10 : ℝ) ^ (v / 20) := Db.db2mag_real v
/-- `abs2(real_t)` (generated from `include/dsplib/math.h`) is the square -/
theorem abs2r_eq (x : ℝ) : Gen.abs2r x = x ^ 2 := by simp [Gen.abs2r, pow_two]


section
variable {δ γ : Type} [LinearOrder γ]

/-- comparison through a key (`id` for `real_t`, `abs2` for `cmplx_t`) -/
def ltK (key : δ → γ) (a b : δ) : Bool := decide (key a < key b)

theorem getElem?_lt {l : List δ} {i : Nat} {v : δ} (h : l[i]? = some v) : i < l.length :=
  (List.getElem?_eq_some_iff.mp h).1

/-- Invariant of the scan `argBest` when the incumbent is replaced iff `R (key best) (key new)`, for `R` either `<`
(the first largest wins) or `≤` (the last largest wins): the incumbent `bv = pre[bi]` is largest in the part `pre` already
scanned, `R`-above everything before it and not `R`-below anything after it. -/
theorem argBest_scan (key : δ → γ) (R : γ → γ → Prop) [DecidableRel R]
    (hle : ∀ {a b}, R a b → a ≤ b) (hge : ∀ {a b}, ¬ R a b → b ≤ a) (htr : ∀ {a b c}, a ≤ b → R b c → R a c)
    (pre ys : List δ) (bi : Nat) (bv : δ) (hb : pre[bi]? = some bv)
    (hmax : ∀ v ∈ pre, key v ≤ key bv) (hbefore : ∀ v ∈ pre.take bi, R (key v) (key bv))
    (hafter : ∀ v ∈ pre.drop (bi + 1), ¬ R (key bv) (key v)) :
    ∃ m, (pre ++ ys)[argBest (fun new best => decide (R (key best) (key new))) ys pre.length bi bv]? = some m ∧
      (∀ v ∈ pre ++ ys, key v ≤ key m) ∧
      (∀ v ∈ (pre ++ ys).take (argBest (fun new best => decide (R (key best) (key new))) ys pre.length bi bv),
        R (key v) (key m)) ∧
      (∀ v ∈ (pre ++ ys).drop (argBest (fun new best => decide (R (key best) (key new))) ys pre.length bi bv + 1),
        ¬ R (key m) (key v)) := by
  induction ys generalizing pre bi bv with
  | nil =>
    simp only [argBest, List.append_nil]
    exact ⟨bv, hb, hmax, hbefore, hafter⟩
  | cons y ys ih =>
    have hlen : bi < pre.length := getElem?_lt hb
    have hmem : ∀ {p : List δ} {v}, v ∈ p ++ [y] → v ∈ p ∨ v = y := fun h =>
      (List.mem_append.mp h).imp_right List.eq_of_mem_singleton
    have hcons : pre ++ y :: ys = pre ++ [y] ++ ys := List.append_cons pre y ys
    have hl : pre.length + 1 = (pre ++ [y]).length := (List.length_append (as := pre) (bs := [y])).symm
    rw [argBest, hcons, hl]
    by_cases hr : R (key bv) (key y)
    · rw [decide_eq_true hr, if_pos rfl]
      refine ih (pre ++ [y]) pre.length y List.getElem?_concat_length
        (fun v hv => (hmem hv).elim (fun h => (hmax v h).trans (hle hr)) (fun h => h ▸ le_rfl))
        (fun v hv => ?_) (fun v hv => ?_)
      · rw [List.take_left' rfl] at hv; exact htr (hmax v hv) hr
      · rw [hl, List.drop_length] at hv; exact absurd hv List.not_mem_nil
    · rw [decide_eq_false hr, if_neg Bool.false_ne_true]
      refine ih (pre ++ [y]) bi bv (by rw [List.getElem?_append_left hlen]; exact hb)
        (fun v hv => (hmem hv).elim (hmax v) (fun h => h ▸ hge hr))
        (fun v hv => ?_) (fun v hv => ?_)
      · rw [List.take_append_of_le_length hlen.le] at hv; exact hbefore v hv
      · rw [List.drop_append_of_le_length (by omega)] at hv
        exact (hmem hv).elim (hafter v) (fun h => h ▸ hr)

/-- `std::max_element`: the element at `argmax` is a maximum (by key) and every EARLIER element is strictly smaller: FIRST largest -/
theorem argmax_spec (key : δ → γ) (l : List δ) (hl : l ≠ []) :
    ∃ m, l[argmax (ltK key) l]? = some m ∧ (∀ v ∈ l, key v ≤ key m) ∧
      (∀ v ∈ l.take (argmax (ltK key) l), key v < key m) := by
  obtain ⟨y, ys, rfl⟩ := List.exists_cons_of_ne_nil hl
  obtain ⟨m, h1, h2, h3, _⟩ := argBest_scan key (· < ·) le_of_lt le_of_not_gt lt_of_le_of_lt [y] ys 0 y rfl
    (fun v hv => (List.eq_of_mem_singleton hv) ▸ le_rfl) (fun v hv => absurd hv List.not_mem_nil)
    (fun v hv => absurd hv List.not_mem_nil)
  exact ⟨m, h1, h2, h3⟩

/-- `std::min_element`: FIRST smallest -/
theorem argmin_spec (key : δ → γ) (l : List δ) (hl : l ≠ []) :
    ∃ m, l[argmin (ltK key) l]? = some m ∧ (∀ v ∈ l, key m ≤ key v) ∧
      (∀ v ∈ l.take (argmin (ltK key) l), key m < key v) := by
  have e : argmin (ltK key) l = argmax (ltK fun v => OrderDual.toDual (key v)) l := by cases l <;> rfl
  rw [e]
  exact argmax_spec (fun v => OrderDual.toDual (key v)) l hl

/-- the maximum of `std::minmax_element` (used by `peak2peak`): LAST largest -/
theorem argmaxLast_spec (key : δ → γ) (l : List δ) (hl : l ≠ []) :
    ∃ m, l[argmaxLast (ltK key) l]? = some m ∧ (∀ v ∈ l, key v ≤ key m) ∧
      (∀ v ∈ l.drop (argmaxLast (ltK key) l + 1), key v < key m) := by
  obtain ⟨y, ys, rfl⟩ := List.exists_cons_of_ne_nil hl
  have e : (fun new best => !(ltK key new best)) = fun new best => decide (key best ≤ key new) := by
    funext a b; simp only [ltK, ← not_lt, decide_not]
  obtain ⟨m, h1, h2, _, h4⟩ := argBest_scan key (· ≤ ·) id le_of_not_ge le_trans [y] ys 0 y rfl
    (fun v hv => (List.eq_of_mem_singleton hv) ▸ le_rfl) (fun v hv => absurd hv List.not_mem_nil)
    (fun v hv => absurd hv List.not_mem_nil)
  rw [argmaxLast, e]
  exact ⟨m, h1, h2, fun v hv => lt_of_not_ge (h4 v hv)⟩
end


theorem rlt_eq : (rlt : ℝ → ℝ → Bool) = ltK (fun v : ℝ => v) := by
  funext a b; simp [rlt, ltK]

theorem clt_eq : (clt : Cx ℝ → Cx ℝ → Bool) = ltK (fun v : Cx ℝ => Cx.abs2 v) := by
  funext a b; simp [clt, ltK]

theorem abs2_le_iff (a b : Cx ℝ) : Cx.abs2 a ≤ Cx.abs2 b ↔ ‖Cx.toC a‖ ≤ ‖Cx.toC b‖ := by
  rw [abs2_eq, abs2_eq]; exact sq_le_sq₀ (norm_nonneg _) (norm_nonneg _)

theorem abs2_lt_iff (a b : Cx ℝ) : Cx.abs2 a < Cx.abs2 b ↔ ‖Cx.toC a‖ < ‖Cx.toC b‖ :=
  lt_iff_lt_of_le_iff_le (abs2_le_iff b a)

/-- `max(arr_real)` is an element of the array that no element exceeds; `argmax` is its FIRST position -/
theorem maxR_spec (x : Array ℝ) (hx : 0 < x.size) :
    x[argmax rlt x.toList]? = some (maxR x) ∧ (∀ v ∈ x.toList, v ≤ maxR x) ∧
      (∀ v ∈ x.toList.take (argmax rlt x.toList), v < maxR x) := by
  obtain ⟨m, h1, h2, h3⟩ := argmax_spec (fun v : ℝ => v) x.toList (List.ne_nil_of_length_pos hx)
  rw [← rlt_eq] at h1 h3
  rw [maxR, getD_of_getElem? x _ h1, ← Array.getElem?_toList]
  exact ⟨h1, h2, h3⟩

/-- `min(arr_real)` is an element of the array below which there is none; `argmin` is its FIRST position -/
theorem minR_spec (x : Array ℝ) (hx : 0 < x.size) :
    x[argmin rlt x.toList]? = some (minR x) ∧ (∀ v ∈ x.toList, minR x ≤ v) ∧
      (∀ v ∈ x.toList.take (argmin rlt x.toList), minR x < v) := by
  obtain ⟨m, h1, h2, h3⟩ := argmin_spec (fun v : ℝ => v) x.toList (List.ne_nil_of_length_pos hx)
  rw [← rlt_eq] at h1 h3
  rw [minR, getD_of_getElem? x _ h1, ← Array.getElem?_toList]
  exact ⟨h1, h2, h3⟩

/-- `peak2peak(arr_real)` = maximum − minimum: the LAST largest, which `minmax_element` picks, has the value of the first -/
theorem peak2peakR_eq (x : Array ℝ) (hx : 0 < x.size) : peak2peakR x = maxR x - minR x := by
  obtain ⟨m, h1, h2, _⟩ := argmaxLast_spec (fun v : ℝ => v) x.toList (List.ne_nil_of_length_pos hx)
  rw [← rlt_eq] at h1
  obtain ⟨hm1, hm2, _⟩ := maxR_spec x hx
  rw [← Array.getElem?_toList] at hm1
  rw [peak2peakR, minR, getD_of_getElem? x _ h1,
    le_antisymm (hm2 m (List.mem_of_getElem? h1)) (h2 _ (List.mem_of_getElem? hm1))]

/-- `max(arr_cmplx)`: an element of largest magnitude, the FIRST such -/
theorem maxC_spec (x : Array (Cx ℝ)) (hx : 0 < x.size) :
    x[argmax clt x.toList]? = some (maxC x) ∧ (∀ v ∈ x.toList, ‖Cx.toC v‖ ≤ ‖Cx.toC (maxC x)‖) ∧
      (∀ v ∈ x.toList.take (argmax clt x.toList), ‖Cx.toC v‖ < ‖Cx.toC (maxC x)‖) := by
  obtain ⟨m, h1, h2, h3⟩ := argmax_spec (fun v : Cx ℝ => Cx.abs2 v) x.toList (List.ne_nil_of_length_pos hx)
  rw [← clt_eq] at h1 h3
  rw [maxC, getD_of_getElem? x _ h1, ← Array.getElem?_toList]
  exact ⟨h1, fun v hv => (abs2_le_iff v m).mp (h2 v hv), fun v hv => (abs2_lt_iff v m).mp (h3 v hv)⟩

/-- `min(arr_cmplx)`: an element of smallest magnitude, the FIRST such -/
theorem minC_spec (x : Array (Cx ℝ)) (hx : 0 < x.size) :
    x[argmin clt x.toList]? = some (minC x) ∧ (∀ v ∈ x.toList, ‖Cx.toC (minC x)‖ ≤ ‖Cx.toC v‖) ∧
      (∀ v ∈ x.toList.take (argmin clt x.toList), ‖Cx.toC (minC x)‖ < ‖Cx.toC v‖) := by
  obtain ⟨m, h1, h2, h3⟩ := argmin_spec (fun v : Cx ℝ => Cx.abs2 v) x.toList (List.ne_nil_of_length_pos hx)
  rw [← clt_eq] at h1 h3
  rw [minC, getD_of_getElem? x _ h1, ← Array.getElem?_toList]
  exact ⟨h1, fun v hv => (abs2_le_iff m v).mp (h2 v hv), fun v hv => (abs2_lt_iff m v).mp (h3 v hv)⟩

/-- `peak2peak(arr_cmplx)` = (an element of largest magnitude) − (an element of smallest magnitude) -/
theorem peak2peakC_spec (x : Array (Cx ℝ)) (hx : 0 < x.size) :
    ∃ a ∈ x.toList, ∃ b ∈ x.toList, peak2peakC x = a - b ∧
      (∀ v ∈ x.toList, ‖Cx.toC v‖ ≤ ‖Cx.toC a‖) ∧ (∀ v ∈ x.toList, ‖Cx.toC b‖ ≤ ‖Cx.toC v‖) := by
  obtain ⟨a, h1, h2, _⟩ := argmaxLast_spec (fun v : Cx ℝ => Cx.abs2 v) x.toList (List.ne_nil_of_length_pos hx)
  rw [← clt_eq] at h1
  obtain ⟨hb1, hb2, _⟩ := minC_spec x hx
  rw [← Array.getElem?_toList] at hb1
  exact ⟨a, List.mem_of_getElem? h1, minC x, List.mem_of_getElem? hb1,
    by rw [peak2peakC, minC, getD_of_getElem? x _ h1], fun v hv => (abs2_le_iff v a).mp (h2 v hv), hb2⟩

/-! ### real / imag / complex -/
/-- inverse pair: `complex(real(z), imag(z)) = z` -/
theorem complex_real_imag (z : Array (Cx β)) : complexArr (realArr z) (imagArr z) = .ok z := by
  unfold complexArr realArr imagArr
  rw [if_neg (by simp)]
  congr 1
  apply Array.ext
  · simp
  · intro i h1 h2; simp

/-- `real(complex(re, im)) = re`, `imag(complex(re, im)) = im` for equal sizes -/
theorem real_imag_complex (re im : Array β) (h : re.size = im.size) :
    ∃ z, complexArr re im = .ok z ∧ realArr z = re ∧ imagArr z = im := by
  refine ⟨_, by unfold complexArr; rw [if_neg (by simpa using h)], ?_, ?_⟩
  · rw [realArr, Array.map_map]; exact Array.map_fst_zip h.le
  · rw [imagArr, Array.map_map]; exact Array.map_snd_zip h.ge

theorem complex_size_mismatch (re im : Array β) (h : re.size ≠ im.size) : ∃ e, complexArr re im = .error e :=
  ⟨"arrays sizes must be equal", by simp [complexArr, h]⟩

/-! ### logarithms -/
theorem log2_eq (x : ℝ) : MathFns.log2 x = Real.logb 2 x := rfl
theorem log10_eq (x : ℝ) : (Fn.log10 x : ℝ) = Real.logb 10 x := rfl

/-! ### non-vacuity: the hypotheses of the main theorems at concrete non-trivial arguments -/
-- integer arange: `arange(0,4,3)` (2 elements: the count is a ceiling) and `arange(5,0,1)` (empty, no exception)
example : arangeCount 0 4 3 = 2 := by decide
example : arangeCount 5 0 1 = 0 := by decide
example : arangeCount 5 0 (-2) = 3 := by decide
example : arangeInt 0 4 3 = .ok #[0, 3] := by decide
example : Before 3 (0 + (1 : Nat) * 3) 4 ∧ ¬ Before 3 (0 + (2 : Nat) * 3) 4 := by simp [Before]
-- up/downsample
example : upsample 0 #[1, 2, 3] 2 1 = .ok #[0, 1, 0, 2, 0, 3] := by decide
example : downsample 0 #[0, 1, 0, 2, 0, 3] 2 1 = .ok #[1, 2, 3] := by decide
example : downsample 0 #[10, 11, 12, 13, 14] 3 1 = .ok #[11, 14] := by decide
example : delayseq 0 #[1, 2, 3, 4] 1 = #[0, 1, 2, 3] ∧ delayseq 0 #[1, 2, 3, 4] (-3) = #[4, 0, 0, 0] := by decide
example : repelem #[7, 8] 3 = #[7, 7, 7, 8, 8, 8] := by decide
example : cumsumFwd [1, 2, 3, 4, 5] = [1, 3, 6, 10, 15] ∧ cumsumRev [1, 2, 3, 4, 5] = [15, 14, 12, 9, 5] := by decide
-- angle on the negative real axis (`+π`, not `-π`) and at zero (`0`, not NaN)
example : angle (⟨-1, 0⟩ : Cx ℝ) = Real.pi := by
  rw [angle_eq_arg]
  have : Cx.toC (⟨-1, 0⟩ : Cx ℝ) = -1 := by apply Complex.ext <;> simp
  rw [this, Complex.arg_neg_one]
example : angle (⟨0, 0⟩ : Cx ℝ) = 0 := by
  rw [angle_eq_arg]
  have : Cx.toC (⟨0, 0⟩ : Cx ℝ) = 0 := by apply Complex.ext <;> simp
  rw [this, Complex.arg_zero]
-- rms divides by n, stddev by n - 1
example : rms (#[3, 4] : Array ℝ) = Real.sqrt (25 / 2) := by
  rw [rms_eq]; norm_num
example : stddev (#[3, 4] : Array ℝ) = Real.sqrt (1 / 2) := by
  rw [stddev_eq _ (by simp)]; norm_num
-- cpowi at a non-zero base
example : Cx.toC (cpowi (⟨1, 1⟩ : Cx ℝ) 3) = (Cx.toC ⟨1, 1⟩) ^ (3 : ℤ) :=
  cpowi_eq _ _ (by intro h; have := congrArg Complex.re h; simp at this)
example : argmax (ltK (fun v : Int => v)) [3, 7, 2, 7] = 1 ∧ argmaxLast (ltK (fun v : Int => v)) [3, 7, 2, 7] = 3
    ∧ argmin (ltK (fun v : Int => v)) [3, 2, 7, 2] = 1 := by decide

end Dsp.C17
