import DspVerif.Model.Primes
import Mathlib.Data.Nat.Prime.Basic
import Mathlib.NumberTheory.Bertrand
import Mathlib.Tactic.Linarith
import Mathlib.Data.List.Sort
import Mathlib.NumberTheory.LucasPrimality
import Mathlib.Tactic.NormNum.Prime
/-!
# C15 — prime and power-of-two helpers agree with number theory and terminate

Theorems about `Model/Primes` (tied to `lib/primes.cpp`, `lib/math.cpp` by the correspondence run:
every n ≤ 2^13/2^16, boundary windows, random 32-bit arguments; table `primesTable` REGENERATED from the source).
`uint32_t` arguments are `n < 2^32`.  Loop fuel in the model is proved sufficient here (termination),
and the loop iteration counters give the cost clause.
-/
namespace Dsp.C15
open Dsp Dsp.Primes Dsp.Gen

/-- generator invariant: the vector holds exactly the primes up to its last element, ascending; the cursor is valid -/
def GenInv (g : PGen) : Prop :=
  g.pos < g.ps.length ∧ ∃ B, g.ps = (List.range (B + 1)).filter (fun k => decide (Nat.Prime k)) ∧ 251 ≤ B ∧ B < 2 ^ 32

/-- ascending list of the primes `≤ B` -/
def PL (B : Nat) : List Nat := (List.range (B + 1)).filter (fun k => decide (Nat.Prime k))

lemma mem_PL {B k : Nat} : k ∈ PL B ↔ k ≤ B ∧ Nat.Prime k := by
  simp [PL, List.mem_filter]

lemma PL_sorted (B : Nat) : (PL B).Pairwise (· < ·) :=
  List.Pairwise.filter _ List.pairwise_lt_range

lemma PL_succ (B : Nat) : PL (B + 1) = if Nat.Prime (B + 1) then PL B ++ [B + 1] else PL B := by
  unfold PL
  rw [List.range_succ, List.filter_append]
  by_cases h : Nat.Prime (B + 1) <;> simp [h]

lemma PL_ext (B : Nat) : ∀ C, B ≤ C → (∀ q, B < q → q ≤ C → ¬ Nat.Prime q) → PL C = PL B := by
  intro C hBC
  induction C, hBC using Nat.le_induction with
  | base => intro _; rfl
  | succ C hBC ih =>
    intro h
    rw [PL_succ, if_neg (h (C + 1) (by omega) le_rfl)]
    exact ih (fun q h1 h2 => h q h1 (by omega))

lemma PL_next (B p : Nat) (hp : Nat.Prime p) (hB : B < p) (h : ∀ q, B < q → q < p → ¬ Nat.Prime q) :
    PL p = PL B ++ [p] := by
  obtain ⟨c, rfl⟩ : ∃ c, p = c + 1 := ⟨p - 1, by omega⟩
  rw [PL_succ, if_pos hp, PL_ext B c (by omega) (fun q h1 h2 => h q h1 (by omega))]

/-- the early exit at `d > n / d` loses nothing because the list ascends -/
lemma isPrimeBy_iff (n : Nat) : ∀ l : List Nat, (∀ d ∈ l, 1 ≤ d) → l.Pairwise (· < ·) →
    (isPrimeBy l n = true ↔ ∀ d ∈ l, d * d ≤ n → ¬ d ∣ n)
  | [], _, _ => by simp [isPrimeBy]
  | d :: t, hpos, hs => by
    have hd : 1 ≤ d := hpos d List.mem_cons_self
    rw [List.pairwise_cons] at hs
    rw [isPrimeBy, List.forall_mem_cons]
    by_cases h1 : d > n / d
    · -- `d² > n`, and the same for everything after `d`
      have h1' : n < d * d := (Nat.div_lt_iff_lt_mul hd).1 h1
      rw [if_pos h1]
      refine iff_of_true rfl ⟨fun h => absurd h (by omega), fun e he hee => by
        have := hs.1 e he
        have := Nat.mul_le_mul this.le this.le
        omega⟩
    · have h1' : d * d ≤ n := (Nat.le_div_iff_mul_le hd).1 (not_lt.1 h1)
      rw [if_neg h1, ← isPrimeBy_iff n t (fun e he => hpos e (List.mem_cons_of_mem _ he)) hs.2, Nat.dvd_iff_mod_eq_zero]
      by_cases h2 : n % d = 0 <;> simp [h2, h1']

lemma prime_iff_no_small (n : Nat) (h2 : 2 ≤ n) :
    Nat.Prime n ↔ ∀ d, Nat.Prime d → d * d ≤ n → ¬ d ∣ n := by
  constructor
  · intro hp d hd hdd hdvd
    have := (Nat.prime_dvd_prime_iff_eq hd hp).1 hdvd
    subst this
    have : d ≤ 1 := Nat.le_of_mul_le_mul_left (by rwa [mul_one]) hd.pos
    exact absurd hd.two_le (by omega)
  · intro h
    by_contra hnp
    have h1 : n.minFac ^ 2 ≤ n := Nat.minFac_sq_le_self (by omega) hnp
    have h3 : n.minFac.Prime := Nat.minFac_prime (by omega)
    exact h _ h3 (by rw [← sq]; exact h1) (Nat.minFac_dvd n)

lemma isPrimeBy_PL (B n : Nat) (h2 : 2 ≤ n) (hB : n < (B + 1) * (B + 1)) :
    isPrimeBy (PL B) n = true ↔ Nat.Prime n := by
  have hle : ∀ d, d * d ≤ n → d ≤ B := fun d hdd => not_lt.1 fun hc =>
    absurd (Nat.mul_le_mul (show B + 1 ≤ d from hc) (show B + 1 ≤ d from hc)) (by omega)
  rw [isPrimeBy_iff n (PL B) (fun d hd => (mem_PL.1 hd).2.one_lt.le) (PL_sorted B), prime_iff_no_small n h2]
  constructor
  · intro h d hd hdd; exact h d (mem_PL.2 ⟨hle d hdd, hd⟩) hdd
  · intro h d hd hdd; exact h d (mem_PL.1 hd).2 hdd

theorem PL_eq_sieve (B C : Nat) (h : C < (B + 1) * (B + 1)) :
    PL C = (List.range (C + 1)).filter (fun k => decide (2 ≤ k) && isPrimeBy (PL B) k) := by
  apply List.filter_congr
  intro k hk
  rw [List.mem_range] at hk
  by_cases h2 : 2 ≤ k
  · rw [Bool.eq_iff_iff, decide_eq_true_iff, Bool.and_eq_true, decide_eq_true_iff, isPrimeBy_PL B k h2 (by omega)]
    exact (and_iff_right h2).symm
  · simpa [h2] using fun hp : Nat.Prime k => h2 hp.two_le

/-- the table is exactly the primes up to 251, ascending: the sieve by the primes below 17, evaluated over the regenerated
table -/
theorem table_spec : primesTable = (List.range 252).filter (fun k => decide (Nat.Prime k)) := by
  rw [← PL.eq_1 251, PL_eq_sieve 16 251 (by norm_num), show PL 16 = [2, 3, 5, 7, 11, 13] by decide +kernel]
  decide +kernel

/-- the search `val += 2` of `_add_primes`, `k` steps below the next prime `p` -/
theorem nextCandidate_spec (B last p : Nat) (hl3 : 3 ≤ last) (hlB : last ≤ B)
    (hp : Nat.Prime p) (hmin : ∀ q, last < q → q < p → ¬ Nat.Prime q) (hp2 : p ≤ 2 * last) (hpW : p < W) :
    ∀ k fuel, k < fuel → last + 2 * k < p → nextCandidate (PL B) fuel (p - 2 * k) = p := by
  -- trial division by the primes `≤ B` is exact up to `2 B < (B + 1)²`
  have hiff : ∀ val, 2 ≤ val → val ≤ p → (isPrimeBy (PL B) val = true ↔ Nat.Prime val) := fun val h2 hv =>
    isPrimeBy_PL B val h2 (by rw [Nat.succ_mul_succ]; omega)
  intro k
  induction k with
  | zero =>
    intro fuel hf hk
    obtain ⟨f, rfl⟩ := Nat.exists_eq_succ_of_ne_zero hf.ne'
    rw [nextCandidate, Nat.mul_zero, Nat.sub_zero, if_pos ((hiff p (by omega) le_rfl).2 hp)]
  | succ k ih =>
    intro fuel hf hk
    obtain ⟨f, rfl⟩ := Nat.exists_eq_succ_of_ne_zero (Nat.ne_zero_of_lt hf)
    rw [nextCandidate, if_neg (mt (hiff _ (by omega) (Nat.sub_le _ _)).1 (hmin _ (by omega) (by omega))),
      Nat.mod_eq_of_lt (by omega), show p - 2 * (k + 1) + 2 = p - 2 * k by omega]
    exact ih f (by omega) (by omega)

lemma sorted_getElem_le {l : List Nat} (hs : l.Pairwise (· < ·)) {i j : Nat} (hj : j < l.length)
    (hij : i ≤ j) : l[i]'(by omega) ≤ l[j] := by
  rcases Nat.eq_or_lt_of_le hij with rfl | h
  · exact le_rfl
  · exact (List.pairwise_iff_getElem.1 hs i j (by omega) hj h).le

lemma PGen.current_eq (g : PGen) (h : g.pos < g.ps.length) : g.current = g.ps[g.pos] := by
  unfold PGen.current
  exact List.getD_eq_getElem _ _ h

theorem PGen.next_of_lt (g : PGen) (h : g.pos + 1 < g.ps.length) : g.next = ⟨g.ps, g.pos + 1⟩ := by
  rw [PGen.next, if_neg (by simpa using h.ne)]

theorem PGen.next_of_eq (g : PGen) (h : g.pos + 1 = g.ps.length) :
    g.next = ⟨g.ps ++ [nextCandidate g.ps (g.current + 2) ((g.current + 2) % W)], g.pos + 1⟩ := by
  rw [PGen.next, if_pos (by simpa using h)]

theorem sorted_not_between {l : List Nat} (hs : l.Pairwise (· < ·)) {i : Nat} (hi : i + 1 < l.length) {q : Nat}
    (hq : q ∈ l) (h1 : l[i] < q) : l[i + 1] ≤ q := by
  obtain ⟨j, hj, rfl⟩ := List.mem_iff_getElem.1 hq
  by_contra hc
  by_cases hji : j ≤ i
  · exact absurd (sorted_getElem_le hs (by omega) hji) (by omega)
  · exact hc (sorted_getElem_le hs hj (by omega))

/-- `_add_primes` on the vector of all primes `≤ B`, `last` its greatest entry: the candidate search stops at the next
prime `p` (Bertrand: `p ≤ 2·last`, inside the fuel and below `2^32`), and the extended vector is that of all primes `≤ p` -/
theorem extend_PL (B last : Nat) (hmem : last ∈ PL B) (hmax : ∀ k ∈ PL B, k ≤ last) (h3 : 3 ≤ last) (hW : last < 2 ^ 31) :
    ∃ p, nextCandidate (PL B) (last + 2) ((last + 2) % W) = p ∧ PL p = PL B ++ [p] ∧ B < p ∧ p < 2 ^ 32 ∧
      Nat.Prime p ∧ last < p ∧ ∀ q, last < q → q < p → ¬ Nat.Prime q := by
  obtain ⟨hlB, hlp⟩ := mem_PL.1 hmem
  obtain ⟨p', hp', h1, h2⟩ := Nat.exists_prime_lt_and_le_two_mul last hlp.ne_zero
  obtain ⟨p, ⟨hp, hlt⟩, hleast⟩ := Nat.findX (⟨p', hp', h1⟩ : ∃ p, Nat.Prime p ∧ last < p)
  have hmin : ∀ q, last < q → q < p → ¬ Nat.Prime q := fun q hq1 hq2 hqp => hleast q hq2 ⟨hqp, hq1⟩
  have hle : p ≤ 2 * last := (not_lt.1 fun hc => hleast p' hc ⟨hp', h1⟩).trans h2
  have hBp : B < p := not_le.1 fun hc => absurd (hmax p (mem_PL.2 ⟨hc, hp⟩)) (not_le.2 hlt)
  refine ⟨p, ?_, PL_next B p hp hBp fun q hq1 hq2 => hmin q (hlB.trans_lt hq1) hq2, hBp, by omega, hp, hlt, hmin⟩
  -- both odd: `last + 2` lies an even distance below `p`
  obtain ⟨k, hk⟩ : ∃ k, p = last + 2 + 2 * k := by
    have hodd : last % 2 = 1 := hlp.eq_two_or_odd.resolve_left (by omega)
    have hpodd : p % 2 = 1 := hp.eq_two_or_odd.resolve_left (by omega)
    exact ⟨(p - last - 2) / 2, by omega⟩
  have := nextCandidate_spec B last p h3 hlB hp hmin hle (by unfold W; omega) k (last + 2) (by omega) (by omega)
  rw [Nat.mod_eq_of_lt (by unfold W; omega)]
  rwa [show p - 2 * k = last + 2 by omega] at this

/-- strengthened `gen_next_inv`: only the prime under the cursor has to be below 2^31 when the vector is extended -/
theorem gen_next_strong (g : PGen) (h : GenInv g) (hc : g.pos + 1 = g.ps.length → g.current < 2 ^ 31) :
    GenInv g.next ∧ g.current < g.next.current ∧ Nat.Prime g.next.current ∧
      ∀ q, g.current < q → q < g.next.current → ¬ Nat.Prime q := by
  obtain ⟨ps, pos⟩ := g
  obtain ⟨hpos, B, rfl, hB1, hB2⟩ := h
  rw [← PL.eq_1] at *
  have hs := PL_sorted B
  have hcur := PGen.current_eq _ hpos
  dsimp only at hpos hc hcur
  by_cases hlen : pos + 1 = (PL B).length
  · have hmax : ∀ k ∈ PL B, k ≤ (PL B)[pos] := fun k hk => by
      obtain ⟨j, hj, rfl⟩ := List.mem_iff_getElem.1 hk
      exact sorted_getElem_le hs hpos (by omega)
    obtain ⟨p, e1, e2, hBp, hpW, hp, hlt, hmin⟩ := extend_PL B (PL B)[pos] (List.getElem_mem hpos) hmax
      (le_trans (by norm_num) (hmax 251 (mem_PL.2 ⟨hB1, by norm_num⟩))) (hcur ▸ hc hlen)
    have hnext : (PGen.mk (PL B) pos).next = ⟨PL p, pos + 1⟩ := by
      rw [PGen.next_of_eq _ hlen, hcur, e1, e2]
    have hlen' : pos + 1 < (PL p).length := by rw [e2, List.length_append, ← hlen]; exact Nat.lt_succ_self _
    have hcur' : (PGen.mk (PL p) (pos + 1)).current = p := by
      rw [PGen.current_eq _ hlen']; simp only [e2, hlen, List.getElem_concat_length]
    rw [hnext, hcur', hcur]
    exact ⟨⟨hlen', p, rfl, by omega, hpW⟩, hlt, hp, hmin⟩
  · have hlt : pos + 1 < (PL B).length := by omega
    have hm := mem_PL.1 (List.getElem_mem hlt)
    rw [PGen.next_of_lt _ hlt, PGen.current_eq ⟨PL B, pos + 1⟩ hlt, hcur]
    dsimp only
    refine ⟨⟨hlt, B, rfl, hB1, hB2⟩, List.pairwise_iff_getElem.1 hs _ _ hpos hlt (by omega), hm.2,
      fun q hq1 hq2 hqp => ?_⟩
    exact absurd (sorted_not_between hs hlt (mem_PL.2 ⟨by omega, hqp⟩) hq1) (by omega)


theorem gen_init_inv : GenInv PGen.init := by
  refine ⟨by decide, 251, table_spec, le_rfl, by norm_num⟩

/-- T15.1 `next()` keeps the invariant (the extension step finds the next prime; Bertrand bounds its fuel),
    as long as the last prime found so far is below 2^31 -/
theorem gen_next_inv (g : PGen) (h : GenInv g) (hl : g.ps.getLastD 0 < 2 ^ 31) :
    GenInv g.next ∧ g.current < g.next.current ∧ Nat.Prime g.next.current ∧
      ∀ q, g.current < q → q < g.next.current → ¬ Nat.Prime q := by
  apply gen_next_strong g h
  intro hlen
  have : g.current = g.ps.getLastD 0 := by
    unfold PGen.current
    rw [List.getLastD_eq_getLast?, List.getLast?_eq_getElem?, List.getD_eq_getElem?_getD]
    congr 2
    omega
  rw [this]; exact hl

lemma GenInv.current_prime {g : PGen} (h : GenInv g) : Nat.Prime g.current := by
  obtain ⟨hpos, B, hps, _, _⟩ := h
  rw [PGen.current_eq g hpos]
  exact (mem_PL.1 (by rw [PL, ← hps]; exact List.getElem_mem hpos)).2

lemma prime_of_stop {n d : Nat} (h2 : 2 ≤ n) (hd : 1 ≤ d)
    (hall : ∀ q, Nat.Prime q → q < d → ¬ q ∣ n) (hstop : ¬ d ≤ n / d) : Nat.Prime n := by
  rw [prime_iff_no_small n h2]
  intro q hq hqq
  apply hall q hq
  by_contra hc
  apply hstop
  rw [Nat.le_div_iff_mul_le hd]
  have : d * d ≤ q * q := Nat.mul_le_mul (by omega) (by omega)
  omega

/-- one `next()` inside a trial-division loop: the invariants carried by `isprimeLoop`/`factorLoop` -/
lemma loop_step {n m : Nat} (hn : n < 2 ^ 32) {g : PGen} (hg : GenInv g) (hd : g.current ≤ n / g.current)
    (hall : ∀ q, Nat.Prime q → q < g.current → ¬ q ∣ m) (hnd : ¬ g.current ∣ m) :
    GenInv g.next ∧ g.current < g.next.current ∧
      (∀ q, Nat.Prime q → q < g.next.current → ¬ q ∣ m) ∧ g.current ≤ Nat.sqrt n := by
  have hp := hg.current_prime
  have hdd : g.current * g.current ≤ n := (Nat.le_div_iff_mul_le hp.one_lt.le).1 hd
  have hlt : g.current < 2 ^ 31 := by
    by_contra hc
    have : 2 ^ 31 * 2 ^ 31 ≤ g.current * g.current := Nat.mul_le_mul (by omega) (by omega)
    omega
  obtain ⟨h1, h2, _, h4⟩ := gen_next_strong g hg (fun _ => hlt)
  refine ⟨h1, h2, ?_, Nat.le_sqrt.2 hdd⟩
  intro q hq hqlt
  rcases Nat.lt_trichotomy q g.current with h | h | h
  · exact hall q hq h
  · rw [h]; exact hnd
  · exact absurd hq (h4 q h hqlt)

lemma isprimeLoop_spec (n : Nat) (h2 : 2 ≤ n) (hn : n < 2 ^ 32) : ∀ fuel g steps, GenInv g →
    (∀ q, Nat.Prime q → q < g.current → ¬ q ∣ n) → n + 2 ≤ fuel + g.current →
    steps + 2 ≤ g.current → steps ≤ Nat.sqrt n →
    ((isprimeLoop n fuel g steps).1 = true ↔ Nat.Prime n) ∧ (isprimeLoop n fuel g steps).2 ≤ Nat.sqrt n := by
  intro fuel
  induction fuel with
  | zero =>
    intro g steps hg hall hf hs1 hs2
    simp only [isprimeLoop, true_iff]
    refine ⟨prime_of_stop h2 hg.current_prime.one_lt.le hall ?_, hs2⟩
    have : n / g.current ≤ n := Nat.div_le_self _ _
    omega
  | succ f ih =>
    intro g steps hg hall hf hs1 hs2
    have hp := hg.current_prime
    simp only [isprimeLoop]
    by_cases hd : g.current ≤ n / g.current
    · have hdd := (Nat.le_div_iff_mul_le hp.one_lt.le).1 hd
      by_cases hm : n % g.current = 0
      · rw [if_pos hd, if_pos (beq_iff_eq.2 hm)]
        have := Nat.le_sqrt.2 hdd
        exact ⟨iff_of_false Bool.false_ne_true fun hnp =>
          (prime_iff_no_small n h2).1 hnp _ hp hdd (Nat.dvd_of_mod_eq_zero hm), by simp only; omega⟩
      · rw [if_pos hd, if_neg (mt beq_iff_eq.1 hm)]
        obtain ⟨h1, h3, h4, h5⟩ := loop_step hn hg hd hall (fun hdvd => hm (Nat.mod_eq_zero_of_dvd hdvd))
        exact ih g.next (steps + 1) h1 h4 (by omega) (by omega) (by omega)
    · rw [if_neg hd]
      exact ⟨iff_of_true rfl (prime_of_stop h2 hp.one_lt.le hall hd), hs2⟩

lemma init_current : PGen.init.current = 2 := by decide

theorem init_no_prime_below {q : Nat} (hq : Nat.Prime q) : ¬ q < PGen.init.current :=
  not_lt.2 (init_current ▸ hq.two_le)

lemma mem_table {n : Nat} : n ∈ primesTable ↔ n ≤ 251 ∧ Nat.Prime n := by
  rw [table_spec]; exact mem_PL

lemma isprimeS_spec (n : Nat) (hn : n < 2 ^ 32) :
    ((isprimeS n).1 = true ↔ Nat.Prime n) ∧ (isprimeS n).2 ≤ Nat.sqrt n := by
  unfold isprimeS
  by_cases h1 : n < 2
  · rw [if_pos h1]
    simp only [Bool.false_eq_true, false_iff, Nat.zero_le, and_true]
    intro hp; have := hp.two_le; omega
  rw [if_neg h1]
  by_cases h2 : n > 5 ∧ (n % 2 == 0 ∨ n % 3 == 0 ∨ n % 5 == 0)
  · rw [if_pos h2]
    simp only [Bool.false_eq_true, false_iff, Nat.zero_le, and_true]
    intro hp
    obtain ⟨h5, h⟩ := h2
    simp only [beq_iff_eq] at h
    -- a prime divisible by 2, 3 or 5 is that number
    have key : ∀ d, Nat.Prime d → d ≤ 5 → n % d ≠ 0 := fun d hd h5' h =>
      absurd ((Nat.prime_dvd_prime_iff_eq hd hp).1 (Nat.dvd_of_mod_eq_zero h)) (by omega)
    rcases h with h | h | h
    · exact key 2 Nat.prime_two (by norm_num) h
    · exact key 3 Nat.prime_three (by norm_num) h
    · exact key 5 Nat.prime_five le_rfl h
  rw [if_neg h2]
  have hlast : primesTable.getLastD 0 = 251 := rfl
  rw [hlast]
  by_cases h3 : n ≤ 251
  · rw [if_pos h3]
    simp only [List.contains_iff_mem, Nat.zero_le, and_true, mem_table]
    tauto
  rw [if_neg h3]
  apply isprimeLoop_spec n (by omega) hn n PGen.init 0 gen_init_inv
  · exact fun q hq hlt => absurd hlt (init_no_prime_below hq)
  · rw [init_current]
  · rw [init_current]
  · exact Nat.zero_le _

/-- T15.2 `isprime` agrees with primality for every 32-bit unsigned argument -/
theorem isprime_iff (n : Nat) (hn : n < 2 ^ 32) : isprime n = true ↔ Nat.Prime n := by
  exact (isprimeS_spec n hn).1

/-- T15.2 cost: at most `√n` trial divisions (one per prime `d` with `d ≤ n / d`) -/
theorem isprime_steps (n : Nat) (hn : n < 2 ^ 32) : (isprimeS n).2 ≤ Nat.sqrt n := by
  exact (isprimeS_spec n hn).2

lemma divideOut_spec (d : Nat) (hd : 2 ≤ d) : ∀ fuel n acc, 0 < n → n < 2 ^ fuel →
    ∃ k, divideOut d fuel n acc = (n / d ^ k, acc ++ List.replicate k d) ∧ d ^ k ∣ n ∧ ¬ d ∣ n / d ^ k := by
  intro fuel
  induction fuel with
  | zero => intro n acc h1 h2; omega
  | succ f ih =>
    intro n acc h1 h2
    unfold divideOut
    by_cases hm : n % d = 0
    · have hdvd : d ∣ n := Nat.dvd_of_mod_eq_zero hm
      have hc : (n % d == 0) = true ∧ d > 1 ∧ n > 0 := ⟨by simp [hm], by omega, h1⟩
      rw [if_pos hc]
      have hpos : 0 < n / d := Nat.div_pos (Nat.le_of_dvd h1 hdvd) (by omega)
      have hlt : n / d < 2 ^ f := by
        rw [Nat.div_lt_iff_lt_mul (by omega)]
        have : 2 ^ f * 2 ≤ 2 ^ f * d := Nat.mul_le_mul_left _ hd
        rw [pow_succ] at h2
        omega
      obtain ⟨k, hk1, hk2, hk3⟩ := ih (n / d) (acc ++ [d]) hpos hlt
      refine ⟨k + 1, ?_, ?_, ?_⟩
      · rw [hk1, Nat.div_div_eq_div_mul, pow_succ']
        simp [List.replicate_succ]
      · rw [pow_succ']; exact Nat.mul_dvd_of_dvd_div hdvd hk2
      · rw [pow_succ', ← Nat.div_div_eq_div_mul]; exact hk3
    · have hc : ¬ ((n % d == 0) = true ∧ d > 1 ∧ n > 0) := by simp [hm]
      rw [if_neg hc]
      refine ⟨0, by simp, by simp, ?_⟩
      simp only [pow_zero, Nat.div_one]
      intro hdvd; exact hm (Nat.mod_eq_zero_of_dvd hdvd)

/-- the common exit of `factorLoop` (loop condition false, or fuel exhausted) -/
lemma factor_exit {N n d : Nat} {acc : List Nat} (hn1 : 1 ≤ n) (hd : 1 ≤ d) (hprod : n * acc.prod = N)
    (hacc : ∀ p ∈ acc, Nat.Prime p ∧ p < d) (hsort : acc.Pairwise (· ≤ ·))
    (hall : ∀ q, Nat.Prime q → q < d → ¬ q ∣ n) (hstop : ¬ d ≤ n / d) :
    (∀ p ∈ (if n > 1 then acc ++ [n] else acc), Nat.Prime p) ∧
      (if n > 1 then acc ++ [n] else acc).Pairwise (· ≤ ·) ∧ (if n > 1 then acc ++ [n] else acc).prod = N := by
  by_cases h : n > 1
  · rw [if_pos h]
    have hp : Nat.Prime n := prime_of_stop (by omega) hd hall hstop
    have hdn : d ≤ n := by
      by_contra hc
      exact hall n hp (by omega) dvd_rfl
    refine ⟨fun p hp' => ?_, List.pairwise_append.2 ⟨hsort, List.pairwise_singleton _ _, fun a ha b hb => ?_⟩, ?_⟩
    · rcases List.mem_append.1 hp' with h1 | h1
      · exact (hacc p h1).1
      · rwa [List.mem_singleton.1 h1]
    · rw [List.mem_singleton.1 hb]; exact ((hacc a ha).2.trans_le hdn).le
    · rw [List.prod_append, List.prod_singleton, mul_comm]; exact hprod
  · rw [if_neg h]
    have : n = 1 := by omega
    subst this
    exact ⟨fun p hp => (hacc p hp).1, hsort, by simpa using hprod⟩

lemma factorLoop_spec (N : Nat) (hN1 : 1 ≤ N) (hN : N < 2 ^ 32) : ∀ fuel n g acc steps, GenInv g → 1 ≤ n →
    n * acc.prod = N → (∀ p ∈ acc, Nat.Prime p ∧ p < g.current) → acc.Pairwise (· ≤ ·) →
    (∀ q, Nat.Prime q → q < g.current → ¬ q ∣ n) → N + 2 ≤ fuel + g.current →
    steps + 2 ≤ g.current → steps ≤ Nat.sqrt N →
    (∀ p ∈ (factorLoop fuel n g acc steps).1, Nat.Prime p) ∧
      (factorLoop fuel n g acc steps).1.Pairwise (· ≤ ·) ∧
      (factorLoop fuel n g acc steps).1.prod = N ∧ (factorLoop fuel n g acc steps).2 ≤ Nat.sqrt N := by
  intro fuel
  induction fuel with
  | zero =>
    intro n g acc steps hg hn1 hprod hacc hsort hall hf hs1 hs2
    have hnN : n ≤ N := Nat.le_of_dvd hN1 ⟨_, hprod.symm⟩
    have hstop : ¬ g.current ≤ n / g.current := by
      have : n / g.current ≤ n := Nat.div_le_self _ _
      omega
    obtain ⟨h1, h2, h3⟩ := factor_exit hn1 hg.current_prime.one_lt.le hprod hacc hsort hall hstop
    simp only [factorLoop]
    exact ⟨h1, h2, h3, hs2⟩
  | succ f ih =>
    intro n g acc steps hg hn1 hprod hacc hsort hall hf hs1 hs2
    have hp := hg.current_prime
    have hnN : n ≤ N := Nat.le_of_dvd hN1 ⟨_, hprod.symm⟩
    unfold factorLoop
    simp only []
    by_cases hd : g.current ≤ n / g.current
    · rw [if_pos hd]
      obtain ⟨k, hk1, hk2, hk3⟩ := divideOut_spec g.current hp.two_le 32 n acc (by omega) (by omega)
      rw [hk1]
      simp only []
      have hn' : n / g.current ^ k ∣ n := Nat.div_dvd_of_dvd hk2
      obtain ⟨h1, h3, h4, h5⟩ := loop_step (m := n / g.current ^ k) (by omega : n < 2 ^ 32) hg hd
        (fun q hq hlt hdvd => hall q hq hlt (dvd_trans hdvd hn')) hk3
      have h5' : g.current ≤ Nat.sqrt N := le_trans h5 (Nat.sqrt_le_sqrt hnN)
      apply ih (n / g.current ^ k) g.next _ (steps + 1) h1
      · exact Nat.div_pos (Nat.le_of_dvd (by omega) hk2) (Nat.pow_pos (by omega))
      · rw [List.prod_append, List.prod_replicate, ← hprod, mul_comm acc.prod, ← mul_assoc,
          Nat.div_mul_cancel hk2]
      · intro p hp'
        rcases List.mem_append.1 hp' with h | h
        · exact ⟨(hacc p h).1, lt_trans (hacc p h).2 h3⟩
        · rw [(List.mem_replicate.1 h).2]; exact ⟨hp, h3⟩
      · rw [List.pairwise_append]
        refine ⟨hsort, ?_, ?_⟩
        · rw [List.pairwise_replicate]; right; exact le_rfl
        · intro a ha b hb
          rw [(List.mem_replicate.1 hb).2]
          exact (hacc a ha).2.le
      · exact h4
      · omega
      · omega
      · omega
    · rw [if_neg hd]
      obtain ⟨h1, h2, h3⟩ := factor_exit hn1 hp.one_lt.le hprod hacc hsort hall hd
      exact ⟨h1, h2, h3, hs2⟩

lemma factorS_spec (n : Nat) (h2 : 2 ≤ n) (hn : n < 2 ^ 32) :
    (∀ p ∈ (factorS n).1, Nat.Prime p) ∧ (factorS n).1.Pairwise (· ≤ ·) ∧ (factorS n).1.prod = n ∧
      (factorS n).2 ≤ Nat.sqrt n := by
  unfold factorS
  by_cases h3 : n ≤ 3
  · rw [if_pos h3]
    have : n = 2 ∨ n = 3 := by omega
    rcases this with rfl | rfl
    · simp [Nat.prime_two]
    · simp [Nat.prime_three]
  · rw [if_neg h3]
    apply factorLoop_spec n (by omega) hn n n PGen.init [] 0 gen_init_inv (by omega) (by simp)
      (by simp) (by simp)
    · exact fun q hq hlt => absurd hlt (init_no_prime_below hq)
    · rw [init_current]
    · rw [init_current]
    · exact Nat.zero_le _

/-- T15.3 `factor`: prime factors in non-decreasing order with product `n` -/
theorem factor_spec (n : Nat) (h2 : 2 ≤ n) (hn : n < 2 ^ 32) :
    (∀ p ∈ factor n, Nat.Prime p) ∧ (factor n).Pairwise (· ≤ ·) ∧ (factor n).prod = n := by
  have h := factorS_spec n h2 hn
  exact ⟨h.1, h.2.1, h.2.2.1⟩

/-- T15.3 cost: at most `√n` trial divisors -/
theorem factor_steps (n : Nat) (hn : n < 2 ^ 32) : (factorS n).2 ≤ Nat.sqrt n := by
  by_cases h2 : 2 ≤ n
  · exact (factorS_spec n h2 hn).2.2.2
  · unfold factorS
    rw [if_pos (by omega)]
    exact Nat.zero_le _

/-- what the API returns (`arr_int`) is the same list whenever every factor is representable as `int` -/
theorem factorInt_repr (n : Nat) (h : ∀ p ∈ factor n, p < 2 ^ 31) :
    factorInt n = (factor n).map (fun (p : Nat) => (p : Int)) := by
  unfold factorInt
  apply List.map_congr_left
  intro p hp
  have := h p hp
  unfold toI32
  rw [if_pos (by omega)]

lemma PL_one : PL 1 = [] := by
  rw [List.eq_nil_iff_forall_not_mem]
  intro k hk
  obtain ⟨h1, h2⟩ := mem_PL.1 hk
  have := h2.two_le; omega

lemma primesLoop_spec (n : Nat) (hn : n < 2 ^ 31) : ∀ fuel g acc, GenInv g → acc = PL (g.current - 1) →
    (∀ q, Nat.Prime q → q < g.current → q ≤ n) → n + 3 ≤ fuel + g.current →
    primesLoop n fuel g acc = PL n := by
  have hexit : ∀ g acc, GenInv g → acc = PL (g.current - 1) →
      (∀ q, Nat.Prime q → q < g.current → q ≤ n) → ¬ g.current ≤ n → acc = PL n := by
    intro g acc hg hacc hall hc
    rw [hacc]
    apply PL_ext n (g.current - 1) (by omega)
    intro q h1 h2 hq
    have := hall q hq (by omega); omega
  intro fuel
  induction fuel with
  | zero =>
    intro g acc hg hacc hall hf
    simp only [primesLoop]
    exact hexit g acc hg hacc hall (by omega)
  | succ f ih =>
    intro g acc hg hacc hall hf
    unfold primesLoop
    by_cases hc : g.current ≤ n
    · rw [if_pos hc]
      have hp := hg.current_prime
      obtain ⟨h1, h2, h3, h4⟩ := gen_next_strong g hg (fun _ => by omega)
      apply ih g.next _ h1
      · rw [hacc]
        have e1 : PL g.current = PL (g.current - 1) ++ [g.current] :=
          PL_next (g.current - 1) g.current hp (by have := hp.two_le; omega)
            (fun q hq1 hq2 => by omega)
        rw [← e1]
        symm
        apply PL_ext g.current (g.next.current - 1) (by omega)
        intro q hq1 hq2
        exact h4 q hq1 (by omega)
      · intro q hq hlt
        by_contra hcon
        exact h4 q (by omega) hlt hq
      · omega
    · rw [if_neg hc]
      exact hexit g acc hg hacc hall hc

/-- T15.4 `primes(n)` lists exactly the primes not exceeding `n` (results representable as `int`) -/
theorem primes_spec (n : Nat) (hn : n < 2 ^ 31) :
    primes n = (List.range (n + 1)).filter (fun k => decide (Nat.Prime k)) := by
  unfold primes
  apply primesLoop_spec n hn (n + 1) PGen.init [] gen_init_inv
  · rw [init_current]; exact PL_one.symm
  · exact fun q hq hlt => absurd hlt (init_no_prime_below hq)
  · rw [init_current]

/-- modular exponentiation by repeated squaring (`e < 2^fuel`) -/
def powMod (a p : Nat) : Nat → Nat → Nat
  | 0, _ => 1
  | f + 1, e => if e = 0 then 1 else (powMod a p f (e / 2)) ^ 2 % p * (if e % 2 = 0 then 1 else a) % p

lemma powMod_spec (a p : Nat) : ∀ f e, e < 2 ^ f → ((powMod a p f e : ℕ) : ZMod p) = (a : ZMod p) ^ e := by
  intro f
  induction f with
  | zero => intro e he; have : e = 0 := by omega
            subst this; simp [powMod]
  | succ f ih =>
    intro e he
    unfold powMod
    by_cases h0 : e = 0
    · subst h0; simp
    · rw [if_neg h0]
      have ih' := ih (e / 2) (by rw [pow_succ] at he; omega)
      rw [ZMod.natCast_mod, Nat.cast_mul, ZMod.natCast_mod, Nat.cast_pow, ih', ← pow_mul]
      have hdecomp : e = e / 2 * 2 + e % 2 := by omega
      by_cases h2 : e % 2 = 0
      · rw [if_pos h2]
        have : e / 2 * 2 = e := by omega
        rw [this]; simp
      · rw [if_neg h2]
        have : e / 2 * 2 + 1 = e := by omega
        rw [← pow_succ, this]

lemma prime22605091 : Nat.Prime 22605091 := by norm_num

theorem prime4294967291 : Nat.Prime 4294967291 := by
  apply lucas_primality 4294967291 ((2 : ℕ) : ZMod 4294967291)
  · rw [← powMod_spec 2 4294967291 32 _ (by norm_num), show powMod 2 4294967291 32 (4294967291 - 1) = 1 by decide +kernel,
      Nat.cast_one]
  · intro q hq hdvd
    have hfac : 4294967291 - 1 = 2 * (5 * (19 * 22605091)) := by norm_num
    have hq' : q = 2 ∨ q = 5 ∨ q = 19 ∨ q = 22605091 := by
      simpa only [hfac, hq.dvd_mul, Nat.prime_dvd_prime_iff_eq hq Nat.prime_two, Nat.prime_dvd_prime_iff_eq hq Nat.prime_five,
        Nat.prime_dvd_prime_iff_eq hq (by norm_num : Nat.Prime 19), Nat.prime_dvd_prime_iff_eq hq prime22605091] using hdvd
    have key : ∀ e r, e < 2 ^ 32 → powMod 2 4294967291 32 e = r → r % 4294967291 ≠ 1 % 4294967291 →
        ((2 : ℕ) : ZMod 4294967291) ^ e ≠ 1 := by
      intro e r he hr hne heq
      rw [← powMod_spec 2 4294967291 32 e he, hr] at heq
      have : ((r : ℕ) : ZMod 4294967291) = ((1 : ℕ) : ZMod 4294967291) := by simpa using heq
      rw [ZMod.natCast_eq_natCast_iff'] at this
      exact hne this
    rcases hq' with rfl | rfl | rfl | rfl <;> exact key _ _ (by norm_num) rfl (by decide +kernel)

lemma nextprimeLoop_spec (p : Nat) (hp : Nat.Prime p) (hpW : p < 2 ^ 32) : ∀ fuel val, val ≤ p →
    (∀ q, val ≤ q → q < p → ¬ Nat.Prime q) → p < fuel + val → nextprimeLoop fuel val = p := by
  intro fuel
  induction fuel with
  | zero => intro val h1 _ h3; omega
  | succ f ih =>
    intro val h1 h2 h3
    unfold nextprimeLoop
    have hiff := isprime_iff val (by omega)
    by_cases hv : Nat.Prime val
    · rw [if_pos (hiff.2 hv)]
      by_contra hne
      exact h2 val le_rfl (by omega) hv
    · rw [if_neg (fun h => hv (hiff.1 h))]
      have hne : val ≠ p := fun h => hv (h ▸ hp)
      have hW : (val + 1) % W = val + 1 := Nat.mod_eq_of_lt (by unfold W; omega)
      rw [hW]
      apply ih (val + 1) (by omega) _ (by omega)
      intro q hq1 hq2
      exact h2 q (by omega) hq2

/-- T15.5 `nextprime(n)` is the smallest prime ≥ n whenever it is representable (4294967291 is the largest 32-bit prime) -/
theorem nextprime_spec (n : Nat) (hn : n ≤ 4294967291) :
    Nat.Prime (nextprime n) ∧ n ≤ nextprime n ∧ ∀ q, n ≤ q → q < nextprime n → ¬ Nat.Prime q := by
  have hex : ∃ p, Nat.Prime p ∧ n ≤ p := ⟨4294967291, prime4294967291, hn⟩
  have hfs := Nat.find_spec hex
  have hfm : ∀ q, n ≤ q → q < Nat.find hex → ¬ Nat.Prime q :=
    fun q hq1 hq2 hqp => Nat.find_min hex hq2 ⟨hqp, hq1⟩
  have hfW : Nat.find hex ≤ 4294967291 := Nat.find_min' hex ⟨prime4294967291, hn⟩
  have hf2 : Nat.find hex < n + 4 + n := by
    by_cases h0 : n = 0
    · have : Nat.find hex ≤ 2 := Nat.find_min' hex ⟨Nat.prime_two, by omega⟩
      omega
    · obtain ⟨p, hp, h1, h2⟩ := Nat.exists_prime_lt_and_le_two_mul n h0
      have : Nat.find hex ≤ p := Nat.find_min' hex ⟨hp, h1.le⟩
      omega
  have : nextprime n = Nat.find hex := by
    unfold nextprime
    exact nextprimeLoop_spec _ hfs.1 (by omega) (n + 4) n hfs.2 hfm hf2
  rw [this]
  exact ⟨hfs.1, hfs.2, hfm⟩

lemma shiftLoop_eq (m k : Nat) (hk : 2 ^ k ≤ m) (hk' : m < 2 ^ (k + 1)) :
    ∀ fuel p, p ≤ k + 1 → k + 1 ≤ fuel + p → shiftLoop m fuel p = k + 1 := by
  intro fuel
  induction fuel with
  | zero => intro p h1 h2; simp only [shiftLoop]; omega
  | succ f ih =>
    intro p h1 h2
    simp only [shiftLoop, Nat.shiftRight_eq_div_pow]
    by_cases hp : p ≤ k
    · have : 2 ^ p ≤ m := le_trans (Nat.pow_le_pow_right (by norm_num) hp) hk
      have h3 : m / 2 ^ p ≠ 0 := by
        have := Nat.div_pos this (Nat.two_pow_pos p)
        omega
      simp [h3]
      exact ih (p + 1) (by omega) (by omega)
    · have hpk : p = k + 1 := by omega
      subst hpk
      have : m / 2 ^ (k + 1) = 0 := Nat.div_eq_of_lt hk'
      simp [this]


lemma nextpow2_eq (m k : Nat) (h2 : 2 ≤ m) (hk : 2 ^ k ≤ m) (hk' : m < 2 ^ (k + 1)) (hk32 : k < 32) :
    nextpow2 m = if 2 ^ k = m then k else k + 1 := by
  have hs := shiftLoop_eq m k hk hk' 32 0 (by omega) (by omega)
  have hm0 : (m == 0 || m == 1) = false := by simp; omega
  simp only [nextpow2, hm0, hs, Nat.add_sub_cancel, Nat.one_shiftLeft]
  simp

/-- T15.6 `nextpow2 m = ⌈log₂ m⌉` for every positive `int` -/
theorem nextpow2_spec (m : Nat) (h0 : 0 < m) (hm : m < 2 ^ 31) :
    m ≤ 2 ^ nextpow2 m ∧ (nextpow2 m = 0 ∨ 2 ^ (nextpow2 m - 1) < m) := by
  by_cases h1 : m = 1
  · subst h1; decide
  have h1' : 2 ^ Nat.log 2 m ≤ m := Nat.pow_log_le_self 2 (by omega)
  have h3 : m < 2 ^ (Nat.log 2 m + 1) := Nat.lt_pow_succ_log_self (by norm_num) m
  have hpos : 0 < Nat.log 2 m := Nat.log_pos (by norm_num) (by omega)
  rw [nextpow2_eq m _ (by omega) h1' h3 ((Nat.log_lt_of_lt_pow (by omega) hm).trans (by norm_num))]
  split_ifs with h
  · refine ⟨by omega, Or.inr ?_⟩
    have : 2 ^ (Nat.log 2 m - 1) < 2 ^ (Nat.log 2 m) := Nat.pow_lt_pow_right (by norm_num) (by omega)
    omega
  · refine ⟨by omega, Or.inr ?_⟩
    simp only [Nat.add_sub_cancel]
    omega

/-- T15.6 `ispow2` is the exact power-of-two test for every positive `int` -/
theorem ispow2_iff (m : Nat) (h0 : 0 < m) (hm : m < 2 ^ 31) : ispow2 m = true ↔ ∃ k, m = 2 ^ k := by
  unfold ispow2
  simp only [Nat.one_shiftLeft, beq_iff_eq]
  constructor
  · intro h; exact ⟨_, h.symm⟩
  · rintro ⟨k, rfl⟩
    obtain ⟨ha, hb⟩ := nextpow2_spec (2 ^ k) h0 hm
    have h1 : k ≤ nextpow2 (2 ^ k) := (Nat.pow_le_pow_iff_right (by norm_num)).1 ha
    rcases hb with hb | hb
    · rw [hb] at h1 ⊢
      have : k = 0 := by omega
      subst this; rfl
    · have h2 : nextpow2 (2 ^ k) - 1 < k := (Nat.pow_lt_pow_iff_right (by norm_num)).1 hb
      have : nextpow2 (2 ^ k) = k := by omega
      rw [this]

/-! ### non-vacuity / concrete instances (kernel evaluation of the executable model) -/
example : isprime 1009 = true := by decide +kernel
example : isprime (31 * 37) = false := by decide +kernel
example : factor 360 = [2, 2, 2, 3, 3, 5] := by decide +kernel
example : nextprime 90 = 97 := by decide +kernel
example : primes 30 = [2, 3, 5, 7, 11, 13, 17, 19, 23, 29] := by decide +kernel
example : nextpow2 1000 = 10 ∧ ispow2 1024 = true ∧ ispow2 1000 = false := by decide +kernel

end Dsp.C15
