import DspVerif.Model.ArrayOps
import DspVerif.Lib.RealFn
import DspVerif.Lib.Guard
/-!
# C03 — element-wise array arithmetic, type promotion and value semantics

Theorems about `Model/ArrayOps` (hand-written mirror of the overloads of `include/dsplib/array.h`,
`utils.h`, `lib/math.cpp`; tied to the code by the correspondence run of `harness/c03.cpp`) over the scalar
formulas of `Gen/Cmplx` (REGENERATED from `include/dsplib/types.h` on every run).

* T03.1: every generated `cmplx_t` operator — incl. `/`, the complex-with-real forms, the real-on-the-left forms and the
  compound forms — is the corresponding field operation of ℂ (quotients under a non-zero denominator); the facts about the
  operators alone are in `Lib/RealFn`, here they are lifted to the operator symbols of the model.
* T03.2: shape (∀α: accepted iff no length mismatch; length; complex iff an operand is) and value (ℝ/ℂ: the i-th element of
  the result is the scalar expression at i) of an expression, by induction over it with one lemma per array operation;
  the compound forms, incl. aliasing `a op= a`, `a |= a`, reduce to the plain ones.
* T03.3: selection / concatenation return exactly the designated elements in order.
* value semantics in the model: a statement changes at most its target, a rejected one nothing, a copy is independent.

Floating-point rounding is not modelled: the value theorems are exact over ℝ/ℂ, the 4·eps·scale agreement of the
implementation with a `complex<long double>` interpreter is MEASURED by the oracle of `harness/c03.cpp`.
-/
set_option linter.unusedSectionVars false
namespace Dsp.C03
open Dsp Dsp.ArrayOps Dsp.Cx

/-! ### T03.1 -/
section generic
variable {α : Type} [Add α] [Sub α] [Mul α] [Div α] [Neg α] [LT α] [LE α] [Fn α]
  [DecidableRel (· < · : α → α → Prop)] [DecidableRel (· ≤ · : α → α → Prop)]

/-- T03.1 (compound forms, ∀α): `cmplx_t::operator+=(const cmplx_t&)` computes `*this + rhs` -/
theorem addAssign_eq (a b : Cx α) : Cx.addAssign a b = a + b := rfl
/-- T03.1 (compound forms, ∀α): `operator-=(const cmplx_t&)` computes `*this - rhs` -/
theorem subAssign_eq (a b : Cx α) : Cx.subAssign a b = a - b := rfl
/-- T03.1 (compound forms, ∀α): `operator*=(const cmplx_t&)` computes `*this * rhs` -/
theorem mulAssign_eq (a b : Cx α) : Cx.mulAssign a b = a * b := rfl
/-- T03.1 (compound forms, ∀α): `operator/=(const cmplx_t&)` computes `*this / rhs` -/
theorem divAssign_eq (a b : Cx α) : Cx.divAssign a b = a / b := rfl
/-- T03.1 (compound forms, ∀α): `operator+=(const real_t&)` computes `*this + rhs` (complex + real) -/
theorem addrAssign_eq (a : Cx α) (x : α) : Cx.addrAssign a x = Cx.addr a x := rfl
/-- T03.1 (compound forms, ∀α): `operator-=(const real_t&)` computes `*this - rhs` -/
theorem subrAssign_eq (a : Cx α) (x : α) : Cx.subrAssign a x = Cx.subr a x := rfl
/-- T03.1 (compound forms, ∀α): `operator*=(const real_t&)` computes `*this * rhs` -/
theorem mulrAssign_eq (a : Cx α) (x : α) : Cx.mulrAssign a x = Cx.mulr a x := rfl
/-- T03.1 (compound forms, ∀α): `operator/=(const real_t&)` computes `*this / rhs` -/
theorem divrAssign_eq (a : Cx α) (x : α) : Cx.divrAssign a x = Cx.divr a x := rfl
end generic

@[simp] theorem div_re (a b : Cx ℝ) : (a / b).re = (a.re * b.re + a.im * b.im) / abs2 b := rfl
@[simp] theorem div_im (a b : Cx ℝ) : (a / b).im = (b.re * a.im - a.re * b.im) / abs2 b := rfl

theorem toC_eq_zero (b : Cx ℝ) : toC b = 0 ↔ b.re = 0 ∧ b.im = 0 := Complex.ext_iff

/-- T03.1: the generated `cmplx_t / cmplx_t` formula is the quotient of ℂ — for a NON-ZERO divisor (at 0 the C++ yields NaN/inf; that point is an input class of the harness) -/
theorem toC_div (a b : Cx ℝ) (hb : toC b ≠ 0) : toC (a / b) = toC a / toC b := by
  have _ := hb
  exact Cx.toC_div a b

/-- T03.1: real-on-the-left `real + cmplx_t` -/
theorem toC_radd (x : ℝ) (b : Cx ℝ) : toC (radd x b) = (x : ℂ) + toC b := by rw [radd, toC_addr, add_comm]
/-- T03.1: real-on-the-left `real - cmplx_t` (own formula `{lhs - re, -im}`) -/
theorem toC_rsub (x : ℝ) (b : Cx ℝ) : toC (rsub x b) = (x : ℂ) - toC b := by apply Complex.ext <;> simp [rsub]
/-- T03.1: real-on-the-left `real * cmplx_t` -/
theorem toC_rmul (x : ℝ) (b : Cx ℝ) : toC (rmul x b) = (x : ℂ) * toC b := Cx.toC_rmul x b
/-- T03.1: real-on-the-left `real / cmplx_t` (`cmplx_t(lhs) / rhs`), non-zero divisor -/
theorem toC_rdiv (x : ℝ) (b : Cx ℝ) (hb : toC b ≠ 0) : toC (rdiv x b) = (x : ℂ) / toC b := by
  have _ := hb
  exact Cx.toC_rdiv x b
/-- T03.1 / promotion: `array_cast<cmplx_t>` / `cmplx_t(real)` embeds ℝ into ℂ (`im = 0`) -/
theorem toC_castC (x : ℝ) : toC (castC x) = (x : ℂ) := by apply Complex.ext <;> simp [castC]


/-! ### the scalar layer of the model is the field operation -/

/-- the field operation an operator symbol denotes -/
noncomputable def fop : Op → ℂ → ℂ → ℂ
  | .add, a, b => a + b
  | .sub, a, b => a - b
  | .mul, a, b => a * b
  | .div, a, b => a / b

/-- T03.1: the real element operation is the field operation. Neither this nor the lemmas below need a side condition at
`/`: `x / 0 = 0` in ℝ, in ℂ and in the generated quotient formula alike. The C++ yields NaN/inf there, so `eval_pointwise`
excludes that point by `DivOk`. -/
theorem ofReal_opR (o : Op) (x y : ℝ) : ((opR o x y : ℝ) : ℂ) = fop o x y := by
  cases o <;> simp [opR, fop]

/-- T03.1: the compound complex-complex element operation used by `arr op arr`, `arr op scalar` is the field operation -/
theorem toC_opC (o : Op) (a b : Cx ℝ) : toC (opC o a b) = fop o (toC a) (toC b) := by
  cases o
  · exact toC_add a b
  · exact toC_sub a b
  · exact toC_mul a b
  · exact Cx.toC_div a b

/-- the non-compound operators compute what the compound ones do (`Cx.addAssign a b = a + b` … hold by `rfl`) -/
theorem opCn_eq {α : Type} [Add α] [Sub α] [Mul α] [Div α] (o : Op) (a b : Cx α) : opCn o a b = opC o a b := by
  cases o <;> rfl

theorem opCRn_eq {α : Type} [Add α] [Sub α] [Mul α] [Div α] (o : Op) (a : Cx α) (x : α) : opCRn o a x = opCR o a x := by
  cases o <;> rfl

/-- T03.1: the compound complex-real element operation is the field operation -/
theorem toC_opCR (o : Op) (a : Cx ℝ) (x : ℝ) : toC (opCR o a x) = fop o (toC a) x := by
  cases o
  · exact toC_addr a x
  · exact toC_subr a x
  · exact toC_mulr a x
  · exact toC_divr a x

/-! ### array level -/

/-- the complex number denoted by element `i` of an array value (`0` beyond the end) -/
noncomputable def elemC (v : Val ℝ) (i : Nat) : ℂ :=
  match v with
  | .r a => ((a[i]?.getD 0 : ℝ) : ℂ)
  | .c a => toC (a[i]?.getD ⟨0, 0⟩)

/-- the complex number a scalar operand denotes -/
noncomputable def scC : Sc ℝ → ℂ
  | .r x => (x : ℂ)
  | .i n => ((n : ℝ) : ℂ)
  | .c z => toC z

theorem getD_map {β γ : Type} {f : β → γ} {a : List β} {i : Nat} {d : β} {d' : γ} (h : i < a.length) :
    (a.map f)[i]?.getD d' = f (a[i]?.getD d) := by
  rw [List.getElem?_map, List.getElem?_eq_getElem h]; rfl

theorem getD_zipWith {β γ δ : Type} {f : β → γ → δ} {a : List β} {b : List γ} {i : Nat} {da : β} {db : γ} {d : δ}
    (h : i < (List.zipWith f a b).length) :
    (List.zipWith f a b)[i]?.getD d = f (a[i]?.getD da) (b[i]?.getD db) := by
  rw [List.length_zipWith, Nat.lt_min] at h
  rw [List.getElem?_zipWith, List.getElem?_eq_getElem h.1, List.getElem?_eq_getElem h.2]; rfl

/-- T03.2 per operator: element i of `arr op arr` (all four element-type combinations, also the compound forms) is the field operation on the i-th elements; real-with-complex promotes -/
theorem arrArr_elem {o : Op} {v w u : Val ℝ} (h : arrArr o v w = .ok u) (i : Nat) (hi : i < u.size) :
    elemC u i = fop o (elemC v i) (elemC w i) := by
  obtain ⟨-, h⟩ := guard_ok.mp h
  obtain rfl := Except.ok.inj h
  cases v <;> cases w <;> simp only [elemC] <;> rw [getD_zipWith hi]
  · exact ofReal_opR o _ _
  · rw [toC_opC, toC_castC]
  · exact toC_opCR o _ _
  · exact toC_opC o _ _


/-- T03.2 per operator: element i of `arr op scalar` (real / int / complex scalar on the right) -/
theorem arrScalar_elem (o : Op) (v : Val ℝ) (s : Sc ℝ) (i : Nat) (hi : i < v.size) :
    elemC (arrScalar o v s) i = fop o (elemC v i) (scC s) := by
  cases v <;> cases s <;> simp only [arrScalar, elemC, scC] <;> rw [getD_map hi]
  · exact ofReal_opR o _ _
  · exact ofReal_opR o _ _
  · rw [toC_opC, toC_castC]
  · exact toC_opCR o _ _
  · exact toC_opCR o _ _
  · exact toC_opC o _ _

/-- promoting the left scalar to the result type does not change the number it denotes -/
theorem scC_promote (s : Sc ℝ) (b : Bool) : scC (promote s b) = scC s := by
  cases s <;> cases b <;> simp [promote, scC, toC_castC]

/-- T03.2 per operator: element i of `scalar - arr`, `scalar / arr` -/
theorem leftLoop_elem (o : Op) (s : Sc ℝ) (v : Val ℝ) (i : Nat) (hi : i < v.size) :
    elemC (leftLoop o s v) i = fop o (scC s) (elemC v i) := by
  cases v <;> cases s <;> simp only [leftLoop, elemC, scC, opCn_eq, opCRn_eq] <;> rw [getD_map hi]
  · exact ofReal_opR o _ _
  · exact ofReal_opR o _ _
  · exact toC_opCR o _ _
  · rw [toC_opC, toC_castC]
  · rw [toC_opC, toC_castC]; rfl
  · exact toC_opC o _ _

/-- T03.2 per operator: element i of `scalar op arr` (scalar on the left, all four operators) -/
theorem scalarArr_elem (o : Op) (s : Sc ℝ) (v : Val ℝ) (i : Nat) (hi : i < v.size) :
    elemC (scalarArr o s v) i = fop o (scC s) (elemC v i) := by
  cases o <;> simp only [scalarArr]
  · rw [arrScalar_elem .add v _ i hi, scC_promote]; exact add_comm _ _
  · exact leftLoop_elem .sub s v i hi
  · rw [arrScalar_elem .mul v _ i hi, scC_promote]; exact mul_comm _ _
  · exact leftLoop_elem .div s v i hi

/-- T03.2 per operator: element i of unary minus -/
theorem negV_elem (v : Val ℝ) (i : Nat) (hi : i < v.size) : elemC (negV v) i = - elemC v i := by
  cases v <;> simp only [negV, elemC] <;> rw [getD_map hi]
  · exact Complex.ofReal_neg _
  · exact toC_neg _

/-- a promoted real array read as complex numbers, beyond the end as well: the default `0` promotes to the default `0 + 0i` -/
theorem elemC_map_castC (a : List ℝ) (i : Nat) : toC ((a.map castC)[i]?.getD ⟨0, 0⟩) = ((a[i]?.getD 0 : ℝ) : ℂ) := by
  rw [List.getElem?_map]
  cases a[i]? with
  | none => exact Complex.ext rfl rfl
  | some x => exact toC_castC x

/-- T03.3: element i of `a | b` is `a[i]` for `i < len a`, else `b[i - len a]` (real parts promoted when the other side is complex) -/
theorem catV_elem (v w : Val ℝ) (i : Nat) :
    elemC (catV v w) i = if i < v.size then elemC v i else elemC w (i - v.size) := by
  -- `List.getElem?_append` picks the side by the same test; a promoted side is `elemC_map_castC`
  by_cases h : i < v.size <;> cases v <;> cases w <;> simp only [Val.size] at h <;>
    simp only [catV, elemC, Val.size, List.getElem?_append, List.length_map, h, ↓reduceIte, elemC_map_castC]


/-! ### T03.3 selection and concatenation return exactly the designated elements, in order (∀α) -/
section structural
variable {β : Type}

/-- the designated positions of a mask: the increasing list of all `j < m.length` with `m[j] = true` -/
def trues (m : List Bool) : List Nat := (List.range m.length).filter (fun j => m.getD j false)

theorem trues_cons (b : Bool) (bs : List Bool) :
    trues (b :: bs) = if b then 0 :: (trues bs).map Nat.succ else (trues bs).map Nat.succ := by
  unfold trues
  rw [List.length_cons, List.range_succ_eq_map, List.filter_cons, List.filter_map]
  cases b <;> rfl

/-- boolean-mask selection `a[mask]` returns exactly the elements at the designated positions, in order -/
theorem sel_eq (d : β) (a : List β) (m : List Bool) (h : m.length = a.length) :
    sel a m = (trues m).map (fun j => a.getD j d) := by
  induction a generalizing m with
  | nil =>
    cases m with
    | nil => rfl
    | cons b bs => cases h
  | cons x xs ih =>
    cases m with
    | nil => cases h
    | cons b bs =>
      -- position `j + 1` of `x :: xs` is position `j` of `xs`
      have hs : ((trues bs).map Nat.succ).map (fun j => (x :: xs).getD j d) = (trues bs).map (fun j => xs.getD j d) :=
        List.map_map
      rw [trues_cons, sel, ih bs (Nat.succ.inj h), ← hs]
      cases b <;> rfl

/-- T03.3: mask selection returns as many elements as the mask has `true` entries -/
theorem length_sel (a : List β) (m : List Bool) (h : m.length = a.length) : (sel a m).length = (trues m).length := by
  cases a with
  | nil => rw [List.eq_nil_of_length_eq_zero h]; rfl
  | cons x xs => rw [sel_eq x _ m h, List.length_map]

theorem getD_sel (d : β) {a : List β} {m : List Bool} (h : m.length = a.length) {i : Nat} (hi : i < (sel a m).length) :
    (sel a m)[i]?.getD d = a[(trues m)[i]?.getD 0]?.getD d := by
  rw [sel_eq d a m h] at hi ⊢
  rw [getD_map (d := 0) (List.length_map _ ▸ hi), List.getD_eq_getElem?_getD]

/-- T03.3: the designated positions are strictly increasing (elements come back in order, none twice) -/
theorem trues_sorted (m : List Bool) : (trues m).Pairwise (· < ·) :=
  List.Pairwise.filter _ List.pairwise_lt_range

/-- T03.3: the designated positions are exactly the positions `j < m.length` with `m[j] = true` -/
theorem mem_trues (m : List Bool) (j : Nat) : j ∈ trues m ↔ j < m.length ∧ m.getD j false = true := by
  simp [trues]

/-- index-list selection: accepted iff every entry is a valid position, and then returns exactly the elements
`a[l[0]], a[l[1]], …` in the order of the list -/
theorem gatherL_ok {d : β} {a : List β} {l : List Int} {r : List β} :
    gatherL d a l = .ok r ↔ (∀ j ∈ l, 0 ≤ j ∧ j < (a.length : Int)) ∧ l.map (fun j => a.getD j.toNat d) = r := by
  unfold gatherL
  rw [ok_guard, List.all_eq_true]
  simp only [decide_eq_true_eq]

/-- T03.3: an index list with a negative or too large entry is rejected -/
theorem gatherL_error (d : β) (a : List β) (l : List Int) (j : Int) (hj : j ∈ l) (hbad : j < 0 ∨ (a.length : Int) ≤ j) :
    ∃ msg, gatherL d a l = .error msg := by
  cases hr : gatherL d a l with
  | error msg => exact ⟨msg, rfl⟩
  | ok r =>
    have := (gatherL_ok.mp hr).1 j hj
    omega

/-- `concatenate(a1, …, a5)`: the parts in argument order (arguments not given are empty) -/
theorem concatenate5_getElem? (a1 a2 a3 a4 a5 : List β) :
    concatenate5 a1 a2 a3 a4 a5 = a1 ++ (a2 ++ (a3 ++ (a4 ++ a5))) := by
  simp [concatenate5]

/-- T03.3: `concatenate(a1, a2)` (defaults empty) is `a1` followed by `a2` -/
theorem concatenate5_two (a1 a2 : List β) : concatenate5 a1 a2 [] [] [] = a1 ++ a2 := by simp [concatenate5]

end structural


/-! ### T03.2 — shapes: which programs are accepted, length and element type of the result (∀α, incl. `Float`) -/
section shapes
variable {α : Type}

/-- static length of an expression (a function of the syntax and of the lengths in the environment only) -/
def len (env : Env α) : Expr α → Nat
  | .var k => match env[k]? with
    | some v => v.size
    | none => 0
  | .lit v => v.size
  | .neg e => len env e
  | .pos e => len env e
  | .aa _ a _ => len env a
  | .as _ a _ => len env a
  | .sa _ _ a => len env a
  | .cat a b => len env a + len env b
  | .mask _ m => (trues m).length
  | .idx _ l => l.length

/-- static element type: complex iff some operand is complex (`ResultType`) -/
def kind (env : Env α) : Expr α → Bool
  | .var k => match env[k]? with
    | some v => v.isC
    | none => false
  | .lit v => v.isC
  | .neg e => kind env e
  | .pos e => kind env e
  | .aa _ a b => kind env a || kind env b
  | .as _ a s => kind env a || s.isC
  | .sa _ s a => kind env a || s.isC
  | .cat a b => kind env a || kind env b
  | .mask a _ => kind env a
  | .idx a _ => kind env a

/-- no length mismatch anywhere: array operands of equal length, mask as long as the array,
    every index a valid position -/
def WF (env : Env α) : Expr α → Prop
  | .var k => k < env.length
  | .lit _ => True
  | .neg e => WF env e
  | .pos e => WF env e
  | .aa _ a b => WF env a ∧ WF env b ∧ len env a = len env b
  | .as _ a _ => WF env a
  | .sa _ _ a => WF env a
  | .cat a b => WF env a ∧ WF env b
  | .mask a m => WF env a ∧ m.length = len env a
  | .idx a l => WF env a ∧ ∀ j ∈ l, 0 ≤ j ∧ j < (len env a : Int)

variable [Add α] [Sub α] [Mul α] [Div α] [Neg α] [LT α] [LE α] [Fn α]
  [DecidableRel (· < · : α → α → Prop)] [DecidableRel (· ≤ · : α → α → Prop)]

/-- T03.2 per operator: `arr op arr` succeeds only for equal lengths; result has that length and is complex iff an operand is -/
theorem arrArr_shape {o : Op} {v w u : Val α} (h : arrArr o v w = .ok u) :
    v.size = w.size ∧ u.size = v.size ∧ u.isC = (v.isC || w.isC) := by
  obtain ⟨hs, h⟩ := guard_ok.mp h
  obtain rfl := Except.ok.inj h
  have hs := not_not.mp hs
  cases v <;> cases w <;> exact ⟨hs, List.length_zipWith.trans (Nat.min_eq_left hs.le), rfl⟩

/-- T03.2 per operator: equal lengths are accepted -/
theorem arrArr_ok_of_size (o : Op) (v w : Val α) (h : v.size = w.size) : ∃ u, arrArr o v w = .ok u :=
  ⟨_, if_neg (not_not.mpr h)⟩

/-- operands of different length are rejected -/
theorem arrArr_error_of_size (o : Op) (v w : Val α) (h : v.size ≠ w.size) : ∃ m, arrArr o v w = .error m :=
  ⟨_, if_pos h⟩

/-- T03.2 per operator: `arr op scalar` keeps the length; complex iff array or scalar is -/
theorem arrScalar_shape (o : Op) (v : Val α) (s : Sc α) :
    (arrScalar o v s).size = v.size ∧ (arrScalar o v s).isC = (v.isC || s.isC) := by
  cases v <;> cases s <;> exact ⟨List.length_map _, rfl⟩

theorem promote_isC (s : Sc α) (b : Bool) : (b || (promote s b).isC) = (b || s.isC) := by
  cases s <;> cases b <;> rfl

/-- T03.2 per operator: shape of `scalar - arr`, `scalar / arr` -/
theorem leftLoop_shape (o : Op) (s : Sc α) (v : Val α) :
    (leftLoop o s v).size = v.size ∧ (leftLoop o s v).isC = (v.isC || s.isC) := by
  cases v <;> cases s <;> exact ⟨List.length_map _, rfl⟩

/-- T03.2 per operator: `scalar op arr` keeps the length; complex iff array or scalar is -/
theorem scalarArr_shape (o : Op) (s : Sc α) (v : Val α) :
    (scalarArr o s v).size = v.size ∧ (scalarArr o s v).isC = (v.isC || s.isC) := by
  cases o
  · exact (arrScalar_shape .add v _).imp_right (·.trans (promote_isC s v.isC))
  · exact leftLoop_shape .sub s v
  · exact (arrScalar_shape .mul v _).imp_right (·.trans (promote_isC s v.isC))
  · exact leftLoop_shape .div s v

/-- T03.2 per operator: unary minus keeps length and element type -/
theorem negV_shape (v : Val α) : (negV v).size = v.size ∧ (negV v).isC = v.isC := by
  cases v <;> exact ⟨List.length_map _, rfl⟩

/-- T03.3: `a | b` has length `len a + len b`; complex iff a side is -/
theorem catV_shape (v w : Val α) : (catV v w).size = v.size + w.size ∧ (catV v w).isC = (v.isC || w.isC) := by
  cases v <;> cases w <;> simp [catV, Val.size, Val.isC]

/-- T03.3: mask selection is accepted iff the mask is as long as the array, and then runs `sel` over the elements -/
theorem maskV_ok {v u : Val α} {m : List Bool} :
    maskV v m = .ok u ↔ m.length = v.size ∧ (match v with
      | .r a => .r (sel a m)
      | .c a => .c (sel a m)) = u := by
  simp only [maskV, guard_ok, not_not, Except.ok.injEq]
  rfl

/-- T03.3: shape of an accepted mask selection -/
theorem maskV_shape {v u : Val α} {m : List Bool} (h : maskV v m = .ok u) :
    m.length = v.size ∧ u.size = (trues m).length ∧ u.isC = v.isC := by
  obtain ⟨hm, rfl⟩ := maskV_ok.mp h
  cases v <;> exact ⟨hm, length_sel _ m hm, rfl⟩

/-- the elements an index list picks (the default values are never read when every index is valid) -/
def gatherV (v : Val α) (l : List Int) : Val α :=
  match v with
  | .r a => .r (l.map fun j => a.getD j.toNat (Fn.ofInt 0))
  | .c a => .c (l.map fun j => a.getD j.toNat (castC (Fn.ofInt 0)))

/-- T03.3: index-list selection is accepted iff EVERY entry satisfies `0 ≤ j < size`, and then returns the elements
`a[l[0]], a[l[1]], …` -/
theorem idxV_ok {v u : Val α} {l : List Int} :
    idxV v l = .ok u ↔ (∀ j ∈ l, 0 ≤ j ∧ j < (v.size : Int)) ∧ u = gatherV v l := by
  cases v <;> simp only [idxV, map_ok, gatherL_ok] <;>
    exact ⟨fun ⟨_, ⟨h, rfl⟩, hu⟩ => ⟨h, hu⟩, fun ⟨h, hu⟩ => ⟨_, ⟨h, rfl⟩, hu⟩⟩

/-- T03.3: an accepted index-list selection has one element per index, same element type -/
theorem idxV_shape {v u : Val α} {l : List Int} (h : idxV v l = .ok u) : u.size = l.length ∧ u.isC = v.isC := by
  rw [(idxV_ok.mp h).2]
  cases v <;> exact ⟨List.length_map _, rfl⟩

theorem evalE_var {env : Env α} {k : Nat} {v : Val α} : evalE env (.var k) = .ok v ↔ env[k]? = some v := by
  simp only [evalE]
  cases env[k]? <;> simp

/-- the recursive cases of `evalE` are binds and maps of the operand evaluations -/
theorem evalE_neg (env : Env α) (e : Expr α) : evalE env (.neg e) = (evalE env e).map negV := by
  simp only [evalE]; cases evalE env e <;> rfl
theorem evalE_aa (env : Env α) (o : Op) (a b : Expr α) :
    evalE env (.aa o a b) = evalE env a >>= fun va => evalE env b >>= fun vb => arrArr o va vb := by
  simp only [evalE]; cases evalE env a <;> cases evalE env b <;> rfl
theorem evalE_as (env : Env α) (o : Op) (a : Expr α) (s : Sc α) :
    evalE env (.as o a s) = (evalE env a).map (arrScalar o · s) := by
  simp only [evalE]; cases evalE env a <;> rfl
theorem evalE_sa (env : Env α) (o : Op) (s : Sc α) (a : Expr α) :
    evalE env (.sa o s a) = (evalE env a).map (scalarArr o s) := by
  simp only [evalE]; cases evalE env a <;> rfl
theorem evalE_cat (env : Env α) (a b : Expr α) :
    evalE env (.cat a b) = evalE env a >>= fun va => (evalE env b).map (catV va) := by
  simp only [evalE]; cases evalE env a <;> cases evalE env b <;> rfl
theorem evalE_mask (env : Env α) (a : Expr α) (m : List Bool) : evalE env (.mask a m) = evalE env a >>= (maskV · m) := by
  simp only [evalE]; cases evalE env a <;> rfl
theorem evalE_idx (env : Env α) (a : Expr α) (l : List Int) : evalE env (.idx a l) = evalE env a >>= (idxV · l) := by
  simp only [evalE]; cases evalE env a <;> rfl

/-- T03.2 (shape part, as used downstream): a successful evaluation had no mismatch and has the static length / element type -/
theorem evalE_ok_shape {env : Env α} {e : Expr α} {v : Val α} (h : evalE env e = .ok v) :
    WF env e ∧ v.size = len env e ∧ v.isC = kind env e := by
  induction e generalizing v with
  | var k =>
    have hk := evalE_var.mp h
    simp only [WF, len, kind, hk]
    exact ⟨(List.getElem?_eq_some_iff.mp hk).1, trivial, trivial⟩
  | lit w =>
    obtain rfl := Except.ok.inj h
    exact ⟨trivial, rfl, rfl⟩
  | neg e ih =>
    obtain ⟨w, hw, rfl⟩ := map_ok.mp (evalE_neg env e ▸ h)
    obtain ⟨h1, h2, h3⟩ := ih hw
    exact ⟨h1, (negV_shape w).1.trans h2, (negV_shape w).2.trans h3⟩
  | pos e ih => exact ih h
  | aa o a b iha ihb =>
    obtain ⟨va, hva, h⟩ := bind_ok.mp (evalE_aa env o a b ▸ h)
    obtain ⟨vb, hvb, h⟩ := bind_ok.mp h
    obtain ⟨ha, hsa, hka⟩ := iha hva
    obtain ⟨hb, hsb, hkb⟩ := ihb hvb
    obtain ⟨h1, h2, h3⟩ := arrArr_shape h
    exact ⟨⟨ha, hb, hsa.symm.trans (h1.trans hsb)⟩, h2.trans hsa, h3.trans (congrArg₂ (· || ·) hka hkb)⟩
  | «as» o a s ih =>
    obtain ⟨w, hw, rfl⟩ := map_ok.mp (evalE_as env o a s ▸ h)
    obtain ⟨h1, h2, h3⟩ := ih hw
    exact ⟨h1, (arrScalar_shape o w s).1.trans h2, (arrScalar_shape o w s).2.trans (congrArg (· || s.isC) h3)⟩
  | sa o s a ih =>
    obtain ⟨w, hw, rfl⟩ := map_ok.mp (evalE_sa env o s a ▸ h)
    obtain ⟨h1, h2, h3⟩ := ih hw
    exact ⟨h1, (scalarArr_shape o s w).1.trans h2, (scalarArr_shape o s w).2.trans (congrArg (· || s.isC) h3)⟩
  | cat a b iha ihb =>
    obtain ⟨va, hva, h⟩ := bind_ok.mp (evalE_cat env a b ▸ h)
    obtain ⟨vb, hvb, rfl⟩ := map_ok.mp h
    obtain ⟨ha, hsa, hka⟩ := iha hva
    obtain ⟨hb, hsb, hkb⟩ := ihb hvb
    exact ⟨⟨ha, hb⟩, (catV_shape va vb).1.trans (congrArg₂ (· + ·) hsa hsb), (catV_shape va vb).2.trans (congrArg₂ (· || ·) hka hkb)⟩
  | mask a m ih =>
    obtain ⟨w, hw, h⟩ := bind_ok.mp (evalE_mask env a m ▸ h)
    obtain ⟨ha, hs, hk⟩ := ih hw
    obtain ⟨h1, h2, h3⟩ := maskV_shape h
    exact ⟨⟨ha, h1.trans hs⟩, h2, h3.trans hk⟩
  | idx a l ih =>
    obtain ⟨w, hw, h⟩ := bind_ok.mp (evalE_idx env a l ▸ h)
    obtain ⟨ha, hs, hk⟩ := ih hw
    exact ⟨⟨ha, hs ▸ (idxV_ok.mp h).1⟩, (idxV_shape h).1, (idxV_shape h).2.trans hk⟩

/-- an expression without length mismatch evaluates -/
theorem evalE_ok_of_WF {env : Env α} {e : Expr α} (h : WF env e) : ∃ v, evalE env e = .ok v := by
  induction e with
  | var k => exact ⟨env[k], evalE_var.mpr (List.getElem?_eq_getElem h)⟩
  | lit v => exact ⟨v, rfl⟩
  | neg e ih =>
    obtain ⟨v, hv⟩ := ih h
    exact ⟨_, by rw [evalE_neg, hv]; rfl⟩
  | pos e ih => exact ih h
  | aa o a b iha ihb =>
    obtain ⟨ha, hb, hl⟩ := h
    obtain ⟨va, hva⟩ := iha ha
    obtain ⟨vb, hvb⟩ := ihb hb
    obtain ⟨u, hu⟩ := arrArr_ok_of_size o va vb (by rw [(evalE_ok_shape hva).2.1, (evalE_ok_shape hvb).2.1, hl])
    exact ⟨u, by rw [evalE_aa, hva, hvb]; exact hu⟩
  | «as» o a s ih =>
    obtain ⟨v, hv⟩ := ih h
    exact ⟨_, by rw [evalE_as, hv]; rfl⟩
  | sa o s a ih =>
    obtain ⟨v, hv⟩ := ih h
    exact ⟨_, by rw [evalE_sa, hv]; rfl⟩
  | cat a b iha ihb =>
    obtain ⟨ha, hb⟩ := h
    obtain ⟨va, hva⟩ := iha ha
    obtain ⟨vb, hvb⟩ := ihb hb
    exact ⟨_, by rw [evalE_cat, hva, hvb]; rfl⟩
  | mask a m ih =>
    obtain ⟨ha, hl⟩ := h
    obtain ⟨v, hv⟩ := ih ha
    exact ⟨_, by rw [evalE_mask, hv]; exact maskV_ok.mpr ⟨hl.trans (evalE_ok_shape hv).2.1.symm, rfl⟩⟩
  | idx a l ih =>
    obtain ⟨ha, hl⟩ := h
    obtain ⟨v, hv⟩ := ih ha
    exact ⟨_, by rw [evalE_idx, hv]; exact idxV_ok.mpr ⟨(evalE_ok_shape hv).2.1 ▸ hl, rfl⟩⟩

/-- **T03.2 (shape part).** An expression without length mismatch evaluates, to an array of the static
length and of the promoted element type; an expression WITH a mismatch (operands of different length, mask of
the wrong length, index out of range) is rejected. -/
theorem evalE_shape (env : Env α) (e : Expr α) :
    (WF env e → ∃ v, evalE env e = .ok v ∧ v.size = len env e ∧ v.isC = kind env e) ∧
    (¬ WF env e → ∃ m, evalE env e = .error m) := by
  refine ⟨fun h => ?_, fun h => ?_⟩
  · obtain ⟨v, hv⟩ := evalE_ok_of_WF h
    exact ⟨v, hv, (evalE_ok_shape hv).2⟩
  · cases he : evalE env e with
    | error m => exact ⟨m, rfl⟩
    | ok v => exact absurd (evalE_ok_shape he).1 h

end shapes


/-! ### T03.2 — values: the i-th element is the scalar expression at i, under the field formulas of ℂ -/

/-- T03.3: element i of `a[mask]` is `a[p_i]`, `p_i` the i-th designated position -/
theorem maskV_elem {v u : Val ℝ} {m : List Bool} (h : maskV v m = .ok u) (i : Nat) (hi : i < u.size) :
    elemC u i = elemC v ((trues m)[i]?.getD 0) := by
  obtain ⟨hm, rfl⟩ := maskV_ok.mp h
  cases v <;> simp only [elemC] <;> rw [getD_sel _ hm hi]

/-- T03.3: element i of `a[idx]` is `a[idx[i]]` -/
theorem idxV_elem {v u : Val ℝ} {l : List Int} (h : idxV v l = .ok u) (i : Nat) (hi : i < u.size) :
    elemC u i = elemC v (l[i]?.getD 0).toNat := by
  rw [(idxV_shape h).1] at hi
  rw [(idxV_ok.mp h).2]
  cases v <;> simp only [gatherV, elemC] <;>
    rw [getD_map (d := 0) hi, List.getD_eq_getElem?_getD, List.getElem?_eq_getElem hi, Option.getD_some]
  · rw [fn_ofInt, Int.cast_zero]
  · rw [castC, fn_ofInt, Int.cast_zero]

/-- the scalar expression at index `i`: what the program denotes element-wise, as a complex number
    computed with the field operations of ℂ (reals embedded) -/
noncomputable def den (env : Env ℝ) : Expr ℝ → Nat → ℂ
  | .var k, i => match env[k]? with
    | some v => elemC v i
    | none => 0
  | .lit v, i => elemC v i
  | .neg e, i => - den env e i
  | .pos e, i => den env e i
  | .aa o a b, i => fop o (den env a i) (den env b i)
  | .as o a s, i => fop o (den env a i) (scC s)
  | .sa o s a, i => fop o (scC s) (den env a i)
  | .cat a b, i => if i < len env a then den env a i else den env b (i - len env a)
  | .mask a m, i => den env a ((trues m)[i]?.getD 0)
  | .idx a l, i => den env a (l[i]?.getD 0).toNat

/-- no division by zero anywhere (each vanishing denominator is an input class of the harness instead) -/
def DivOk (env : Env ℝ) : Expr ℝ → Prop
  | .var _ => True
  | .lit _ => True
  | .neg e => DivOk env e
  | .pos e => DivOk env e
  | .aa o a b => DivOk env a ∧ DivOk env b ∧ (o = .div → ∀ i, i < len env b → den env b i ≠ 0)
  | .as o a s => DivOk env a ∧ (o = .div → scC s ≠ 0)
  | .sa o _ a => DivOk env a ∧ (o = .div → ∀ i, i < len env a → den env a i ≠ 0)
  | .cat a b => DivOk env a ∧ DivOk env b
  | .mask a _ => DivOk env a
  | .idx a _ => DivOk env a

/-- The value part without the side condition `DivOk` (see `ofReal_opR`). -/
theorem evalE_elem {env : Env ℝ} {e : Expr ℝ} {v : Val ℝ} (h : evalE env e = .ok v) {i : Nat} (hi : i < v.size) :
    elemC v i = den env e i := by
  induction e generalizing v i with
  | var k => simp only [den, evalE_var.mp h]
  | lit w =>
    obtain rfl := Except.ok.inj h
    rfl
  | neg e ih =>
    obtain ⟨w, he, rfl⟩ := map_ok.mp (evalE_neg env e ▸ h)
    rw [(negV_shape w).1] at hi
    rw [negV_elem w i hi, ih he hi]; rfl
  | pos e ih => exact ih h hi
  | aa o a b iha ihb =>
    obtain ⟨va, hea, h⟩ := bind_ok.mp (evalE_aa env o a b ▸ h)
    obtain ⟨vb, heb, h⟩ := bind_ok.mp h
    obtain ⟨h1, h2, _⟩ := arrArr_shape h
    rw [arrArr_elem h i hi, iha hea (h2 ▸ hi), ihb heb (h1 ▸ h2 ▸ hi)]; rfl
  | «as» o a s ih =>
    obtain ⟨w, he, rfl⟩ := map_ok.mp (evalE_as env o a s ▸ h)
    rw [(arrScalar_shape o w s).1] at hi
    rw [arrScalar_elem o w s i hi, ih he hi]; rfl
  | sa o s a ih =>
    obtain ⟨w, he, rfl⟩ := map_ok.mp (evalE_sa env o s a ▸ h)
    rw [(scalarArr_shape o s w).1] at hi
    rw [scalarArr_elem o s w i hi, ih he hi]; rfl
  | cat a b iha ihb =>
    obtain ⟨va, hea, h⟩ := bind_ok.mp (evalE_cat env a b ▸ h)
    obtain ⟨vb, heb, rfl⟩ := map_ok.mp h
    rw [(catV_shape va vb).1] at hi
    rw [catV_elem va vb i]
    simp only [den]
    rw [← (evalE_ok_shape hea).2.1]
    split
    · next hlt => exact iha hea hlt
    · next hge => exact ihb heb (Nat.sub_lt_left_of_lt_add (Nat.le_of_not_lt hge) hi)
  | mask a m ih =>
    obtain ⟨w, he, h⟩ := bind_ok.mp (evalE_mask env a m ▸ h)
    obtain ⟨hm, hs, _⟩ := maskV_shape h
    rw [maskV_elem h i hi]
    simp only [den]
    have hlt : i < (trues m).length := hs ▸ hi
    rw [List.getElem?_eq_getElem hlt, Option.getD_some]
    exact ih he (hm ▸ ((mem_trues m _).mp (List.getElem_mem hlt)).1)
  | idx a l ih =>
    obtain ⟨w, he, h⟩ := bind_ok.mp (evalE_idx env a l ▸ h)
    rw [idxV_elem h i hi]
    simp only [den]
    have hlt : i < l.length := (idxV_shape h).1 ▸ hi
    have hj := (idxV_ok.mp h).1 l[i] (List.getElem_mem hlt)
    rw [List.getElem?_eq_getElem hlt, Option.getD_some]
    exact ih he ((Int.toNat_lt hj.1).mpr hj.2)

/-- **T03.2 (value part), `eval_pointwise`.** Whenever an expression evaluates, the i-th element of the
result array denotes the scalar expression at i — the same operators applied to the i-th operands with the
field operations of ℂ (real operands embedded, i.e. real-with-complex promotes to complex); concatenation,
mask and index selection only move elements. -/
theorem eval_pointwise (env : Env ℝ) (e : Expr ℝ) :
    ∀ v, evalE env e = .ok v → DivOk env e → ∀ i, i < v.size → elemC v i = den env e i :=
  fun _ h _ _ hi => evalE_elem h hi


/-! ### compound forms, rejection leaves everything unchanged, value semantics (∀α) -/
section statements
variable {α : Type} [Add α] [Sub α] [Mul α] [Div α] [Neg α] [LT α] [LE α] [Fn α]
  [DecidableRel (· < · : α → α → Prop)] [DecidableRel (· ≤ · : α → α → Prop)]

/-- the variable a statement may modify -/
def target : Stmt α → Option Nat
  | .expr _ => none
  | .set k _ => some k
  | .copy k _ => some k
  | .ca _ k _ => some k
  | .cs _ k _ => some k
  | .cata k _ => some k

/-- `a op= e` computes exactly `a op e` (same element loop) and stores it in `a` — also when `e` mentions `a`
    (aliasing `a op= a`): the pointwise theorem therefore covers the compound forms. -/
theorem ca_eq_aa {env env' : Env α} {o : Op} {k : Nat} {e : Expr α} {v : Val α}
    (h : exec env (.ca o k e) = .ok (v, env')) :
    evalE env (.aa o (.var k) e) = .ok v ∧ env' = env.set k v := by
  simp only [exec] at h
  split at h
  · next t b hk he =>
    simp only [evalE, hk, he]
    split at h
    · cases h
    · split at h
      · next hu =>
        obtain ⟨rfl, rfl⟩ := Prod.mk.inj (Except.ok.inj h)
        exact ⟨hu, rfl⟩
      · cases h
  · cases h
  · cases h

/-- `a op= scalar` computes exactly `a op scalar` -/
theorem cs_eq_as {env env' : Env α} {o : Op} {k : Nat} {s : Sc α} {v : Val α}
    (h : exec env (.cs o k s) = .ok (v, env')) :
    evalE env (.as o (.var k) s) = .ok v ∧ env' = env.set k v := by
  simp only [exec] at h
  split at h
  · next t hk =>
    simp only [evalE, hk]
    split at h
    · cases h
    · obtain ⟨rfl, rfl⟩ := Prod.mk.inj (Except.ok.inj h)
      exact ⟨rfl, rfl⟩
  · cases h

/-- `a |= e` computes exactly `a | e` (also for `a |= a`) -/
theorem cata_eq_cat {env env' : Env α} {k : Nat} {e : Expr α} {v : Val α}
    (h : exec env (.cata k e) = .ok (v, env')) :
    evalE env (.cat (.var k) e) = .ok v ∧ env' = env.set k v := by
  simp only [exec] at h
  split at h
  · next t b hk he =>
    simp only [evalE, hk, he]
    split at h
    · cases h
    · obtain ⟨rfl, rfl⟩ := Prod.mk.inj (Except.ok.inj h)
      exact ⟨rfl, rfl⟩
  · cases h
  · cases h

/-- a compound assignment whose operands have different lengths is rejected -/
theorem ca_mismatch_rejected (env : Env α) (o : Op) (k : Nat) (e : Expr α) (t b : Val α)
    (hk : env[k]? = some t) (he : evalE env e = .ok b) (hs : t.size ≠ b.size) :
    ∃ m, exec env (.ca o k e) = .error m := by
  simp only [exec, hk, he]
  split
  · exact ⟨_, rfl⟩
  · obtain ⟨m, hm⟩ := arrArr_error_of_size o t b hs
    rw [hm]; exact ⟨_, rfl⟩

/-- frame property: a statement changes at most its target variable; in particular a non-compound
    expression statement (`target = none`) modifies none of its operands, and the number of variables is kept -/
theorem exec_frame {env env' : Env α} {s : Stmt α} {v : Val α} (h : exec env s = .ok (v, env')) :
    env'.length = env.length ∧ ∀ j, some j ≠ target s → env'[j]? = env[j]? := by
  have key : ∀ (k : Nat) (w : Val α), (env.set k w).length = env.length ∧ ∀ j, some j ≠ some k → (env.set k w)[j]? = env[j]? :=
    fun k w => ⟨List.length_set, fun j hj => List.getElem?_set_ne fun hkj => hj (congrArg some hkj.symm)⟩
  cases s with
  | expr e =>
    simp only [exec] at h
    split at h
    · obtain ⟨-, rfl⟩ := Prod.mk.inj (Except.ok.inj h)
      exact ⟨rfl, fun _ _ => rfl⟩
    · cases h
  | set k e =>
    simp only [exec] at h
    split at h
    · split at h
      · obtain ⟨-, rfl⟩ := Prod.mk.inj (Except.ok.inj h)
        exact key k _
      · cases h
    · cases h
    · cases h
  | copy k j =>
    simp only [exec] at h
    split at h
    · split at h
      · obtain ⟨-, rfl⟩ := Prod.mk.inj (Except.ok.inj h)
        exact key k _
      · cases h
    · cases h
  | ca o k e => rw [(ca_eq_aa h).2]; exact key k v
  | cs o k s => rw [(cs_eq_as h).2]; exact key k v
  | cata k e => rw [(cata_eq_cat h).2]; exact key k v

/-- a statement that throws leaves the whole environment unchanged: the program continues with the old one -/
theorem run_error_unchanged (env : Env α) (s : Stmt α) (rest : List (Stmt α)) (m : String)
    (h : exec env s = .error m) : run env (s :: rest) = (.error m :: (run env rest).1, (run env rest).2) := by
  simp only [run, h]

/-- a copy is independent of its source: after `b = T(a)` (copy constructor) nothing done to `b`
    changes `a`, and nothing done to `a` changes `b` -/
theorem copy_independent {env env1 env2 : Env α} {k j : Nat} {s : Stmt α} {v v' : Val α}
    (hc : exec env (.copy k j) = .ok (v, env1)) (hs : exec env1 s = .ok (v', env2)) (hkj : k ≠ j) :
    (target s = some k → env2[j]? = env[j]?) ∧ (target s = some j → env2[k]? = env1[k]?) := by
  have hjk : some j ≠ some k := fun h => hkj (Option.some.inj h).symm
  exact ⟨fun ht => ((exec_frame hs).2 j (ht ▸ hjk)).trans ((exec_frame hc).2 j hjk),
    fun ht => (exec_frame hs).2 k (ht ▸ hjk.symm)⟩

end statements


/-! ### T03.3 (continued): `|`, `zeropad`, `complex/real/imag/conj` builders -/
section builders
variable {α : Type} [Add α] [Sub α] [Mul α] [Div α] [Neg α] [LT α] [LE α] [Fn α]
  [DecidableRel (· < · : α → α → Prop)] [DecidableRel (· ≤ · : α → α → Prop)]

/-- `a | b` is the elements of `a` followed by the elements of `b`, real parts promoted (`im = 0`) when the other side is complex -/
theorem catV_spec (a b : List α) (x y : List (Cx α)) :
    catV (.r a) (.r b) = .r (a ++ b) ∧ catV (.c x) (.c y) = .c (x ++ y) ∧
    catV (.r a) (.c y) = .c (a.map castC ++ y) ∧ catV (.c x) (.r b) = .c (x ++ b.map castC) :=
  ⟨rfl, rfl, rfl, rfl⟩

/-- boolean-mask selection on an array value: accepted iff the mask is as long as the array, and then
    exactly the elements at the designated positions `trues m`, in increasing order -/
theorem maskV_spec (d : α) (a : List α) (m : List Bool) :
    (m.length = a.length → maskV (.r a) m = .ok (.r ((trues m).map (fun j => a.getD j d)))) ∧
    (m.length ≠ a.length → ∃ msg, maskV (.r a) m = .error msg) :=
  ⟨fun h => (if_neg (not_not.mpr h)).trans (congrArg (fun l => Except.ok (Val.r l)) (sel_eq d a m h)), fun h => ⟨_, if_pos h⟩⟩

theorem catV_nil (v : Val α) : catV v (.r []) = v := by
  cases v
  · exact congrArg Val.r (List.append_nil _)
  · exact congrArg Val.c (List.append_nil _)

/-- `zeropad(x, n)`: rejected iff `n` is smaller than the length; otherwise zeros are appended up to length `n` -/
theorem zeropad_eq (v : Val α) (n : Int) :
    zeropad v n = if (v.size : Int) > n then .error "padding size error"
      else .ok (catV v (.r (List.replicate (n - v.size).toNat (Fn.ofInt 0)))) := by
  unfold zeropad
  refine if_congr Iff.rfl rfl ?_
  split
  · next h => rw [← h, Int.sub_self, Int.toNat_zero, List.replicate_zero, catV_nil]
  · rfl

/-- `zeropad(x, n)` of a real array: `x` followed by zeros up to length `n` -/
theorem zeropad_r (a : List α) (n : Int) :
    zeropad (.r a) n = if (a.length : Int) > n then .error "padding size error"
      else .ok (.r (a ++ List.replicate (n - a.length).toNat (Fn.ofInt 0))) := zeropad_eq (.r a) n

/-- `zeropad(x, n)` of a complex array (the zeros are `0 + 0i`) -/
theorem zeropad_c (a : List (Cx α)) (n : Int) :
    zeropad (.c a) n = if (a.length : Int) > n then .error "padding size error"
      else .ok (.c (a ++ List.replicate (n - a.length).toNat (castC (Fn.ofInt 0)))) :=
  (zeropad_eq (.c a) n).trans (by rw [catV, List.map_replicate]; rfl)

/-- `complex(re, im)`: rejected iff the lengths differ; otherwise `real` and `imag` give the parts back -/
theorem complexOf_spec (re im : List α) :
    (re.length = im.length → ∃ z, complexOf re im = .ok z ∧ realOf z = re ∧ imagOf z = im) ∧
    (re.length ≠ im.length → ∃ msg, complexOf re im = .error msg) := by
  refine ⟨fun h => ⟨_, if_neg (not_not.mpr h), ?_⟩, fun h => ⟨_, if_pos h⟩⟩
  induction re generalizing im with
  | nil => cases im with
    | nil => exact ⟨rfl, rfl⟩
    | cons y ys => cases h
  | cons x xs ih => cases im with
    | nil => cases h
    | cons y ys =>
      obtain ⟨h1, h2⟩ := ih ys (Nat.succ.inj h)
      exact ⟨congrArg (x :: ·) h1, congrArg (y :: ·) h2⟩

end builders

/-- `conj(x)` conjugates every element -/
theorem conjOf_toC (z : List (Cx ℝ)) : (conjOf z).map toC = (z.map toC).map (starRingEnd ℂ) := by
  simp only [conjOf, List.map_map]
  exact List.map_congr_left fun w _ => toC_conj w

/-- `complex(x)` embeds the reals -/
theorem castOf_toC (x : List ℝ) : (castOf x).map toC = x.map Complex.ofReal := by
  simp only [castOf, List.map_map]
  exact List.map_congr_left fun r _ => toC_castC r

/-! ### non-vacuity -/

/-- a real array divided by a complex array: hypotheses of the theorems hold, the result is complex,
    and element 1 is `4 / (1 + i)` -/
noncomputable def exEnv : Env ℝ := [.r [2, 4], .c [⟨0, 1⟩, ⟨1, 1⟩]]
noncomputable def exE : Expr ℝ := .aa .div (.var 0) (.var 1)

example : WF exEnv exE := ⟨Nat.zero_lt_two, Nat.one_lt_two, rfl⟩

/-- non-vacuity: the hypotheses of `eval_pointwise` hold at a concrete program containing a real-array / complex-array quotient -/
theorem exE_divOk : DivOk exEnv exE := by
  refine ⟨trivial, trivial, fun _ i hi => ?_⟩
  have : i = 0 ∨ i = 1 := Nat.le_one_iff_eq_zero_or_eq_one.mp (Nat.le_of_lt_succ hi)
  -- both divisors have imaginary part 1
  rcases this with rfl | rfl <;> exact fun h => one_ne_zero (congrArg Complex.im h)

example : ∃ v, evalE exEnv exE = .ok v ∧ v.isC = true ∧ v.size = 2 ∧ elemC v 1 = 4 / (1 + Complex.I) := by
  refine ⟨_, rfl, rfl, rfl, ?_⟩
  rw [eval_pointwise exEnv exE _ rfl exE_divOk 1 (by decide)]
  show ((4 : ℝ) : ℂ) / toC ⟨1, 1⟩ = _
  rw [Complex.ofReal_ofNat]
  congr 1
  apply Complex.ext <;> simp

/-- operands of different length are rejected -/
example : ∃ m, evalE ([.r [1, 2], .r [1]] : Env ℝ) (.aa .add (.var 0) (.var 1)) = .error m :=
  (evalE_shape _ _).2 fun h => absurd h.2.2 (by decide)

/-- mask and index-list selection on a concrete array -/
example : trues [true, false, true, true] = [0, 2, 3] := rfl
example : sel [10, 20, 30, 40] [true, false, true, true] = [10, 30, 40] := rfl
example : gatherL 0 [10, 20, 30] [2, 0, 2] = .ok [30, 10, 30] := rfl
example : gatherL 0 [10, 20, 30] [2, 3] = .error "index must not exceed the size of the vector" := rfl
example : gatherL 0 [10, 20, 30] [-1] = .error "index must not exceed the size of the vector" := rfl

end Dsp.C03
