import DspVerif.Lib.C02Model
import DspVerif.Lib.Guard
/-!
# C02 — inverse transforms invert the forward transforms

Theorems over the executable model `Model/Ifft.lean` (`lib/fft/ifft.cpp`, `lib/stft.cpp`), exact arithmetic (`ℝ`/`ℂ`) or
structural (every scalar type).  The forward transforms enter through the hypotheses `IsDft fwd` / `IsRDft rfwd`
("the forward plan computes the DFT", the statement of property C01 for `Fft.fftC` / `Fft.fftR`); both are satisfiable
(`isDft_exists`, `isRDft_exists`), and `*_model` specialise the theorems to the functions the driver runs.  Every function
hands ONE size to its plan, so the working theorems ask for the hypothesis at that size only (`IsDftAt fwd n` / `IsRDftAt rfwd n`).

Floating-point rounding is not modelled; the reconstruction tolerances are measured by the oracle of `harness/c02.cpp`.
-/
namespace Dsp
namespace C02
open Dsp.Ifft Dsp.C07

/-! ## T02.1 `ifft` -/

/-- T02.1: `IfftPlan::solve` (scale, conj, fft, conj) computes the inverse DFT `(1/n) Σ_k X k · ω^{-kt}` for every length `n ≥ 1`,
given that the forward plan computes the DFT -/
theorem ifft_eq_idft (fwd : Nat → Vec ℝ → Vec ℝ) (X : Vec ℝ) (hF : IsDftAt fwd X.size) (hX : 1 ≤ X.size) :
    ∃ y, ifftWith fwd X = .ok y ∧ y.size = X.size ∧ ∀ t < X.size, seq y t = idft X.size (seq X) t := by
  refine ⟨ifftCore fwd X, ?_, ifftCore_size fwd X, ifftCore_eq_idft fwd X hF⟩
  unfold ifftWith; rw [if_neg (by omega)]

/-- T02.1 (clause "for every n ≥ 1, ifft(fft(x)) reproduces x"): exact arithmetic, equality of arrays -/
theorem ifft_fft (fwd : Nat → Vec ℝ → Vec ℝ) (hF : IsDft fwd) (x : Vec ℝ) (hx : 1 ≤ x.size) :
    ifftWith fwd (fwd x.size x) = .ok x := Ifft.ifft_fft fwd hF x hx

/-- T02.1 (the other composition): `fft(ifft(X)) = X` for every `n ≥ 1` -/
theorem fft_ifft (fwd : Nat → Vec ℝ → Vec ℝ) (X : Vec ℝ) (hF : IsDftAt fwd X.size) (hX : 1 ≤ X.size) :
    ∃ y, ifftWith fwd X = .ok y ∧ y.size = X.size ∧ fwd X.size y = X := by
  obtain ⟨hs, hv⟩ := hF (ifftCore fwd X) (ifftCore_size fwd X)
  refine ⟨ifftCore fwd X, ?_, ifftCore_size fwd X, vec_ext _ _ hs fun i hi => Cx.toC_injective ?_⟩
  · unfold ifftWith; rw [if_neg (by omega)]
  · rw [hs] at hi
    rw [hv i hi, dft_congr X.size _ (idft X.size (seq X)) (ifftCore_eq_idft fwd X hF), dft_idft _ (by omega) _ _ hi]
    rfl

/-- the excluded point `n = 0`: the empty input is rejected (`FftPlan(0)` throws) — every scalar type -/
theorem ifft_empty {α : Type} [Mul α] [Div α] [Neg α] [Fn α] (fwd : Nat → Vec α → Vec α) : ∃ e, ifftWith fwd #[] = .error e := ⟨_, rfl⟩

/-! ## T02.2 the coefficient table of `IfftPlanR` -/

/-- T02.2: for EVERY even `n` (the direct loop for `4 ∤ n` and the quarter-wave fill for `4 ∣ n`) cell `i < n/2` of
`_irfft_coeffs(n)` is `exp(+2πi·i/n) = ω_n^{-i}` -/
theorem irfftCoeffs_eq (n i : ℕ) (hn : n % 2 = 0) (hi : i < n / 2) :
    Cx.toC (irfftCoeff (α := ℝ) n i) = (ω n i)⁻¹ := irfftCoeff_eq n i hn hi

/-- … as real and imaginary parts -/
theorem irfftCoeffs_re_im (n i : ℕ) (hn : n % 2 = 0) (hi : i < n / 2) :
    (irfftCoeff (α := ℝ) n i).re = Real.cos (2 * Real.pi * i / n) ∧
    (irfftCoeff (α := ℝ) n i).im = Real.sin (2 * Real.pi * i / n) := irfftCoeff_re_im n i hn hi

/-! ## T02.3 / T02.4 `irfft` -/

section generic
variable {α : Type} [Add α] [Sub α] [Mul α] [Div α] [Neg α] [Fn α]

/-- `IfftPlanR::solve` reads the bins `0 … n/2` only -/
theorem irfftCore_congr_low (fwd : Nat → Vec α → Vec α) (n : ℕ) (a b : Vec α) (h : ∀ i, i ≤ n / 2 → rd a i = rd b i) :
    irfftCore fwd n a = irfftCore fwd n b := by
  have hz : irfftZ n a = irfftZ n b := by
    unfold irfftZ
    exact mk_congr _ _ _ fun i hi => by simp only [h i (Nat.le_of_lt hi), h (n / 2 - i) (Nat.sub_le _ _)]
  unfold irfftCore
  rw [hz]

omit [Add α] [Sub α] [Mul α] [Div α] [Neg α] in
theorem rd_extract_low (x : Vec α) (m i : ℕ) (hi : i < m) : rd (x.extract 0 m) i = rd x i := by
  unfold rd
  rw [Array.getD_eq_getD_getElem?, Array.getD_eq_getD_getElem?, Array.getElem?_extract]
  by_cases h : i < x.size
  · rw [if_pos (by omega), Nat.zero_add]
  · rw [if_neg (by omega), Array.getElem?_eq_none (by omega)]

theorem size_irfftCore (fwd : Nat → Vec α → Vec α) (n : ℕ) (X : Vec α) : (irfftCore fwd n X).size = n := size_mkR _ _

theorem irfftWith_ok (fwd : Nat → Vec α → Vec α) (n : ℕ) (hn : n % 2 = 0) (h2 : 2 ≤ n) (X : Vec α)
    (hX : X.size = n ∨ X.size = n / 2 + 1) : irfftWith fwd n X = .ok (irfftCore fwd n X) := by
  unfold irfftWith
  rw [if_neg (Nat.not_lt.mpr h2), if_neg (not_not.mpr hn), if_neg fun h => hX.elim h.1 h.2]

/-- T02.3 (both input forms, every scalar type): `irfft(X, n)` returns the same signal whether it is given all `n` bins or
only the first `n/2 + 1` — the two inputs only have to agree on the bins `0 … n/2`. -/
theorem irfft_forms_agree (fwd : Nat → Vec α → Vec α) (n : ℕ) (hn : n % 2 = 0) (h2 : 2 ≤ n) (Xh X : Vec α)
    (hXh : Xh.size = n / 2 + 1) (hX : X.size = n) (hlow : ∀ i, i ≤ n / 2 → rd Xh i = rd X i) :
    irfftWith fwd n Xh = irfftWith fwd n X ∧ ∃ r, irfftWith fwd n X = .ok r := by
  rw [irfftWith_ok fwd n hn h2 Xh (.inr hXh), irfftWith_ok fwd n hn h2 X (.inl hX), irfftCore_congr_low fwd n Xh X hlow]
  exact ⟨rfl, _, rfl⟩

/-- … in particular for the first `n/2 + 1` bins of the same array -/
theorem irfft_half_eq_full (fwd : Nat → Vec α → Vec α) (n : ℕ) (hn : n % 2 = 0) (h2 : 2 ≤ n) (X : Vec α) (hX : X.size = n) :
    irfftWith fwd n (X.extract 0 (n / 2 + 1)) = irfftWith fwd n X :=
  (irfft_forms_agree fwd n hn h2 _ X (by rw [Array.size_extract]; omega) hX (fun i hi => rd_extract_low X _ i (by omega))).1

/-- T02.4: an odd transform size is rejected, whatever the input -/
theorem irfft_odd (fwd : Nat → Vec α → Vec α) (n : ℕ) (hn : n % 2 = 1) (X : Vec α) :
    ∃ e, irfftWith fwd n X = .error e := by
  unfold irfftWith
  by_cases h : n < 2
  · exact ⟨_, if_pos h⟩
  · rw [if_neg h, if_pos (by omega)]; exact ⟨_, rfl⟩

/-- … and so is an input that has neither `n` nor `n/2 + 1` bins -/
theorem irfft_wrong_size (fwd : Nat → Vec α → Vec α) (n : ℕ) (X : Vec α) (h1 : X.size ≠ n) (h2 : X.size ≠ n / 2 + 1) :
    ∃ e, irfftWith fwd n X = .error e := by
  unfold irfftWith
  by_cases h : n < 2
  · exact ⟨_, if_pos h⟩
  · rw [if_neg h]
    by_cases hp : n % 2 ≠ 0
    · exact ⟨_, if_pos hp⟩
    · rw [if_neg hp, if_pos ⟨h1, h2⟩]; exact ⟨_, rfl⟩

end generic

/-- the clause of `IsRDft` at one size (`stft` calls its real plan at `nfft` only) -/
def IsRDftAt (rfwd : Nat → Array ℝ → Vec ℝ) (n : ℕ) : Prop :=
  ∀ x : Array ℝ, x.size = n → (rfwd n x).size = n ∧ ∀ k < n, Cx.toC (rd (rfwd n x) k) = dft n (seqR x) k

/-- `rfwd n` computes the `n`-point DFT of every real `n`-vector (what `Props/C01` proves of `Fft.fftR lit`) -/
def IsRDft (rfwd : Nat → Array ℝ → Vec ℝ) : Prop :=
  ∀ n (x : Array ℝ), x.size = n → (rfwd n x).size = n ∧ ∀ k < n, Cx.toC (rd (rfwd n x) k) = dft n (seqR x) k

/-- T02.3: for every even `n` and every Hermitian spectrum `X`, `irfft(X, n)` is the real signal whose `n`-point
transform is `X` (the inverse DFT, which is real) -/
theorem irfft_eq (fwd : Nat → Vec ℝ → Vec ℝ) (hF : IsDft fwd) (n : ℕ) (hn : n % 2 = 0) (h2 : 2 ≤ n) (X : Vec ℝ) (hX : X.size = n)
    (hsym : ∀ k < n, seq X ((n - k) % n) = (starRingEnd ℂ) (seq X k)) :
    ∃ r, irfftWith fwd n X = .ok r ∧ r.size = n ∧ ∀ t < n, ((rdR r t : ℝ) : ℂ) = idft n (seq X) t :=
  ⟨_, irfftWith_ok fwd n hn h2 X (.inl hX), size_irfftCore .., irfftCore_eq fwd n (hF _) hn h2 X hsym⟩

/-- `IfftPlanR::solve` applied to the transform of a real signal `x` returns `x`: the transform of a real signal is Hermitian, so
the output is its inverse DFT, and that is `x` -/
theorem irfftCore_of_dft (fwd : Nat → Vec ℝ → Vec ℝ) (n : ℕ) (hF : IsDftAt fwd (n / 2)) (hn : n % 2 = 0) (h2 : 2 ≤ n)
    (x : Array ℝ) (hx : x.size = n) (X : Vec ℝ) (hXv : ∀ k < n, Cx.toC (rd X k) = dft n (seqR x) k) :
    irfftCore fwd n X = x := by
  have hsym : ∀ k < n, seq X ((n - k) % n) = (starRingEnd ℂ) (seq X k) := by
    intro k hk
    unfold seq
    rw [hXv k hk, hXv _ (Nat.mod_lt _ (by omega))]
    rw [dft_mod n (by omega)]
    exact (Complex.conj_conj _).symm.trans (congrArg _ (dft_conj_symm n (by omega) (fun m => rdR x m) k hk.le))
  apply arr_ext _ _ (by rw [size_irfftCore, hx])
  intro t ht
  rw [size_irfftCore] at ht
  apply Complex.ofReal_injective
  rw [irfftCore_eq fwd n hF hn h2 X hsym t ht, idft_congr n (seq X) (dft n (seqR x)) hXv, idft_dft n (by omega) _ t ht]
  rfl

/-- T02.3 (`irfft_rfft`): for every even `n`, `irfft` applied to the transform of a real signal `x` returns `x` — from all
`n` bins and from the first `n/2 + 1` alike (exact arithmetic, as arrays) -/
theorem irfft_of_dft (fwd : Nat → Vec ℝ → Vec ℝ) (n : ℕ) (hF : IsDftAt fwd (n / 2)) (hn : n % 2 = 0) (h2 : 2 ≤ n)
    (x : Array ℝ) (hx : x.size = n) (X : Vec ℝ) (hXs : X.size = n) (hXv : ∀ k < n, Cx.toC (rd X k) = dft n (seqR x) k) :
    irfftWith fwd n X = .ok x ∧ irfftWith fwd n (X.extract 0 (n / 2 + 1)) = .ok x := by
  rw [irfft_half_eq_full fwd n hn h2 X hXs, irfftWith_ok fwd n hn h2 X (.inl hXs), irfftCore_of_dft fwd n hF hn h2 x hx X hXv]
  exact ⟨rfl, rfl⟩

theorem irfft_rfft (fwd : Nat → Vec ℝ → Vec ℝ) (rfwd : Nat → Array ℝ → Vec ℝ) (hF : IsDft fwd) (hR : IsRDft rfwd)
    (x : Array ℝ) (hn : x.size % 2 = 0) (h2 : 2 ≤ x.size) :
    irfftWith fwd x.size (rfwd x.size x) = .ok x ∧
    irfftWith fwd x.size ((rfwd x.size x).extract 0 (x.size / 2 + 1)) = .ok x := by
  obtain ⟨hs, hv⟩ := hR x.size x rfl
  exact irfft_of_dft fwd x.size (hF _) hn h2 x rfl _ hs hv

/-! ## T02.5 the frequency ranges -/
section ranges
variable {α : Type} [Neg α] [Fn α]

/-- T02.5 (two-sided): `_convert_range_istft ∘ _convert_range_stft = id` — every scalar type, every `n` -/
theorem range_roundtrip_twosided (X : Vec α) (n : ℕ) (hX : X.size = n) :
    convertRangeIstft (convertRangeStft X n 1) n 1 = .ok X := Ifft.range_roundtrip_twosided X n hX

/-- T02.5 (centred): the two rotations are inverse index permutations for every even `n ≥ 2` -/
theorem range_roundtrip_centered (X : Vec α) (n : ℕ) (hn : n % 2 = 0) (h2 : 2 ≤ n) (hX : X.size = n) :
    convertRangeIstft (convertRangeStft X n 0) n 0 = .ok X := Ifft.range_roundtrip_centered X n hn h2 hX

/-- T02.5 (one-sided): the upper bins are rebuilt by conjugate symmetry, so the round trip is the identity on Hermitian frames -/
theorem range_roundtrip_onesided (X : Vec α) (n : ℕ) (hn : n % 2 = 0) (h2 : 2 ≤ n) (hX : X.size = n)
    (hsym : ∀ j, n / 2 < j → j < n → rd X j = Cx.conj (rd X (n - j))) :
    convertRangeIstft (convertRangeStft X n 2) n 2 = .ok X := Ifft.range_roundtrip_onesided X n hn h2 hX hsym

end ranges

/-! ## T02.7 / T02.6 `istft` -/

theorem eps_pos : (0 : ℝ) < (Ifft.eps : ℝ) := by
  unfold Ifft.eps; simp

theorem normGuard_of_lt {nseg : ℕ} {v : ℝ} (h : (nseg : ℝ) * Ifft.eps < v) : normGuard nseg v = v := by
  unfold normGuard
  rw [fn_ofNat, if_neg (not_le.mpr h)]

/-- T02.7 (the guard): whatever the accumulated weight `v` and the number of frames (`0` included), the value `istft` divides by
— `v <= nseg * eps() ? 1 : v` — is not zero -/
theorem normGuard_ne_zero (nseg : ℕ) (v : ℝ) : normGuard nseg v ≠ 0 := by
  have h0 : (0 : ℝ) ≤ nseg * Ifft.eps := mul_nonneg (Nat.cast_nonneg _) eps_pos.le
  by_cases h : (nseg : ℝ) * Ifft.eps < v
  · rw [normGuard_of_lt h]; exact (h0.trans_lt h).ne'
  · unfold normGuard
    rw [fn_ofNat, if_pos (not_lt.mp h), fn_ofNat, Nat.cast_one]
    exact one_ne_zero

theorem mul_div_normGuard (nseg : ℕ) (c : ℝ) {v : ℝ} (h : (nseg : ℝ) * Ifft.eps < v) : c * v / normGuard nseg v = c := by
  rw [normGuard_of_lt h, mul_div_assoc,
    div_self ((mul_nonneg (Nat.cast_nonneg _) eps_pos.le).trans_lt h).ne', mul_one]

theorem overlapAdd_zero (hop nwin : ℕ) (g : ℕ → ℕ → ℝ) (t : ℕ) : overlapAdd 0 hop nwin g t = 0 := by
  unfold overlapAdd; rw [List.range_zero, List.foldl_nil, fn_ofNat, Nat.cast_zero]

theorem overlapAdd_succ (n hop nwin : ℕ) (g : ℕ → ℕ → ℝ) (t : ℕ) :
    overlapAdd (n + 1) hop nwin g t =
      if n * hop ≤ t ∧ t < n * hop + nwin then overlapAdd n hop nwin g t + g n (t - n * hop) else overlapAdd n hop nwin g t := by
  unfold overlapAdd; rw [List.range_succ, List.foldl_append]; rfl

theorem overlapAdd_eq_mul (nseg hop nwin : ℕ) (c : ℝ) (g d : ℕ → ℕ → ℝ) (t : ℕ)
    (h : ∀ i < nseg, i * hop ≤ t → t < i * hop + nwin → g i (t - i * hop) = c * d i (t - i * hop)) :
    overlapAdd nseg hop nwin g t = c * overlapAdd nseg hop nwin d t := by
  induction nseg with
  | zero => rw [overlapAdd_zero, overlapAdd_zero, mul_zero]
  | succ n ih =>
    rw [overlapAdd_succ, overlapAdd_succ, ih fun i hi => h i (Nat.lt_succ_of_lt hi)]
    by_cases hc : n * hop ≤ t ∧ t < n * hop + nwin
    · rw [if_pos hc, if_pos hc, h n n.lt_succ_self hc.1 hc.2, mul_add]
    · rw [if_neg hc, if_neg hc]

/-- the accumulated window weight `norm_val[t]` of `istft` before the guard: `Σ_i win^(a+1)[t - i·hop]` over the frames covering `t` -/
noncomputable def weight (win : Array ℝ) (nseg hop method : ℕ) (t : ℕ) : ℝ :=
  overlapAdd nseg hop win.size (fun _ j => if method = 0 then rdR win j else rdR win j * rdR win j) t

theorem size_frame (x win : Array ℝ) (hop nfft i : ℕ) : (frame x win hop nfft i).size = nfft := size_mkR _ _

theorem rdR_frame (x win : Array ℝ) (hop nfft i j : ℕ) (hj : j < win.size) (hw : win.size ≤ nfft) :
    rdR (frame x win hop nfft i) j = rdR x (i * hop + j) * rdR win j := by
  unfold frame; rw [rdR_mkR_lt _ _ _ (by omega), if_pos hj]

theorem irfftCore_stft_frame (fwd : Nat → Vec ℝ → Vec ℝ) (rfwd : Nat → Array ℝ → Vec ℝ) (nfft range : ℕ)
    (hF : IsDftAt fwd (nfft / 2)) (hR : IsRDftAt rfwd nfft) (hn : nfft % 2 = 0) (h2 : 2 ≤ nfft) (hr : range ≤ 2) (f : Array ℝ) (hf : f.size = nfft) :
    irfftCore fwd nfft (convertRangeIstftCore (convertRangeStft (rfwd nfft f) nfft range) nfft range) = f := by
  obtain ⟨hs, hv⟩ := hR f hf
  rw [irfftCore_congr_low fwd nfft _ _ (Ifft.range_roundtrip_low _ nfft range hn h2 hs hr).2.2]
  exact irfftCore_of_dft fwd nfft hF hn h2 f hf _ hv

theorem stftWith_ok (rfwd : Nat → Array ℝ → Vec ℝ) (x win : Array ℝ) (overlap nfft range : ℕ)
    (hov : overlap < win.size) (hwin : win.size ≤ nfft) :
    ∃ S, stftWith rfwd x win overlap nfft range = .ok S ∧ S.size = numSeg x.size win.size overlap ∧
      ∀ i < S.size, S.getD i #[] = convertRangeStft (rfwd nfft (frame x win (win.size - overlap) nfft i)) nfft range := by
  unfold stftWith
  rw [if_neg (Nat.not_le.mpr hov), if_neg (by omega), if_neg fun h => Nat.not_lt.mpr hwin h.2]
  exact ⟨_, rfl, Array.size_ofFn, fun i hi => (getD_ofFn _ i _).trans (dif_pos (by rwa [Array.size_ofFn] at hi))⟩

theorem istftWith_ok (fwd : Nat → Vec ℝ → Vec ℝ) (xx : Array (Vec ℝ)) (win : Array ℝ) (overlap nfft range method : ℕ)
    (hov : overlap ≤ win.size) (hwin : win.size ≤ nfft) (hn : nfft % 2 = 0) (h2 : 2 ≤ nfft)
    (hall : ∀ i < xx.size, (xx.getD i #[]).size = frameLen nfft range) :
    istftWith fwd xx win overlap nfft range method = .ok (istftCore fwd xx win overlap nfft range method) := by
  unfold istftWith
  rw [if_neg (Nat.not_lt.mpr hov), if_neg (Nat.not_lt.mpr h2), if_neg (not_not.mpr hn),
    if_neg fun h => Nat.not_lt.mpr hwin h.2, if_neg]
  rw [not_not, Array.all_eq_true]
  intro i hi
  rw [beq_iff_eq, ← hall i hi, Array.getD_eq_getD_getElem?, Array.getElem?_eq_getElem hi, Option.getD_some]

theorem size_istftCore (fwd : Nat → Vec ℝ → Vec ℝ) (xx : Array (Vec ℝ)) (win : Array ℝ) (overlap nfft range method : ℕ) :
    (istftCore fwd xx win overlap nfft range method).size = outLen xx.size win.size (win.size - overlap) := size_mkR _ _

theorem rdR_istftCore (fwd : Nat → Vec ℝ → Vec ℝ) (xx : Array (Vec ℝ)) (win : Array ℝ) (overlap nfft range method t : ℕ)
    (ht : t < outLen xx.size win.size (win.size - overlap)) :
    rdR (istftCore fwd xx win overlap nfft range method) t =
      overlapAdd xx.size (win.size - overlap) win.size (fun i j =>
        rdR (irfftCore fwd nfft (convertRangeIstftCore (xx.getD i #[]) nfft range)) j * (if method = 0 then Fn.ofNat 1 else rdR win j)) t
      / normGuard xx.size (weight win xx.size (win.size - overlap) method t) := by
  unfold istftCore
  rw [rdR_mkR_lt _ _ _ ht]
  exact congrArg (· / _) ((overlapAdd_eq_mul _ _ _ 1 _ _ _ fun i hi _ _ => by rw [getD_ofFn, dif_pos hi, one_mul]).trans (one_mul _))

/-- T02.7 (`istft_finite`, clause "contains only finite values"): whenever `istft` accepts its arguments, the output has
`nwin + (nseg - 1)·hop` samples (`overlap` samples for `nseg = 0`) and EVERY one of them — the guard runs over all `xlen` samples — is a
quotient whose denominator is the guarded weight, which is never zero: no division by zero anywhere in `istft`,
for every window (zeros and negative taps included), overlap, range, method and list of frames. -/
theorem istft_finite (fwd : Nat → Vec ℝ → Vec ℝ) (xx : Array (Vec ℝ)) (win : Array ℝ) (overlap nfft range method : ℕ) (y : Array ℝ)
    (h : istftWith fwd xx win overlap nfft range method = .ok y) :
    y.size = outLen xx.size win.size (win.size - overlap) ∧
    ∀ t < y.size, ∃ num : ℝ,
      rdR y t = num / normGuard xx.size (weight win xx.size (win.size - overlap) method t) ∧
      normGuard xx.size (weight win xx.size (win.size - overlap) method t) ≠ 0 := by
  simp only [istftWith, guard_ok, Except.ok.injEq] at h
  obtain ⟨-, -, -, -, -, rfl⟩ := h
  refine ⟨size_istftCore .., fun t ht => ⟨_, rdR_istftCore _ _ _ _ _ _ _ t ?_, normGuard_ne_zero _ _⟩⟩
  rwa [size_istftCore] at ht

/-- `istft` of the frames `stft` makes of `x`, with no assumption on the weight: every output sample is `x[t]` times the
accumulated weight over the guarded weight (each covering frame contributes `x[t]·win^(a+1)[t - i·hop]`) -/
theorem istft_stft_weighted (fwd : Nat → Vec ℝ → Vec ℝ) (rfwd : Nat → Array ℝ → Vec ℝ)
    (x win : Array ℝ) (overlap nfft range method : ℕ) (hF : IsDftAt fwd (nfft / 2)) (hR : IsRDftAt rfwd nfft)
    (hov : overlap < win.size) (hwin : win.size ≤ nfft) (hn : nfft % 2 = 0) (h2 : 2 ≤ nfft) (hr : range ≤ 2) :
    ∃ S y, stftWith rfwd x win overlap nfft range = .ok S ∧ S.size = numSeg x.size win.size overlap ∧
      istftWith fwd S win overlap nfft range method = .ok y ∧
      y.size = outLen S.size win.size (win.size - overlap) ∧
      ∀ t < y.size, rdR y t = rdR x t * weight win S.size (win.size - overlap) method t /
        normGuard S.size (weight win S.size (win.size - overlap) method t) := by
  obtain ⟨S, hS, hsize, hget⟩ := stftWith_ok rfwd x win overlap nfft range hov hwin
  refine ⟨S, _, hS, hsize, istftWith_ok fwd S win overlap nfft range method hov.le hwin hn h2 fun i hi => ?_,
    size_istftCore .., fun t ht => ?_⟩
  · rw [hget i hi, size_convertRangeStft _ _ _ (hR _ (size_frame ..)).1]
  · rw [size_istftCore] at ht
    rw [rdR_istftCore _ _ _ _ _ _ _ t ht]
    congr 1
    apply overlapAdd_eq_mul
    intro i hi h1 h3
    have hj : t - i * (win.size - overlap) < win.size := by omega
    rw [hget i hi, irfftCore_stft_frame fwd rfwd nfft range hF hR hn h2 hr _ (size_frame ..), rdR_frame _ _ _ _ _ _ hj hwin,
      Nat.add_sub_cancel' h1]
    by_cases hm : method = 0
    · rw [if_pos hm, if_pos hm, fn_ofNat, Nat.cast_one, mul_one]
    · rw [if_neg hm, if_neg hm, mul_assoc]

/-- T02.6 (clause "istft(stft(x)) reproduces x on every sample where the accumulated window weight is non-zero"), exact arithmetic:
for EVERY window (no COLA assumption is needed), every overlap `< nwin`, `nwin ≤ nfft`, every even `nfft ≥ 2`, the three ranges and
both methods, `stft` accepts, produces `(nx - overlap) / hop` frames, `istft` accepts them and returns `nwin + (nseg-1)·hop` samples,
and `y[t] = x[t]` at every sample `t` whose accumulated weight `Σ_i win^(a+1)[t - i·hop]` passes the code's guard (`> nseg·eps`).
(The excluded samples are exactly those the guard replaces by `1`: there the code returns `Σ y·win^a`, see `istft_finite`.) -/
theorem istft_stft (fwd : Nat → Vec ℝ → Vec ℝ) (rfwd : Nat → Array ℝ → Vec ℝ) (hF : IsDft fwd) (hR : IsRDft rfwd)
    (x win : Array ℝ) (overlap nfft range method : ℕ)
    (hov : overlap < win.size) (hwin : win.size ≤ nfft) (hn : nfft % 2 = 0) (h2 : 2 ≤ nfft) (hr : range ≤ 2) :
    ∃ S y, stftWith rfwd x win overlap nfft range = .ok S ∧ S.size = numSeg x.size win.size overlap ∧
      istftWith fwd S win overlap nfft range method = .ok y ∧
      y.size = outLen S.size win.size (win.size - overlap) ∧
      ∀ t < y.size, (S.size : ℝ) * Ifft.eps < weight win S.size (win.size - overlap) method t → rdR y t = rdR x t := by
  obtain ⟨S, y, hS, hsize, hy, hlen, hval⟩ :=
    istft_stft_weighted fwd rfwd x win overlap nfft range method (hF _) (hR _) hov hwin hn h2 hr
  exact ⟨S, y, hS, hsize, hy, hlen, fun t ht hw => (hval t ht).trans (mul_div_normGuard _ _ hw)⟩

/-! ## the hypotheses are satisfiable, and the specialisation to the functions the driver runs -/

/-- a `cmplx_t` holding a complex number -/
def ofC (z : ℂ) : Cx ℝ := ⟨z.re, z.im⟩

theorem toC_ofC (z : ℂ) : Cx.toC (ofC z) = z := by apply Complex.ext <;> rfl

theorem exactDft_spec {β : Type} (s : β → ℕ → ℂ) (n : ℕ) (x : β) :
    (mk n fun k => ofC (dft n (s x) k)).size = n ∧ ∀ k < n, Cx.toC (rd (mk n fun k => ofC (dft n (s x) k)) k) = dft n (s x) k :=
  ⟨size_mk _ _, fun k hk => by rw [rd_mk_lt _ _ _ hk, toC_ofC]⟩

/-- `IsDft` is satisfiable (the exact DFT itself), so `ifft_fft`, `irfft_eq`, … are not vacuous -/
theorem isDft_exists : ∃ fwd, IsDft fwd := ⟨_, fun n x _ => exactDft_spec seq n x⟩

theorem isRDft_exists : ∃ rfwd, IsRDft rfwd := ⟨_, fun n x _ => exactDft_spec seqR n x⟩

section model
variable [Atan2 ℝ] (lit : Fft.Lits ℝ)

/-- T02.1 for the model the driver runs: given C01 (`Fft.fftC lit` computes the DFT), `ifft(fft(x)) = x` -/
theorem ifft_fft_model (hC01 : IsDft (Fft.fftC lit)) (x : Vec ℝ) (hx : 1 ≤ x.size) :
    Ifft.ifft lit (Fft.fftC lit x.size x) = .ok x := ifft_fft _ hC01 x hx

/-- T02.3 for the model the driver runs: given C01, `irfft(rfft(x), n) = x` from both input forms -/
theorem irfft_rfft_model (hC01 : IsDft (Fft.fftC lit)) (hC01r : IsRDft (Fft.fftR lit)) (x : Array ℝ) (hn : x.size % 2 = 0) (h2 : 2 ≤ x.size) :
    Ifft.irfft lit x.size (Fft.fftR lit x.size x) = .ok x ∧
    Ifft.irfft lit x.size ((Fft.fftR lit x.size x).extract 0 (x.size / 2 + 1)) = .ok x :=
  irfft_rfft _ _ hC01 hC01r x hn h2

/-- T02.6 for the model the driver runs -/
theorem istft_stft_model (hC01 : IsDft (Fft.fftC lit)) (hC01r : IsRDft (Fft.fftR lit))
    (x win : Array ℝ) (overlap nfft range method : ℕ)
    (hov : overlap < win.size) (hwin : win.size ≤ nfft) (hn : nfft % 2 = 0) (h2 : 2 ≤ nfft) (hr : range ≤ 2) :
    ∃ S y, Ifft.stft lit x win overlap nfft range = .ok S ∧ S.size = numSeg x.size win.size overlap ∧
      Ifft.istft lit S win overlap nfft range method = .ok y ∧
      y.size = outLen S.size win.size (win.size - overlap) ∧
      ∀ t < y.size, (S.size : ℝ) * Ifft.eps < weight win S.size (win.size - overlap) method t → rdR y t = rdR x t :=
  istft_stft _ _ hC01 hC01r x win overlap nfft range method hov hwin hn h2 hr

end model

/-! ## non-vacuity -/

/-- `ifft_fft` at a concrete 3-vector and the exact DFT -/
example : ∃ fwd, IsDft fwd ∧ ifftWith fwd (fwd 3 #[⟨1, 2⟩, ⟨0, -1⟩, ⟨5, 0⟩]) = .ok #[⟨1, 2⟩, ⟨0, -1⟩, ⟨5, 0⟩] := by
  obtain ⟨fwd, h⟩ := isDft_exists
  exact ⟨fwd, h, ifft_fft fwd h #[⟨1, 2⟩, ⟨0, -1⟩, ⟨5, 0⟩] (by decide)⟩

/-- `irfft_rfft` at a concrete real 4-vector: both input forms return it -/
example : ∃ fwd rfwd, IsDft fwd ∧ IsRDft rfwd ∧ irfftWith fwd 4 (rfwd 4 #[1, -2, 3, 5]) = .ok #[1, -2, 3, 5] := by
  obtain ⟨fwd, h⟩ := isDft_exists
  obtain ⟨rfwd, hr⟩ := isRDft_exists
  exact ⟨fwd, rfwd, h, hr, (irfft_rfft fwd rfwd h hr #[1, -2, 3, 5] (by decide) (by decide)).1⟩

/-- the odd size 3 is rejected -/
example (fwd : Nat → Vec ℝ → Vec ℝ) : ∃ e, irfftWith fwd 3 #[⟨1, 0⟩, ⟨2, 1⟩, ⟨2, -1⟩] = .error e := irfft_odd fwd 3 (by decide) _

/-- the table at `n = 8` (quarter-wave path), cell 3 and at `n = 6` (direct path), cell 2 -/
example : Cx.toC (irfftCoeff (α := ℝ) 8 3) = (ω 8 3)⁻¹ ∧ Cx.toC (irfftCoeff (α := ℝ) 6 2) = (ω 6 2)⁻¹ :=
  ⟨irfftCoeffs_eq 8 3 (by decide) (by decide), irfftCoeffs_eq 6 2 (by decide) (by decide)⟩

theorem weight_rect : weight #[1, 1] 2 1 0 1 = 2 := by
  unfold weight
  rw [overlapAdd_succ, overlapAdd_succ, overlapAdd_zero]
  norm_num [rdR]

theorem two_eps_lt_two : (2 : ℝ) * Ifft.eps < 2 := by
  unfold Ifft.eps; rw [fn_ofNat, fn_ofNat]; norm_num

/-- the weight hypothesis of `istft_stft` is met: rectangular window of 2, hop 1, two frames, sample 1 is covered twice -/
example : ((2 : ℕ) : ℝ) * Ifft.eps < weight #[1, 1] 2 1 0 1 := by
  rw [weight_rect, Nat.cast_ofNat]; exact two_eps_lt_two

/-- … and the guard's other branch: with no frame at all the weight is `0`, the guard gives `1` (without it the quotient would be `0/0`) -/
example : normGuard 0 (weight #[1, 1] 0 1 0 0) = 1 := by
  rw [weight, overlapAdd_zero]
  unfold normGuard
  rw [fn_ofNat, if_pos (by rw [Nat.cast_zero, zero_mul]), fn_ofNat, Nat.cast_one]

end C02
end Dsp
