import DspVerif.Props.C12
import Mathlib.LinearAlgebra.Matrix.NonsingularInverse
import Mathlib.LinearAlgebra.Matrix.DotProduct
import Mathlib.Data.Matrix.Mul
import Mathlib.Algebra.BigOperators.Fin

/-!
# C12, further clauses

* **T12.4 `rls_is_wls`** (ℝ): the real `RlsFilter` reproduces the exponentially weighted, diagonally regularised
  least-squares solution.  The flat `_p[i*n+k]` model is read as a `Matrix (Fin n) (Fin n) ℝ`; Sherman–Morrison gives the
  per-sample invariant, induction over the samples the statement from ANY admissible state, then for a freshly constructed
  filter (the constructor sets `_p = diag_load · I`, so `R₀ = diag_load⁻¹ · I`) and for calls of `RlsFilter::process`.
  Hypotheses: `λ = _mu > 0`, `diag_load > 0` only; that no gain denominator `λ + uᵀ P u` vanishes is PROVED (it is
  positive), not assumed.
* **T12.3 over ℂ**: the identity of `nlms_misalignment_step` with `|e|²`, `Σ|r_i|²`, monotone decrease for `0 < μ < 2`,
  along trajectories and for `LmsFilter<cmplx_t>::process`.
  Conjugation convention of the code: output `y = Σ w_i r_i` (none), update `w' = w·leak + μ e conj(r)/(‖r‖²+ε)`.
Floating-point rounding is not modelled (exact `ℝ`).
-/
set_option linter.unusedSectionVars false
set_option linter.unusedSimpArgs false

namespace Dsp.C12
open Matrix Dsp.Adaptive Dsp.Adaptive.Mixed

section sm
variable {n : Nat}

/-- Sherman–Morrison, as the code computes it (no symmetry of `P` used) -/
theorem sm_inv (P R : Matrix (Fin n) (Fin n) ℝ) (u : Fin n → ℝ) (lam : ℝ) (hPR : P * R = 1) (hl : lam ≠ 0)
    (hden : lam + (u ᵥ* P) ⬝ᵥ u ≠ 0) :
    ((1 / lam) • (P - vecMulVec ((1 / (lam + (u ᵥ* P) ⬝ᵥ u)) • (P *ᵥ u)) (u ᵥ* P))) * (lam • R + vecMulVec u u) = 1 := by
  rw [Matrix.smul_mul, Matrix.sub_mul, Matrix.mul_add, Matrix.mul_add, Matrix.mul_smul, hPR, mul_vecMulVec,
    vecMulVec_mul, vecMulVec_mul, vecMul_smul, vecMul_vecMul, hPR, vecMul_one, vecMul_vecMulVec]
  -- with `q = P u`, `s = uᵀ P u`: `λ⁻¹ (λ I + q uᵀ − (λ+s)⁻¹ (λ + s) q uᵀ)`
  rw [smul_vecMulVec, smul_vecMulVec, vecMulVec_smul, vecMulVec_smul, ← smul_add, ← add_smul, smul_smul,
    one_div_mul_cancel hden, one_smul, add_sub_cancel_right, smul_smul, one_div_mul_cancel hl, one_smul]

/-- the gain is mapped to the regressor by the new correlation matrix -/
theorem sm_gain (P R : Matrix (Fin n) (Fin n) ℝ) (u : Fin n → ℝ) (lam : ℝ) (hPR : P * R = 1)
    (hden : lam + (u ᵥ* P) ⬝ᵥ u ≠ 0) :
    (lam • R + vecMulVec u u) *ᵥ ((1 / (lam + (u ᵥ* P) ⬝ᵥ u)) • (P *ᵥ u)) = u := by
  have hRP : R * P = 1 := mul_eq_one_comm.mp hPR
  rw [mulVec_smul, add_mulVec, smul_mulVec, mulVec_mulVec, hRP, one_mulVec, vecMulVec_mulVec,
    dotProduct_mulVec, op_smul_eq_smul, ← add_smul, smul_smul, one_div_mul_cancel hden, one_smul]

/-- `uᵀ P u ≥ 0` when the quadratic form of `R = P⁻¹` is non-negative -/
theorem sm_den_nonneg (P R : Matrix (Fin n) (Fin n) ℝ) (u : Fin n → ℝ) (hPR : P * R = 1)
    (hpsd : ∀ v : Fin n → ℝ, 0 ≤ v ⬝ᵥ R *ᵥ v) : 0 ≤ (u ᵥ* P) ⬝ᵥ u := by
  have hRP : R * P = 1 := mul_eq_one_comm.mp hPR
  have h := hpsd (P *ᵥ u)
  rw [mulVec_mulVec, hRP, one_mulVec, dotProduct_comm, dotProduct_mulVec] at h
  exact h

theorem quad_vecMulVec (u v : Fin n → ℝ) : v ⬝ᵥ vecMulVec u u *ᵥ v = (v ⬝ᵥ u) ^ 2 := by
  rw [vecMulVec_mulVec, dotProduct_smul, MulOpposite.smul_eq_mul_unop, MulOpposite.unop_op, dotProduct_comm u v, sq]

theorem quad_smul_add (c : ℝ) (R S : Matrix (Fin n) (Fin n) ℝ) (v : Fin n → ℝ) :
    v ⬝ᵥ (c • R + S) *ᵥ v = c * (v ⬝ᵥ R *ᵥ v) + v ⬝ᵥ S *ᵥ v := by
  rw [add_mulVec, smul_mulVec, dotProduct_add, dotProduct_smul, smul_eq_mul]

theorem quad_smul_one (c : ℝ) (v : Fin n → ℝ) : v ⬝ᵥ (c • (1 : Matrix (Fin n) (Fin n) ℝ)) *ᵥ v = c * (v ⬝ᵥ v) := by
  rw [smul_mulVec, one_mulVec, dotProduct_smul, smul_eq_mul]

theorem dotProduct_self_nonneg (v : Fin n → ℝ) : 0 ≤ v ⬝ᵥ v := Finset.sum_nonneg fun i _ => mul_self_nonneg (v i)

end sm

section bridge

/-- the `n × n` matrix held row-major in the flat array `_p` -/
noncomputable def Pm (n : Nat) (p : Array ℝ) : Matrix (Fin n) (Fin n) ℝ := Matrix.of fun i k => rlsPm ℝ n p i.val k.val

/-- the first `n` entries of an array as a vector -/
noncomputable def vecOf (n : Nat) (a : Array ℝ) : Fin n → ℝ := fun i => rd (ρ := ℝ) a i.val

theorem acc_real_fin (n : Nat) (f : Nat → ℝ) : acc (zero ℝ : ℝ) n f = ∑ i : Fin n, f i.val := by
  rw [zero_real, acc_eq_sum, Finset.sum_range]

theorem rlsPu_eq (n : Nat) (p u : Array ℝ) (i : Fin n) : rlsPu ℝ n p u i.val = (Pm n p *ᵥ vecOf n u) i := by
  unfold rlsPu; rw [acc_real_fin]; rfl

theorem rlsUP_eq (n : Nat) (p u : Array ℝ) (i : Fin n) : rlsUP ℝ n p u i.val = (vecOf n u ᵥ* Pm n p) i := by
  unfold rlsUP; rw [acc_real_fin]; rfl

theorem rlsDen_eq (P : RlsP ℝ) (p u : Array ℝ) :
    rlsDen P p u = P.mu + (vecOf P.n u ᵥ* Pm P.n p) ⬝ᵥ vecOf P.n u := by
  unfold rlsDen; rw [acc_real_fin]
  simp only [rlsUP_eq]; rfl

theorem dot_eq (n : Nat) (w u : Array ℝ) : dot (ρ := ℝ) n w u = vecOf n w ⬝ᵥ vecOf n u := by
  unfold dot; rw [acc_real_fin]; rfl

/-- one unlocked sample of `RlsFilter<real_t>::process`, in matrix form -/
theorem rls_step_matrix (P : RlsP ℝ) (s : RlsState ℝ) (x d : ℝ) (hl : s.locked = false) :
    let u := vecOf P.n (shiftIn ℝ P.n s.u x)
    Pm P.n (rlsStep P s x d).s.p
      = (1 / P.mu) • (Pm P.n s.p - vecMulVec ((1 / (P.mu + (u ᵥ* Pm P.n s.p) ⬝ᵥ u)) • (Pm P.n s.p *ᵥ u)) (u ᵥ* Pm P.n s.p)) ∧
    vecOf P.n (rlsStep P s x d).s.w
      = vecOf P.n s.w + (d - vecOf P.n s.w ⬝ᵥ u) • ((1 / (P.mu + (u ᵥ* Pm P.n s.p) ⬝ᵥ u)) • (Pm P.n s.p *ᵥ u)) := by
  intro u
  obtain ⟨h1, h2⟩ := rls_step_update P s x d hl
  obtain ⟨hy, he, _, _⟩ := rls_step_apriori P s x d
  constructor
  · ext i k
    have := h1 i.val k.val i.isLt k.isLt
    simp only [Pm, Matrix.of_apply, rlsPm]
    rw [this]
    simp only [rlsGain, rlsPu_eq, rlsUP_eq, rlsDen_eq, Mixed.rmul, Matrix.smul_apply, Matrix.sub_apply,
      vecMulVec_apply, Pi.smul_apply, smul_eq_mul, fn_ofNat, Nat.cast_one, rlsPm, Pm, Matrix.of_apply]
    ring
  · ext i
    have := h2 i.val i.isLt
    simp only [vecOf] at this ⊢
    rw [this, he, hy, dot_eq]
    simp only [rlsGain, rlsPu_eq, rlsDen_eq, Mixed.conj, Pi.add_apply, Pi.smul_apply, smul_eq_mul, vecOf]
    ring

end bridge

section wls
variable {n : Nat}

/-- `Σ_i λ^{k-1-i} u_i u_iᵀ` over the samples `(u_i, d_i)` listed oldest first: the weight of a sample is `λ` to the
number of samples that came after it -/
noncomputable def wR (lam : ℝ) : List ((Fin n → ℝ) × ℝ) → Matrix (Fin n) (Fin n) ℝ
  | [] => 0
  | a :: t => lam ^ t.length • vecMulVec a.1 a.1 + wR lam t

/-- `Σ_i λ^{k-1-i} d_i u_i` -/
noncomputable def wB (lam : ℝ) : List ((Fin n → ℝ) × ℝ) → (Fin n → ℝ)
  | [] => 0
  | a :: t => lam ^ t.length • (a.2 • a.1) + wB lam t

/-- the exponentially weighted sum of squared errors `Σ_i λ^{k-1-i} (d_i − v·u_i)²` of the coefficient vector `v` -/
noncomputable def wJ (lam : ℝ) : List ((Fin n → ℝ) × ℝ) → (Fin n → ℝ) → ℝ
  | [], _ => 0
  | a :: t, v => lam ^ t.length * (a.2 - v ⬝ᵥ a.1) ^ 2 + wJ lam t v

/-- `Σ_i λ^{k-1-i} d_i²` -/
noncomputable def wC (lam : ℝ) : List ((Fin n → ℝ) × ℝ) → ℝ
  | [] => 0
  | a :: t => lam ^ t.length * a.2 ^ 2 + wC lam t

/-- the regressor/desired pairs `(u_k, d_k)` seen by the filter: `u_k` is the delay line after `x_k` was shifted in -/
noncomputable def regs (n : Nat) : Array ℝ → List (ℝ × ℝ) → List ((Fin n → ℝ) × ℝ)
  | _, [] => []
  | u, xd :: t => (vecOf n (shiftIn ℝ n u xd.1), xd.2) :: regs n (shiftIn ℝ n u xd.1) t

theorem regs_length (n : Nat) : ∀ (l : List (ℝ × ℝ)) (u : Array ℝ), (regs n u l).length = l.length := by
  intro l
  induction l with
  | nil => intro u; rfl
  | cons a t ih => intro u; exact congrArg (· + 1) (ih _)

/-- entry `j` of the regressor: the current input for `j = 0`, else entry `j-1` of the previous regressor -/
theorem vecOf_shiftIn (n : Nat) (u : Array ℝ) (x : ℝ) (j : Fin n) :
    vecOf n (shiftIn ℝ n u x) j = if j.val = 0 then x else rd (ρ := ℝ) u (j.val - 1) := by
  unfold vecOf shiftIn
  rw [rd_ofFn _ _ _ j.isLt]

end wls

section run

/-- one unlocked sample preserves the invariant "`_p` is the inverse of the weighted correlation matrix `R`, and the
coefficients satisfy the normal equations `R w = b`" — with `R ↦ λR + u uᵀ`, `b ↦ λb + d u` -/
theorem rls_step_invariant (P : RlsP ℝ) (hlam : 0 < P.mu) (s : RlsState ℝ) (x d : ℝ) (hl : s.locked = false)
    (R : Matrix (Fin P.n) (Fin P.n) ℝ) (hPR : Pm P.n s.p * R = 1) (hpsd : ∀ v : Fin P.n → ℝ, 0 ≤ v ⬝ᵥ R *ᵥ v) :
    0 < P.mu + (vecOf P.n (shiftIn ℝ P.n s.u x) ᵥ* Pm P.n s.p) ⬝ᵥ vecOf P.n (shiftIn ℝ P.n s.u x) ∧
    Pm P.n (rlsStep P s x d).s.p * (P.mu • R + vecMulVec (vecOf P.n (shiftIn ℝ P.n s.u x)) (vecOf P.n (shiftIn ℝ P.n s.u x))) = 1 ∧
    (P.mu • R + vecMulVec (vecOf P.n (shiftIn ℝ P.n s.u x)) (vecOf P.n (shiftIn ℝ P.n s.u x))) *ᵥ vecOf P.n (rlsStep P s x d).s.w
      = P.mu • (R *ᵥ vecOf P.n s.w) + d • vecOf P.n (shiftIn ℝ P.n s.u x) ∧
    (∀ v : Fin P.n → ℝ, 0 ≤ v ⬝ᵥ (P.mu • R + vecMulVec (vecOf P.n (shiftIn ℝ P.n s.u x)) (vecOf P.n (shiftIn ℝ P.n s.u x))) *ᵥ v) := by
  obtain ⟨hp, hw⟩ := rls_step_matrix P s x d hl
  generalize vecOf P.n (shiftIn ℝ P.n s.u x) = u at hp hw ⊢
  have hnn := sm_den_nonneg (Pm P.n s.p) R u hPR hpsd
  have hden : 0 < P.mu + (u ᵥ* Pm P.n s.p) ⬝ᵥ u := by linarith
  refine ⟨hden, ?_, ?_, ?_⟩
  · rw [hp]; exact sm_inv _ _ _ _ hPR hlam.ne' hden.ne'
  · rw [hw, mulVec_add, mulVec_smul, sm_gain _ _ _ _ hPR hden.ne', add_mulVec, smul_mulVec, vecMulVec_mulVec]
    ext i
    simp only [Pi.add_apply, Pi.smul_apply, smul_eq_mul, MulOpposite.smul_eq_mul_unop, MulOpposite.unop_op,
      dotProduct_comm u]
    ring
  · intro v
    rw [quad_smul_add, quad_vecMulVec]
    exact add_nonneg (mul_nonneg hlam.le (hpsd v)) (sq_nonneg _)

/-- **T12.4, invariant along a run (ℝ).**  Start an unlocked real RLS filter in ANY state whose `_p` is the inverse
of some matrix `R₀` with non-negative quadratic form, and run it over any samples `(x_k, d_k)`.  With `(u_k, d_k)` the
regressor/desired pairs (`regs`), `λ = _mu > 0` and `R_k = λ^k R₀ + Σ_i λ^{k-1-i} u_i u_iᵀ`:
`_p · R_k = I` (no division by zero occurs on the way) and the coefficients satisfy the normal equations
`R_k w_k = λ^k R₀ w₀ + Σ_i λ^{k-1-i} d_i u_i`. -/
theorem rls_run_wls (P : RlsP ℝ) (hlam : 0 < P.mu) : ∀ (l : List (ℝ × ℝ)) (s : RlsState ℝ)
    (R0 : Matrix (Fin P.n) (Fin P.n) ℝ), s.locked = false → Pm P.n s.p * R0 = 1 →
    (∀ v : Fin P.n → ℝ, 0 ≤ v ⬝ᵥ R0 *ᵥ v) →
    Pm P.n (runR P s l).1.p * (P.mu ^ l.length • R0 + wR P.mu (regs P.n s.u l)) = 1 ∧
    (P.mu ^ l.length • R0 + wR P.mu (regs P.n s.u l)) *ᵥ vecOf P.n (runR P s l).1.w
      = P.mu ^ l.length • (R0 *ᵥ vecOf P.n s.w) + wB P.mu (regs P.n s.u l) ∧
    (runR P s l).1.locked = false := by
  intro l
  induction l with
  | nil =>
    intro s R0 hl hPR _
    simp [runR, regs, wR, wB, hPR, hl]
  | cons a t ih =>
    intro s R0 hl hPR hpsd
    obtain ⟨_, h1, h2, h3⟩ := rls_step_invariant P hlam s a.1 a.2 hl R0 hPR hpsd
    obtain ⟨_, _, hu, hlk⟩ := rls_step_apriori P s a.1 a.2
    obtain ⟨i1, i2, i3⟩ := ih (rlsStep P s a.1 a.2).s _ (by rw [hlk, hl]) h1 h3
    have eR : P.mu ^ (a :: t).length • R0 + wR P.mu (regs P.n s.u (a :: t))
        = P.mu ^ t.length • (P.mu • R0 + vecMulVec (vecOf P.n (shiftIn ℝ P.n s.u a.1)) (vecOf P.n (shiftIn ℝ P.n s.u a.1)))
          + wR P.mu (regs P.n (rlsStep P s a.1 a.2).s.u t) := by
      rw [hu]
      simp only [regs, wR, regs_length, List.length_cons, pow_succ, smul_add, smul_smul]
      abel
    simp only [runR]
    rw [eR]
    refine ⟨i1, ?_, i3⟩
    rw [i2, h2, hu]
    simp only [regs, wB, regs_length, List.length_cons, pow_succ, smul_add, smul_smul]
    abel

end run

section cost
variable {n : Nat}

theorem wR_transpose (lam : ℝ) : ∀ l : List ((Fin n → ℝ) × ℝ), (wR lam l)ᵀ = wR lam l := by
  intro l
  induction l with
  | nil => simp [wR]
  | cons a t ih => simp [wR, ih, transpose_vecMulVec]

theorem wR_quad_nonneg (lam : ℝ) (hlam : 0 ≤ lam) (v : Fin n → ℝ) : ∀ l : List ((Fin n → ℝ) × ℝ),
    0 ≤ v ⬝ᵥ wR lam l *ᵥ v := by
  intro l
  induction l with
  | nil => rw [wR, zero_mulVec, dotProduct_zero]
  | cons a t ih =>
    rw [wR, quad_smul_add, quad_vecMulVec]
    exact add_nonneg (mul_nonneg (pow_nonneg hlam _) (sq_nonneg _)) ih

/-- the weighted error sum is the quadratic `vᵀ(Σλ..uuᵀ)v − 2 vᵀ(Σλ..d u) + Σλ..d²` -/
theorem wJ_expand (lam : ℝ) (v : Fin n → ℝ) : ∀ l : List ((Fin n → ℝ) × ℝ),
    wJ lam l v = v ⬝ᵥ wR lam l *ᵥ v - 2 * (v ⬝ᵥ wB lam l) + wC lam l := by
  intro l
  induction l with
  | nil => rw [wJ, wR, wB, wC, zero_mulVec, dotProduct_zero, mul_zero, sub_zero, add_zero]
  | cons a t ih =>
    simp only [wJ, wR, wB, wC, ih, add_mulVec, smul_mulVec, dotProduct_add, dotProduct_smul, quad_vecMulVec,
      smul_eq_mul]
    ring

theorem quad_sub (R : Matrix (Fin n) (Fin n) ℝ) (hsym : Rᵀ = R) (z w : Fin n → ℝ) :
    (z - w) ⬝ᵥ R *ᵥ (z - w) = z ⬝ᵥ R *ᵥ z - 2 * (z ⬝ᵥ R *ᵥ w) + w ⬝ᵥ R *ᵥ w := by
  have hswap : w ⬝ᵥ R *ᵥ z = z ⬝ᵥ R *ᵥ w := by
    rw [dotProduct_mulVec, ← hsym, vecMul_transpose, hsym, dotProduct_comm]
  rw [mulVec_sub, sub_dotProduct, dotProduct_sub, dotProduct_sub, hswap]
  ring

/-- a quadratic with symmetric matrix `R`, expanded around a solution `w` of `R w = b` -/
theorem quad_complete (R : Matrix (Fin n) (Fin n) ℝ) (hsym : Rᵀ = R) (b w v : Fin n → ℝ) (hw : R *ᵥ w = b) :
    (v ⬝ᵥ R *ᵥ v - 2 * (v ⬝ᵥ b)) - (w ⬝ᵥ R *ᵥ w - 2 * (w ⬝ᵥ b)) = (v - w) ⬝ᵥ R *ᵥ (v - w) := by
  subst hw
  rw [quad_sub R hsym]
  ring

/-- the exponentially weighted least-squares cost regularised by the prior `(v − w₀)ᵀ R₀ (v − w₀)`, after the
samples `ud` (oldest first): `J(v) = λ^k (v − w₀)ᵀ R₀ (v − w₀) + Σ_i λ^{k-1-i} (d_i − v·u_i)²` -/
noncomputable def wlsCost (lam : ℝ) (R0 : Matrix (Fin n) (Fin n) ℝ) (w0 : Fin n → ℝ) (ud : List ((Fin n → ℝ) × ℝ))
    (v : Fin n → ℝ) : ℝ :=
  lam ^ ud.length * ((v - w0) ⬝ᵥ R0 *ᵥ (v - w0)) + wJ lam ud v

/-- **normal equations ⇒ minimiser.**  If `w` solves `R_k w = λ^k R₀ w₀ + Σ λ.. d_i u_i` (`R₀` symmetric) then the
cost of any `v` exceeds that of `w` by exactly `(v − w)ᵀ R_k (v − w)`. -/
theorem wlsCost_diff (lam : ℝ) (R0 : Matrix (Fin n) (Fin n) ℝ) (hsym : R0ᵀ = R0) (w0 w v : Fin n → ℝ)
    (ud : List ((Fin n → ℝ) × ℝ))
    (hne : (lam ^ ud.length • R0 + wR lam ud) *ᵥ w = lam ^ ud.length • (R0 *ᵥ w0) + wB lam ud) :
    wlsCost lam R0 w0 ud v - wlsCost lam R0 w0 ud w
      = (v - w) ⬝ᵥ (lam ^ ud.length • R0 + wR lam ud) *ᵥ (v - w) := by
  have hS : (lam ^ ud.length • R0 + wR lam ud)ᵀ = lam ^ ud.length • R0 + wR lam ud := by
    rw [transpose_add, transpose_smul, hsym, wR_transpose]
  rw [← quad_complete _ hS _ w v hne]
  simp only [wlsCost, wJ_expand, quad_sub R0 hsym, add_mulVec, smul_mulVec, dotProduct_add, dotProduct_smul, smul_eq_mul]
  ring

end cost

section main

/-- **T12.4, minimiser along a run (ℝ), any admissible start state.**  In the setting of `rls_run_wls` with `R₀`
symmetric: the coefficient vector after the run minimises the exponentially weighted least-squares cost with prior
`(v − w₀)ᵀ R₀ (v − w₀)` (`w₀` the coefficients at the start); the excess cost of any other `v` is exactly
`(v − w_k)ᵀ R_k (v − w_k)`, and the minimiser is unique when `R₀` is positive definite. -/
theorem rls_run_minimiser (P : RlsP ℝ) (hlam : 0 < P.mu) (l : List (ℝ × ℝ)) (s : RlsState ℝ)
    (R0 : Matrix (Fin P.n) (Fin P.n) ℝ) (hl : s.locked = false) (hPR : Pm P.n s.p * R0 = 1) (hsym : R0ᵀ = R0)
    (hpsd : ∀ v : Fin P.n → ℝ, 0 ≤ v ⬝ᵥ R0 *ᵥ v) (v : Fin P.n → ℝ) :
    wlsCost P.mu R0 (vecOf P.n s.w) (regs P.n s.u l) v
        - wlsCost P.mu R0 (vecOf P.n s.w) (regs P.n s.u l) (vecOf P.n (runR P s l).1.w)
      = (v - vecOf P.n (runR P s l).1.w) ⬝ᵥ (P.mu ^ l.length • R0 + wR P.mu (regs P.n s.u l))
          *ᵥ (v - vecOf P.n (runR P s l).1.w) ∧
    wlsCost P.mu R0 (vecOf P.n s.w) (regs P.n s.u l) (vecOf P.n (runR P s l).1.w)
      ≤ wlsCost P.mu R0 (vecOf P.n s.w) (regs P.n s.u l) v ∧
    ((∀ z : Fin P.n → ℝ, z ≠ 0 → 0 < z ⬝ᵥ R0 *ᵥ z) →
      wlsCost P.mu R0 (vecOf P.n s.w) (regs P.n s.u l) v
        = wlsCost P.mu R0 (vecOf P.n s.w) (regs P.n s.u l) (vecOf P.n (runR P s l).1.w) →
      v = vecOf P.n (runR P s l).1.w) := by
  obtain ⟨_, hne, _⟩ := rls_run_wls P hlam l s R0 hl hPR hpsd
  generalize vecOf P.n (runR P s l).1.w = w at hne ⊢
  have hd := wlsCost_diff P.mu R0 hsym (vecOf P.n s.w) w v (regs P.n s.u l) (by simpa [regs_length] using hne)
  rw [regs_length] at hd
  have hq := hd
  rw [quad_smul_add] at hq
  have hpow : 0 < P.mu ^ l.length := pow_pos hlam _
  have h2 := wR_quad_nonneg P.mu hlam.le (v - w) (regs P.n s.u l)
  refine ⟨hd, ?_, fun hpd heq => ?_⟩
  · linarith [mul_nonneg hpow.le (hpsd (v - w))]
  · by_contra hne'
    linarith [mul_pos hpow (hpd (v - w) (sub_ne_zero.mpr hne'))]

/-- the constructor's `_p` is `diag_load · I` -/
theorem Pm_init (P : RlsP ℝ) (dl : ℝ) : Pm P.n (rlsInit P dl : RlsState ℝ).p = dl • (1 : Matrix (Fin P.n) (Fin P.n) ℝ) := by
  ext i k
  obtain ⟨hik, hdiv, hmod⟩ := flat_index i.isLt k.isLt
  simp only [Pm, Matrix.of_apply, rlsPm, rlsInit]
  rw [rd_ofFn _ _ _ hik]
  simp only [hdiv, hmod, Matrix.smul_apply, smul_eq_mul, Matrix.one_apply, Fin.ext_iff, Mixed.ofReal, zero_real]
  split <;> simp

theorem Pm_init_inv (P : RlsP ℝ) (dl : ℝ) (hdl : dl ≠ 0) :
    Pm P.n (rlsInit P dl : RlsState ℝ).p * ((1 / dl) • (1 : Matrix (Fin P.n) (Fin P.n) ℝ)) = 1 := by
  rw [Pm_init, Matrix.smul_mul, Matrix.mul_smul, Matrix.mul_one, smul_smul, mul_one_div_cancel hdl, one_smul]

/-- the constructor's coefficient vector is zero -/
theorem vecOf_init_w (P : RlsP ℝ) (dl : ℝ) : vecOf P.n (rlsInit P dl : RlsState ℝ).w = 0 := by
  ext i
  exact (getD_replicate P.n i.val _).trans zero_real

/-- **T12.4 `rls_is_wls` (ℝ; every length, forgetting factor `λ > 0`, diagonal load `δ > 0`, every sample sequence).**
Run a freshly constructed real `RlsFilter` (`_p = δ·I`, `_w = 0`, unlocked) over any samples `(x_i, d_i)`, `i < k`;
let `u_i` be the delay-line regressors.  Then, with `R_k = (λ^k/δ)·I + Σ_i λ^{k-1-i} u_i u_iᵀ` and
`b_k = Σ_i λ^{k-1-i} d_i u_i`:
* the code's `_p` is the inverse of `R_k` (and every gain denominator `λ + uᵀ P u` on the way is positive);
* `coeffs()` solves the normal equations `R_k w = b_k`, i.e. `w = _p · b_k`;
* `coeffs()` is THE minimiser of the exponentially weighted, diagonally regularised least-squares cost
  `J(v) = (λ^k/δ)‖v‖² + Σ_i λ^{k-1-i} (d_i − v·u_i)²`: `J(v) − J(w) = (v−w)ᵀ R_k (v−w)`, which is positive for `v ≠ w`. -/
theorem rls_is_wls (P : RlsP ℝ) (dl : ℝ) (hlam : 0 < P.mu) (hdl : 0 < dl) (l : List (ℝ × ℝ)) :
    let S := (runR P (rlsInit P dl : RlsState ℝ) l).1
    let ud := regs P.n (rlsInit P dl : RlsState ℝ).u l
    let Rk : Matrix (Fin P.n) (Fin P.n) ℝ := (P.mu ^ l.length / dl) • 1 + wR P.mu ud
    let J : (Fin P.n → ℝ) → ℝ := fun v => P.mu ^ l.length / dl * (v ⬝ᵥ v) + wJ P.mu ud v
    Pm P.n S.p * Rk = 1 ∧
    Rk *ᵥ vecOf P.n S.coeffs = wB P.mu ud ∧
    vecOf P.n S.coeffs = Pm P.n S.p *ᵥ wB P.mu ud ∧
    (∀ v, J v - J (vecOf P.n S.coeffs) = (v - vecOf P.n S.coeffs) ⬝ᵥ Rk *ᵥ (v - vecOf P.n S.coeffs)) ∧
    (∀ v, J (vecOf P.n S.coeffs) ≤ J v) ∧
    (∀ v, J v = J (vecOf P.n S.coeffs) → v = vecOf P.n S.coeffs) := by
  intro S ud Rk J
  set R0 : Matrix (Fin P.n) (Fin P.n) ℝ := (1 / dl) • 1 with hR
  have hR0 : Pm P.n (rlsInit P dl : RlsState ℝ).p * R0 = 1 := Pm_init_inv P dl hdl.ne'
  have hsym : R0ᵀ = R0 := by rw [hR, transpose_smul, transpose_one]
  have hquad : ∀ z, z ⬝ᵥ R0 *ᵥ z = 1 / dl * (z ⬝ᵥ z) := quad_smul_one (1 / dl)
  have hdp : (0 : ℝ) < 1 / dl := one_div_pos.mpr hdl
  have hpsd : ∀ z, 0 ≤ z ⬝ᵥ R0 *ᵥ z := fun z => by
    rw [hquad]; exact mul_nonneg hdp.le (dotProduct_self_nonneg z)
  have hpd : ∀ z, z ≠ 0 → 0 < z ⬝ᵥ R0 *ᵥ z := fun z hz => by
    rw [hquad]
    exact mul_pos hdp (lt_of_le_of_ne (dotProduct_self_nonneg z) fun h => hz (dotProduct_self_eq_zero.mp h.symm))
  have hRk : Rk = P.mu ^ l.length • R0 + wR P.mu ud := by
    simp only [Rk, hR, smul_smul]
    congr 2
    ring
  have hJ : J = wlsCost P.mu R0 (vecOf P.n (rlsInit P dl : RlsState ℝ).w) ud := by
    funext v
    simp only [wlsCost, J, vecOf_init_w, sub_zero, hquad, regs_length, ud]
    ring
  obtain ⟨h1, h2, _⟩ := rls_run_wls P hlam l (rlsInit P dl) _ rfl hR0 hpsd
  rw [vecOf_init_w, mulVec_zero, smul_zero, zero_add] at h2
  have hm := fun v => rls_run_minimiser P hlam l (rlsInit P dl) _ rfl hR0 hsym hpsd v
  rw [hRk, hJ]
  refine ⟨h1, h2, ?_, fun v => (hm v).1, fun v => (hm v).2.1, fun v => (hm v).2.2 hpd⟩
  rw [← h2, mulVec_mulVec, h1, one_mulVec]
  rfl

end main

section calls

/-- the weighted correlation matrix keeps a non-negative quadratic form (so the conclusion of `rls_run_wls` /
`rls_process_wls` re-establishes its own hypotheses: the statements compose over successive calls) -/
theorem wls_psd {n : Nat} (lam : ℝ) (hlam : 0 ≤ lam) (R0 : Matrix (Fin n) (Fin n) ℝ)
    (hpsd : ∀ v : Fin n → ℝ, 0 ≤ v ⬝ᵥ R0 *ᵥ v) (k : Nat) (ud : List ((Fin n → ℝ) × ℝ)) (v : Fin n → ℝ) :
    0 ≤ v ⬝ᵥ (lam ^ k • R0 + wR lam ud) *ᵥ v := by
  rw [quad_smul_add]
  exact add_nonneg (mul_nonneg (pow_nonneg hlam k) (hpsd v)) (wR_quad_nonneg lam hlam v ud)

/-- **T12.4 for the implementation model, any admissible state, any frame.**  One call of
`RlsFilter<real_t>::process` on an unlocked filter whose `_p` is the inverse of `R₀` (non-negative quadratic form):
afterwards `_p` is the inverse of `λ^k R₀ + Σ_i λ^{k-1-i} u_i u_iᵀ` and `coeffs()` solves the normal equations. -/
theorem rls_process_wls (P : RlsP ℝ) (hlam : 0 < P.mu) (s s' : RlsState ℝ) (x d y e : Array ℝ)
    (R0 : Matrix (Fin P.n) (Fin P.n) ℝ) (hl : s.locked = false) (hPR : Pm P.n s.p * R0 = 1)
    (hpsd : ∀ v : Fin P.n → ℝ, 0 ≤ v ⬝ᵥ R0 *ᵥ v) (h : rlsProcess P s x d = .ok (s', y, e)) :
    Pm P.n s'.p * (P.mu ^ x.size • R0 + wR P.mu (regs P.n s.u (x.toList.zip d.toList))) = 1 ∧
    (P.mu ^ x.size • R0 + wR P.mu (regs P.n s.u (x.toList.zip d.toList))) *ᵥ vecOf P.n s'.coeffs
      = P.mu ^ x.size • (R0 *ᵥ vecOf P.n s.coeffs) + wB P.mu (regs P.n s.u (x.toList.zip d.toList)) ∧
    s'.locked = false := by
  have hxd := rlsProcess_size h
  rw [(of_ok (rls_refines P s x d hxd) h).1, ← length_zip_toList hxd]
  exact rls_run_wls P hlam _ s R0 hl hPR hpsd

/-- **T12.4 `rls_is_wls` for the implementation model**: a fresh filter, one call of `process` on any frame. -/
theorem rls_process_is_wls (P : RlsP ℝ) (dl : ℝ) (hlam : 0 < P.mu) (hdl : 0 < dl) (s' : RlsState ℝ)
    (x d y e : Array ℝ) (h : rlsProcess P (rlsInit P dl) x d = .ok (s', y, e)) :
    let ud := regs P.n (rlsInit P dl : RlsState ℝ).u (x.toList.zip d.toList)
    let Rk : Matrix (Fin P.n) (Fin P.n) ℝ := (P.mu ^ x.size / dl) • 1 + wR P.mu ud
    let J : (Fin P.n → ℝ) → ℝ := fun v => P.mu ^ x.size / dl * (v ⬝ᵥ v) + wJ P.mu ud v
    Pm P.n s'.p * Rk = 1 ∧ Rk *ᵥ vecOf P.n s'.coeffs = wB P.mu ud ∧
    vecOf P.n s'.coeffs = Pm P.n s'.p *ᵥ wB P.mu ud ∧
    (∀ v, J (vecOf P.n s'.coeffs) ≤ J v) ∧ (∀ v, J v = J (vecOf P.n s'.coeffs) → v = vecOf P.n s'.coeffs) := by
  have hxd := rlsProcess_size h
  rw [(of_ok (rls_refines P _ x d hxd) h).1, ← length_zip_toList hxd]
  obtain ⟨a, b, c, _, f, g⟩ := rls_is_wls P dl hlam hdl (x.toList.zip d.toList)
  exact ⟨a, b, c, f, g⟩

end calls

section nonvacuity1

/-- the hypotheses of `rls_run_wls` / `rls_process_wls` hold in the constructor state (`R₀ = δ⁻¹ I`) … -/
example (P : RlsP ℝ) (dl : ℝ) (hdl : 0 < dl) :
    (rlsInit P dl : RlsState ℝ).locked = false ∧
    Pm P.n (rlsInit P dl : RlsState ℝ).p * ((1 / dl) • (1 : Matrix (Fin P.n) (Fin P.n) ℝ)) = 1 ∧
    ∀ v : Fin P.n → ℝ, 0 ≤ v ⬝ᵥ ((1 / dl) • (1 : Matrix (Fin P.n) (Fin P.n) ℝ)) *ᵥ v := by
  refine ⟨rfl, Pm_init_inv P dl hdl.ne', fun v => ?_⟩
  rw [quad_smul_one]
  exact mul_nonneg (one_div_pos.mpr hdl).le (dotProduct_self_nonneg v)

/-- … and `rls_is_wls` at a concrete filter: length 2, `λ = 0.9`, `δ = 10`, two samples -/
example := rls_is_wls (⟨2, 9 / 10⟩ : RlsP ℝ) 10 (by norm_num) (by norm_num) [(1, 2), (3, 4)]

/-- a call of `process` with equal frame lengths always succeeds, so `rls_process_is_wls` is not vacuous -/
example : ∃ (s' : RlsState ℝ) (y e : Array ℝ),
    rlsProcess (⟨2, 9 / 10⟩ : RlsP ℝ) (rlsInit (⟨2, 9 / 10⟩ : RlsP ℝ) 10 : RlsState ℝ) (#[1, 3] : Array ℝ) (#[2, 4] : Array ℝ)
      = .ok (s', y, e) := by
  obtain ⟨s', y, e, h, _⟩ := rls_refines (⟨2, 9 / 10⟩ : RlsP ℝ) (rlsInit (⟨2, 9 / 10⟩ : RlsP ℝ) 10 : RlsState ℝ)
    (#[1, 3] : Array ℝ) (#[2, 4] : Array ℝ) (by simp)
  exact ⟨s', y, e, h⟩

end nonvacuity1

/-! ## T12.3 for complex data -/


section cnlms

theorem sumL_cx (z : Cx ℝ) (l : List (Cx ℝ)) :
    (sumL z l).re = z.re + (l.map (·.re)).sum ∧ (sumL z l).im = z.im + (l.map (·.im)).sum := by
  unfold sumL
  induction l generalizing z with
  | nil => simp
  | cons a t ih => simp [ih, add_assoc]

/-- squared misalignment `‖w − w*‖² = Σ |w_i − w*_i|²` of complex coefficient vectors -/
noncomputable def misC (w ws : List (Cx ℝ)) : ℝ := (List.zipWith (fun a b => Cx.abs2 (a - b)) w ws).sum

/-- `Σ |r_i|²` -/
noncomputable def pow2C (r : List (Cx ℝ)) : ℝ := (r.map Cx.abs2).sum

/-- real and imaginary part of `Σ (w_i − w*_i) r_i` (no conjugation, as in the filter output) -/
noncomputable def crossRe (w ws r : List (Cx ℝ)) : ℝ :=
  (List.zipWith (fun (a : Cx ℝ × Cx ℝ) (x : Cx ℝ) => (a.1.re - a.2.re) * x.re - (a.1.im - a.2.im) * x.im) (w.zip ws) r).sum
noncomputable def crossIm (w ws r : List (Cx ℝ)) : ℝ :=
  (List.zipWith (fun (a : Cx ℝ × Cx ℝ) (x : Cx ℝ) => (a.1.re - a.2.re) * x.im + (a.1.im - a.2.im) * x.re) (w.zip ws) r).sum

theorem abs2_nonneg (a : Cx ℝ) : 0 ≤ Cx.abs2 a := add_nonneg (mul_self_nonneg _) (mul_self_nonneg _)

theorem pow2C_nonneg (r : List (Cx ℝ)) : 0 ≤ pow2C r := sum_map_nonneg _ abs2_nonneg r

/-- `w ↦ w + a·conj(r)` for a complex scalar `a = (ar, ai)`, written out in components -/
noncomputable def axpyConj (ar ai : ℝ) (w r : List (Cx ℝ)) : List (Cx ℝ) :=
  List.zipWith (fun wi ri => (⟨wi.re + (ar * ri.re + ai * ri.im), wi.im + (ai * ri.re - ar * ri.im)⟩ : Cx ℝ)) w r

theorem misC_axpy (ar ai : ℝ) : ∀ (w ws r : List (Cx ℝ)), w.length = r.length → ws.length = r.length →
    misC (axpyConj ar ai w r) ws
      = misC w ws + 2 * (ar * crossRe w ws r + ai * crossIm w ws r) + (ar ^ 2 + ai ^ 2) * pow2C r := by
  refine list_induction₃ ?_ ?_
  · show (0 : ℝ) = 0 + 2 * (ar * 0 + ai * 0) + (ar ^ 2 + ai ^ 2) * 0
    ring
  · intro a b x w ws r ih
    simp only [misC, crossRe, crossIm, pow2C, axpyConj, List.zipWith_cons_cons, List.sum_cons, List.map_cons,
      List.zip_cons_cons] at ih ⊢
    rw [ih]
    simp only [Cx.abs2, Cx.sub_re, Cx.sub_im]
    ring

theorem out_diff_C : ∀ (w ws r : List (Cx ℝ)), w.length = r.length → ws.length = r.length →
    crossRe w ws r = - (outC ℝ ws r - outC ℝ w r).re ∧ crossIm w ws r = - (outC ℝ ws r - outC ℝ w r).im := by
  refine list_induction₃ ?_ ?_
  · simp [outC, crossRe, crossIm, sumL]
  · intro a b x w ws r ih
    simp only [outC, crossRe, crossIm, Cx.sub_re, Cx.sub_im, (sumL_cx _ _).1, (sumL_cx _ _).2, List.zipWith_cons_cons,
      List.sum_cons, List.map_cons, List.zip_cons_cons, Cx.mul_re, Cx.mul_im] at ih ⊢
    exact ⟨by rw [ih.1]; ring, by rw [ih.2]; ring⟩

end cnlms

section cnlms2

theorem updC_nlms_complex (p : LmsP ℝ) (hn : p.nlms = true) (hlk : p.lk = 1) (w r : List (Cx ℝ)) (e : Cx ℝ) :
    updC p w r e = axpyConj (p.mu * e.re / (pow2C r + eps)) (p.mu * e.im / (pow2C r + eps)) w r := by
  unfold updC axpyConj
  rw [if_pos hn]
  have : sumL (Fn.ofNat 0 : ℝ) (r.map (abs2 : Cx ℝ → ℝ)) = pow2C r := by
    rw [sumL_real, fn_ofNat, Nat.cast_zero, zero_add]; rfl
  simp only [this]
  congr 1
  funext wi ri
  apply Cx.ext'
  all_goals
    simp only [Mixed.mulr, Mixed.divr, Mixed.rmul, Mixed.conj, Cx.mulr, Cx.divr, Cx.rmul, Cx.conj, hlk, Cx.add_re,
      Cx.add_im, Cx.mul_re, Cx.mul_im]
    ring

/-- **T12.3, complex data (per-step identity).**  NLMS, leakage 1, noise-free desired sample `d = w*·r` (the filter
output does not conjugate; the update uses `conj(r)`: `w' = w + μ e conj(r)/(p+ε)`): one update changes the squared
misalignment `‖w − w*‖²` by exactly `− μ |e|² (2(p+ε) − μ p) / (p+ε)²`, `p = ‖r‖² = Σ|r_i|²`, `e = d − w·r`. -/
theorem nlms_misalignment_step_complex (p : LmsP ℝ) (hn : p.nlms = true) (hlk : p.lk = 1) (w ws r : List (Cx ℝ))
    (hw : w.length = r.length) (hws : ws.length = r.length) :
    misC (updC p w r (outC ℝ ws r - outC ℝ w r)) ws
      = misC w ws - p.mu * Cx.abs2 (outC ℝ ws r - outC ℝ w r) * (2 * (pow2C r + eps) - p.mu * pow2C r)
          / (pow2C r + eps) ^ 2 := by
  rw [updC_nlms_complex p hn hlk, misC_axpy _ _ w ws r hw hws, (out_diff_C w ws r hw hws).1, (out_diff_C w ws r hw hws).2]
  generalize outC ℝ ws r - outC ℝ w r = e
  have hN : pow2C r + (eps : ℝ) ≠ 0 := by
    have := pow2C_nonneg r; have := eps_pos; linarith
  simp only [Cx.abs2]
  field_simp
  ring

/-- **T12.3, complex data.**  For `0 < μ < 2` the squared misalignment does not increase. -/
theorem nlms_misalignment_le_complex (p : LmsP ℝ) (hn : p.nlms = true) (hlk : p.lk = 1) (hmu0 : 0 < p.mu)
    (hmu2 : p.mu < 2) (w ws r : List (Cx ℝ)) (hw : w.length = r.length) (hws : ws.length = r.length) :
    misC (updC p w r (outC ℝ ws r - outC ℝ w r)) ws ≤ misC w ws := by
  rw [nlms_misalignment_step_complex p hn hlk w ws r hw hws]
  exact sub_le_self _ (nlms_gain_nonneg _ _ _ _ hmu0 hmu2 (abs2_nonneg _) (pow2C_nonneg r) eps_pos)

/-- non-vacuity: `w = 0`, system `[1+i, 2]`, regressor `[1, i]`, `μ = 1` -/
example : misC (updC (⟨2, 1, true, 1⟩ : LmsP ℝ) [⟨0, 0⟩, ⟨0, 0⟩] [⟨1, 0⟩, ⟨0, 1⟩]
      (outC ℝ [⟨1, 1⟩, ⟨2, 0⟩] [⟨1, 0⟩, ⟨0, 1⟩] - outC ℝ [⟨0, 0⟩, ⟨0, 0⟩] [⟨1, 0⟩, ⟨0, 1⟩])) [⟨1, 1⟩, ⟨2, 0⟩]
    ≤ misC [⟨0, 0⟩, ⟨0, 0⟩] [⟨1, 1⟩, ⟨2, 0⟩] :=
  nlms_misalignment_le_complex _ rfl rfl (by norm_num) (by norm_num) _ _ _ rfl rfl

end cnlms2

section cnlms3

/-- `misC` is the squared `ℂ`-norm distance: `Σ ‖w_i − w*_i‖²` through `toC : Cx ℝ → ℂ` -/
theorem misC_eq_normSq (w ws : List (Cx ℝ)) :
    misC w ws = (List.zipWith (fun a b => Complex.normSq (Cx.toC a - Cx.toC b)) w ws).sum := by
  have : (fun a b : Cx ℝ => Cx.abs2 (a - b)) = fun a b => Complex.normSq (Cx.toC a - Cx.toC b) := by
    funext a b
    rw [Cx.abs2_eq, Cx.toC_sub]
  unfold misC
  rw [this]

/-- **T12.3, complex data, the implementation model**: one call of `LmsFilter<cmplx_t>::process` in NLMS mode,
leakage 1, `0 < μ < 2`, noise-free desired frame of a system `ws` of the filter's length, never increases the squared
coefficient misalignment — whatever the frame, the history and the lock flag. -/
theorem nlms_process_misalignment_le_complex (p : LmsP ℝ) (hn : p.nlms = true) (hlk : p.lk = 1) (hmu0 : 0 < p.mu)
    (hmu2 : p.mu < 2) (s s' : LmsState (Cx ℝ)) (x d y e : Array (Cx ℝ)) (ws : List (Cx ℝ))
    (hlen : 1 ≤ p.len) (hu : s.u.size = p.len - 1) (hw : s.w.size = p.len) (hws : ws.length = p.len)
    (hd : d.toList = desiredC ℝ ws s.u.toList x.toList)
    (h : lmsProcess p s x d = .ok (s', y, e)) :
    misC s'.w.toList ws ≤ misC s.w.toList ws :=
  lmsProcess_antitone p ws (misC · ws) (fun w r => nlms_misalignment_le_complex p hn hlk hmu0 hmu2 w ws r) s s' x d y e
    hlen hu hw hws hd h

end cnlms3

end Dsp.C12
