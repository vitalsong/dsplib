import DspVerif.Model.Guards
import DspVerif.Lib.CeilDiv
import Mathlib.Tactic.Ring
/-!
# C05 — no call corrupts memory or hangs: misuse is reported by exception

**Honest scope.**  Memory safety of arbitrary C++ is NOT proved here.  What the theorems cover is the guard and index
logic of the entry points modelled in `Model/Guards.lean` (hand transcription of the `DSPLIB_ASSERT` / `DSPLIB_THROW`
conditions and of the subscript expressions of the code in `/repo`): array ∘ array operations, comparisons,
index lists, masks, slices and the three kinds of slice assignment, FFT / IFFT / real-IFFT / CZT plans against inputs of
another length, `fft(x, n)`, `FirFilter`, `FftFilter` (stateful), `polyphase`, the three polyphase resamplers and
`resample(x, p, q, h)`, `zeropad / repelem / delayseq / upsample / downsample`, the window generators (`tukey` taper,
`kaiser`), `medfilt`, `iscola / stft / istft`, `welch / mscohere`, `LmsFilter / RlsFilter`, `Delay`, `xcorr`, `hilbert`.

* `no_ub` (T05.1): for EVERY call of a modelled entry point in the documented ranges (most entry points: every integer
  argument tuple; the rest: rates / orders ≥ 1, lengths ≥ 0) the modelled outcome is `ok` or `throws`, never `ub`, i.e. every
  unchecked subscript of the modelled body is inside its buffer (`access_ok_iff`, `slice_in_bounds`, `loop`/`forM` bodies
  included) and every loop of the model is a counted loop (termination is by construction: structural recursion).
* `*_throws_iff` (T05.2): the misuse classes named in the property — mismatched lengths, out-of-range or negative index-list
  entries, plans applied to another length, a braced list of another length than the slice — are exactly the `throws` outcomes.
* `guard_needed_*`: without its guard the same access expression does leave the buffer (the `ub` branch of the model is live,
  the theorems are not vacuous).
* `pow2_butterfly_in_bounds` (T05.3): the index expressions of `Pow2FftPlan::_fft` stay inside `[0, n)`.

The tie to the real code is correspondence, not proof: `harness/c05.cpp` runs boundary-directed call programs over all public
entry points under clang ASan+UBSan (`-DNDEBUG`, `DSPLIB_ASSUME` live) with a watchdog, and `Model/Guards` has to predict
`ok <shape>` / `ERR` for every modelled call.  The remaining API surface is exercised by the same sanitizer run only.
`int` is modelled as unbounded `Int` (no-overflow is a separate obligation, stated for slices in C04).
-/
namespace Dsp.C05
open Dsp Dsp.Guards

/-- weakest-precondition reading of a model run: never `ub`; if it returns, the result satisfies `Q` -/
def Safe {α : Type} (g : G α) (Q : α → Prop) : Prop :=
  match g with
  | .ok a => Q a
  | .error .throws => True
  | .error (.ub _) => False

def NoUb {α : Type} (g : G α) : Prop := Safe g (fun _ => True)

theorem safe_pure {α} {a : α} {Q : α → Prop} (h : Q a) : Safe (pure a : G α) Q := h
theorem safe_ok {α} {a : α} {Q : α → Prop} (h : Q a) : Safe (.ok a : G α) Q := h

theorem safe_bind {α β} {g : G α} {f : α → G β} {Q : β → Prop}
    (h : Safe g (fun a => Safe (f a) Q)) : Safe (g >>= f) Q := by
  cases g with
  | ok a => exact h
  | error e => cases e with
    | throws => trivial
    | ub r => exact h

theorem safe_mono {α} {g : G α} {Q Q' : α → Prop} (h : Safe g Q) (hq : ∀ a, Q a → Q' a) : Safe g Q' := by
  cases g with
  | ok a => exact hq a h
  | error e => cases e with
    | throws => trivial
    | ub r => exact h

theorem safe_require {c : Prop} [Decidable c] {Q : Unit → Prop} (h : c → Q ()) : Safe (require c) Q := by
  unfold require; split
  · exact h ‹_›
  · trivial

theorem safe_ite {α} {c : Prop} [Decidable c] {a b : G α} {Q : α → Prop} (ht : c → Safe a Q) (he : ¬ c → Safe b Q) :
    Safe (if c then a else b) Q := by
  split
  · exact ht ‹_›
  · exact he ‹_›

theorem safe_alloc {n : Int} {Q : Unit → Prop} (h : 0 ≤ n → Q ()) : Safe (alloc n) Q := by
  unfold alloc; split
  · exact h ‹_›
  · trivial

theorem safe_access {w : String} {i n : Int} {Q : Unit → Prop} (hb : 0 ≤ i ∧ i < n) (h : Q ()) : Safe (access w i n) Q := by
  unfold access; rw [if_pos hb]; exact h

theorem safe_accessRange {w : String} {lo hi n : Int} {Q : Unit → Prop}
    (hb : lo ≤ hi → 0 ≤ lo ∧ hi < n) (h : Q ()) : Safe (accessRange w lo hi n) Q := by
  unfold accessRange; split
  · exact h
  · rename_i hh
    have := hb (by omega)
    apply safe_bind; apply safe_access (by omega); apply safe_access (by omega); exact h

theorem safe_loop {f : Nat → G Unit} {Q : Unit → Prop} (k : Nat) (hf : ∀ i, i < k → Safe (f i) (fun _ => True)) (h : Q ()) :
    Safe (loop k f) Q := by
  induction k with
  | zero => exact h
  | succ k ih =>
    unfold loop
    apply safe_bind
    apply safe_mono (ih (fun i hi => hf i (by omega)))
    intro _ _
    exact safe_mono (hf k (by omega)) (fun _ _ => h)

theorem safe_loopI {n : Int} {f : Int → G Unit} {Q : Unit → Prop} (hf : ∀ i : Int, 0 ≤ i → i < n → Safe (f i) (fun _ => True)) (h : Q ()) :
    Safe (loopI n f) Q := by
  unfold loopI
  apply safe_loop _ _ h
  intro i hi
  apply hf <;> omega

theorem safe_forM {α} {l : List α} {f : α → G Unit} {Q : Unit → Prop} (hf : ∀ a ∈ l, Safe (f a) (fun _ => True)) (h : Q ()) :
    Safe (l.forM f) Q := by
  induction l with
  | nil => exact h
  | cons a t ih =>
    show Safe (f a >>= fun _ => t.forM f) Q
    apply safe_bind
    apply safe_mono (hf a (by simp))
    intro _ _
    exact ih (fun b hb => hf b (by simp [hb]))

/-- what a constructed slice guarantees to its users -/
structure SliceSpec (n i1 i2 m : Int) (s : Sl) : Prop where
  n_eq : s.n = n
  m_eq : s.m = m
  first : 0 < s.nc → 0 ≤ s.i1 ∧ s.i1 < n
  last : 0 < s.nc → 0 ≤ s.i1 + (s.nc - 1) * m ∧ s.i1 + (s.nc - 1) * m < n
  step1 : m = 1 → 0 ≤ i1 → 0 ≤ i2 → s.nc = i2 - i1 ∧ s.i1 = i1

/-- what the range tests of the constructor establish, for resolved indices `a`, `b` and a count
    `nc = ⌈|b - a| / |m|⌉` (`ceilDiv_spec`) -/
theorem sliceSpec_of_guards {n i1 i2 m a b nc : Int} (ha : (if i1 < 0 then n + i1 else i1) = a)
    (hb : (if i2 < 0 then n + i2 else i2) = b) (hm : m ≠ 0)
    (c1 : (nc - 1) * (m.natAbs : Int) < ((b - a).natAbs : Int)) (c2 : ((b - a).natAbs : Int) ≤ nc * (m.natAbs : Int))
    (h1 : ¬ (a < 0 ∨ a ≥ n)) (h2 : ¬ (b < 0 ∨ b > n)) (h3 : ¬ (m < 0 ∧ a < b)) (h4 : ¬ (m > 0 ∧ a > b)) :
    SliceSpec n i1 i2 m ⟨a, nc, m, n⟩ := by
  have hfirst : 0 ≤ a ∧ a < n := by clear c1 c2; omega
  refine ⟨rfl, rfl, fun _ => hfirst, fun hpos => ?_, fun hm1 hi1 hi2 => ?_⟩
  · show 0 ≤ a + (nc - 1) * m ∧ a + (nc - 1) * m < n
    have hpos : 0 < nc := hpos
    have hs := stride_bounds c1 (show 0 ≤ nc - 1 by omega) (show nc - 1 < nc by omega)
    clear c1 c2
    omega
  · show nc = i2 - i1 ∧ a = i1
    rw [if_neg (by omega)] at ha hb
    subst hm1 ha hb
    rw [show ((1 : Int).natAbs : Int) = 1 from rfl] at c1 c2
    omega

theorem safe_slice {n i1 i2 m : Int} {Q : Sl → Prop} (h : ∀ s, SliceSpec n i1 i2 m s → Q s) :
    Safe (slice n i1 i2 m) Q := by
  unfold slice
  apply safe_bind; apply safe_require; intro hn
  apply safe_bind; apply safe_require; intro hm
  dsimp only
  generalize ha : (if i1 < 0 then n + i1 else i1) = a
  generalize hb : (if i2 < 0 then n + i2 else i2) = b
  obtain ⟨-, c1, c2, -⟩ := ceilDiv_spec (d := ((b - a).natAbs : Int)) (t := (m.natAbs : Int))
    (Int.natCast_nonneg _) (by omega)
  generalize (if Int.tmod _ _ ≠ 0 then _ else _) = nc at c1 c2 ⊢
  apply safe_bind; apply safe_require; intro h1
  apply safe_bind; apply safe_require; intro h2
  apply safe_bind; apply safe_require; intro h3
  apply safe_bind; apply safe_require; intro h4
  apply safe_bind; apply safe_require; intro _
  have hs := sliceSpec_of_guards ha hb hm c1 c2 h1 h2 h3 h4
  refine safe_ite (fun hpos => ?_) (fun _ => safe_pure (h _ hs))
  apply safe_bind; apply safe_access (hs.first hpos)
  apply safe_bind; apply safe_access (hs.last hpos)
  exact safe_pure (h _ hs)

theorem safe_sliceLen {n i1 i2 : Int} {Q : Int → Prop} (h : ∀ s, SliceSpec n i1 i2 1 s → Q s.nc) :
    Safe (sliceLen n i1 i2) Q := by
  unfold sliceLen
  apply safe_bind; apply safe_slice; intro s hs
  exact safe_pure (h s hs)


theorem safe_of_noUb {α} {g : G α} {Q : α → Prop} (h : NoUb g) (hq : ∀ a, Q a) : Safe g Q :=
  safe_mono h (fun a _ => hq a)

theorem noUb_iff {α} (g : G α) : NoUb g ↔ ∀ r, g ≠ .error (.ub r) := by
  unfold NoUb Safe
  cases g with
  | ok a => simp
  | error e => cases e <;> simp

theorem safe_sameLen {la lb : Int} {Q : Unit → Prop} (h : la = lb → Q ()) : Safe (sameLen la lb) Q := by
  unfold sameLen
  apply safe_bind; apply safe_require; intro e
  exact safe_accessRange (by intro; omega) (h e)

theorem safe_assignArr {d : Sl} {lr : Int} {Q : Unit → Prop} (h : Q ()) : Safe (assignArr d lr) Q := by
  unfold assignArr
  apply safe_bind; apply safe_slice; intro s _
  apply safe_require; intro _; exact h

theorem safe_assignList {n i1 i2 m : Int} {d : Sl} (hd : SliceSpec n i1 i2 m d) {lr : Int} {Q : Unit → Prop} (h : Q ()) :
    Safe (assignList d lr) Q := by
  unfold assignList
  apply safe_bind; apply safe_require; intro e
  refine safe_ite (fun hpos => ?_) (fun _ => safe_pure h)
  have f := hd.first (by omega); have l := hd.last (by omega)
  rw [hd.n_eq, hd.m_eq, ← e]
  apply safe_bind; apply safe_access f
  exact safe_access l h

theorem safe_plan {n len : Int} {Q : List Int → Prop} (h : len = n → Q [n]) : Safe (plan n len) Q := by
  unfold plan
  apply safe_bind; apply safe_require; intro e
  apply safe_bind; apply safe_accessRange (by intro; omega)
  exact safe_pure (h e)

theorem safe_fft1 {lx : Int} {Q : List Int → Prop} (h : 1 ≤ lx → Q [lx]) : Safe (fft1 lx) Q := by
  unfold fft1
  apply safe_bind; apply safe_require; intro e
  exact safe_plan (fun _ => h e)

/-- one structural step through a model body: the rule of the calculus for the program's head; the side conditions of
the two access rules go to `omega` -/
macro "gstep" : tactic => `(tactic| with_reducible first
  | apply safe_bind
  | (apply safe_require; intro _)
  | (apply safe_accessRange (by intro; omega))
  | exact safe_pure trivial
  | (apply safe_ite <;> intro _)
  | (apply safe_slice; intro _ _)
  | (apply safe_sliceLen; intro _ _)
  | (apply safe_alloc; intro _)
  | (apply safe_access (by omega))
  | (apply safe_sameLen; intro _)
  | apply safe_assignArr
  | (apply safe_plan; intro _)
  | (apply safe_fft1; intro _)
  | (refine safe_loopI (fun _ _ _ => ?_) ?_)
  | apply safe_pure
  | trivial)

/-- walk a whole body -/
macro "gauto" : tactic => `(tactic| repeat (first | gstep | split))

/-- the same, running `t` where no rule applies (the call of a sub-model that has a `_noUb` theorem) -/
macro "gauto" "[" t:tactic "]" : tactic => `(tactic| repeat (first | gstep | split | $t:tactic))

/-! ## per entry point: the modelled run never reaches `ub` -/

theorem binop_noUb (la lb : Int) : NoUb (binop la lb) := by unfold binop NoUb; gauto
theorem cmp_noUb (la lb : Int) : NoUb (Guards.cmp la lb) := binop_noUb la lb
theorem samelen_noUb (la lb : Int) : NoUb (samelen la lb) := by unfold samelen NoUb; gauto

theorem idxlist_noUb (n : Int) (es : List Int) : NoUb (idxlist n es) := by
  unfold idxlist NoUb
  apply safe_bind; apply safe_forM
  · intro e _
    apply safe_bind; apply safe_require; intro h
    exact safe_access h trivial
  · exact safe_pure trivial

theorem mask_noUb (n : Int) (bits : List Int) : NoUb (mask n bits) := by unfold mask NoUb; gauto

theorem sliceRead_noUb (n i1 i2 m : Int) : NoUb (sliceRead n i1 i2 m) := by unfold sliceRead NoUb; gauto
theorem sasgArr_noUb (n i1 i2 m lr : Int) : NoUb (sasgArr n i1 i2 m lr) := by unfold sasgArr NoUb; gauto
theorem sasgList_noUb (n i1 i2 m lr : Int) : NoUb (sasgList n i1 i2 m lr) := by
  unfold sasgList NoUb; apply safe_bind; apply safe_slice; intro s hs
  apply safe_bind; apply safe_assignList hs; exact safe_pure trivial
theorem sasgSlice_noUb (n d1 d2 dm n2 s1 s2 sm : Int) : NoUb (sasgSlice n d1 d2 dm n2 s1 s2 sm) := by
  unfold sasgSlice NoUb; gauto

theorem plan_noUb (n len : Int) : NoUb (plan n len) := safe_plan fun _ => trivial

theorem fft1_noUb (lx : Int) : NoUb (fft1 lx) := safe_fft1 fun _ => trivial

theorem fftn_noUb (lx n : Int) : NoUb (fftn lx n) := by
  unfold fftn NoUb
  refine safe_ite (fun _ => fft1_noUb _) fun _ => safe_ite (fun _ => plan_noUb _ _) fun _ => ?_
  apply safe_bind; apply safe_sliceLen; intro s _; exact fft1_noUb _

theorem tdiv2_pos {n : Int} (h : Int.tdiv n 2 ≥ 1) : 0 ≤ n := by
  by_contra hc
  have h0 : -n ≥ 0 := by omega
  have h1 : 0 ≤ Int.tdiv (-n) 2 := Int.tdiv_nonneg h0 (by omega)
  rw [Int.neg_tdiv] at h1
  omega

theorem irfft_noUb (lx n : Int) : NoUb (irfft lx n) := by
  unfold irfft NoUb
  apply safe_bind; apply safe_require; intro h1
  apply safe_bind; apply safe_require; intro h2
  apply safe_bind; apply safe_require; intro h3
  have hn : 0 ≤ n := tdiv2_pos h1
  rw [Int.tdiv_eq_ediv_of_nonneg hn] at h1 h3 ⊢; rw [Int.tmod_eq_emod_of_nonneg hn] at h2
  gauto

theorem le_pow2ceil (m : Int) : m ≤ pow2ceil m ∧ 1 ≤ pow2ceil m := by
  unfold pow2ceil np2
  refine ⟨Int.toNat_le.mp ?_, by exact_mod_cast Nat.one_le_two_pow⟩
  split
  · omega
  · have := @Nat.lt_log2_self (m.toNat - 1)
    omega

theorem czt_noUb (n m len : Int) (hm : 1 ≤ m) : NoUb (czt n m len) := by
  unfold czt NoUb
  apply safe_bind; apply safe_require; intro h
  dsimp only
  have := le_pow2ceil (m + n - 1)
  apply safe_bind; apply safe_accessRange (by intro; omega)
  apply safe_bind; exact safe_of_noUb (plan_noUb _ _) (fun _ => by gauto)

theorem firconv_noUb (lx lh : Int) : NoUb (firconv lx lh) := by
  unfold firconv NoUb
  dsimp only
  gauto

theorem fir_noUb (lh lx : Int) : NoUb (fir lh lx) := by
  unfold fir NoUb
  dsimp only
  apply safe_bind; exact safe_of_noUb (firconv_noUb _ _) (fun r => by gauto)


theorem fftfiltGo_noUb (lh fftLen : Int) (h1 : 1 ≤ lh) (h2 : 2 * lh ≤ fftLen) (frames : List Int) :
    ∀ nx, NoUb (fftfiltGo lh fftLen (fftLen - lh + 1) nx frames) := by
  induction frames with
  | nil => intro nx; unfold fftfiltGo NoUb; exact safe_pure trivial
  | cons lx rest ih =>
    intro nx
    unfold fftfiltGo NoUb
    dsimp only
    gauto [refine safe_of_noUb (ih _) (fun _ => ?_)]

theorem fftfilt_noUb (lh : Int) (frames : List Int) (h1 : 1 ≤ lh) : NoUb (fftfilt lh frames) := by
  unfold fftfilt NoUb
  dsimp only
  apply safe_bind; apply safe_alloc; intro _
  exact fftfiltGo_noUb lh _ h1 (le_pow2ceil (2 * lh)).1 frames 0

/-- the zero-padded prototype length is `n·m`, `n = sublen` -/
theorem polyphase_len (lh m : Int) (h0 : 0 ≤ lh) (hm : 1 ≤ m) :
    sublen lh m * m = (if Int.tmod lh m = 0 then lh else (Int.tdiv lh m + 1) * m) ∧ lh ≤ sublen lh m * m ∧ 0 ≤ sublen lh m := by
  have hd := Int.tdiv_mul_add_tmod lh m
  have hlt := Int.tmod_lt_of_pos lh (show 0 < m by omega)
  have hq := Int.tdiv_nonneg h0 (show 0 ≤ m by omega)
  unfold sublen
  split
  · exact ⟨by omega, by omega, hq⟩
  · exact ⟨rfl, by rw [Int.add_mul, Int.one_mul]; omega, by omega⟩

theorem polyphase_noUb (lh m : Int) (h0 : 0 ≤ lh) (hm : 1 ≤ m) : NoUb (polyphase lh m) := by
  obtain ⟨p2, p3, p4⟩ := polyphase_len lh m h0 hm
  unfold polyphase NoUb
  dsimp only
  rw [← p2, Int.mul_tdiv_cancel _ (show m ≠ 0 by omega)]
  apply safe_bind; apply safe_require; intro _
  apply safe_bind; apply safe_alloc; intro _
  rw [Int.sub_mul, Int.one_mul]
  gauto

theorem decim_noUb (d lh lx : Int) (hd : 1 ≤ d) (hh : 0 ≤ lh) (hx : 0 ≤ lx) : NoUb (decim d lh lx) := by
  unfold decim NoUb
  dsimp only
  apply safe_bind; refine safe_of_noUb (polyphase_noUb lh d hh hd) (fun _ => ?_)
  apply safe_bind; apply safe_alloc; intro hnd
  apply safe_bind; apply safe_require; intro hmod
  apply safe_bind; apply safe_accessRange (by intro; omega)
  have hdm := Int.tdiv_mul_add_tmod lx d
  rw [Int.sub_mul, Int.one_mul, Int.mul_comm (sublen lh d - 1)]
  gauto

theorem interp_noUb (L lh lx : Int) (hL : 1 ≤ L) (hh : 0 ≤ lh) (hx : 0 ≤ lx) : NoUb (interp L lh lx) := by
  unfold interp NoUb
  dsimp only
  apply safe_bind; refine safe_of_noUb (polyphase_noUb lh L hh hL) (fun _ => ?_)
  gauto

theorem zeropad_noUb (lx n : Int) : NoUb (zeropad lx n) := by unfold zeropad NoUb; gauto
theorem linspace_noUb (n : Int) : NoUb (linspace n) := by unfold linspace NoUb; gauto
theorem arange_noUb (a b s : Int) : NoUb (arange a b s) := by unfold arange NoUb; gauto
theorem toComplex_noUb (n : Int) : NoUb (toComplex n) := by unfold toComplex NoUb; gauto
theorem finddelay_noUb (a b : Int) : NoUb (finddelay a b) := by unfold finddelay NoUb; dsimp only; gauto

theorem repelem_noUb (lx n : Int) : NoUb (repelem lx n) := by
  unfold repelem NoUb
  rw [Int.sub_mul, Int.one_mul]
  gauto

theorem delayseq_noUb (n d : Int) : NoUb (delayseq n d) := by
  unfold delayseq NoUb
  dsimp only
  gauto

theorem downsample_noUb (lx n ph : Int) : NoUb (downsample lx n ph) := by
  unfold downsample NoUb
  apply safe_bind; apply safe_require; intro hn
  apply safe_bind; apply safe_require; intro hp
  refine safe_ite (fun _ => safe_pure trivial) fun _ => ?_
  dsimp only
  apply safe_bind; apply safe_alloc; intro hnr
  split
  · have ha : 0 ≤ lx - ph - 1 := by omega
    rw [Int.tdiv_eq_ediv_of_nonneg ha] at hnr ⊢
    have hle := Int.ediv_mul_le (lx - ph - 1) (show n ≠ 0 by omega)
    rw [Int.add_sub_cancel]
    have hq : 0 ≤ (lx - ph - 1) / n := Int.ediv_nonneg ha (by omega)
    gauto
  · gauto

theorem upsample_noUb (lx n ph : Int) : NoUb (upsample lx n ph) := by
  unfold upsample NoUb
  apply safe_bind; apply safe_require; intro hn
  apply safe_bind; apply safe_require; intro hp
  refine safe_ite (fun _ => safe_pure trivial) fun _ => ?_
  dsimp only
  split
  · have ha : 0 ≤ lx * n - ph - 1 := by omega
    have hle := Int.ediv_mul_le (lx * n - ph - 1) (show n ≠ 0 by omega)
    have hlt : (lx * n - ph - 1) / n < lx := Int.ediv_lt_of_lt_mul (by omega) (by omega)
    rw [Int.add_sub_cancel]
    have hq : 0 ≤ (lx * n - ph - 1) / n := Int.ediv_nonneg ha (by omega)
    gauto
  · gauto

theorem symWindow_noUb (n : Int) (sym : Bool) (taper : Int → Int → G Unit)
    (ht : ∀ np m, (Int.tmod np 2 = 0 ∧ m = Int.tdiv np 2 ∨ Int.tmod np 2 ≠ 0 ∧ m = Int.tdiv (np + 1) 2) → NoUb (taper np m)) :
    NoUb (symWindow n sym taper) := by
  unfold symWindow NoUb
  apply safe_bind; apply safe_alloc; intro _
  -- nothing below depends on `sym`: the slices carry their own specification
  generalize (if sym = true then (0 : Int) else 1) = nl
  generalize (if sym = true then n else n + 1) = np
  refine safe_ite (fun he => ?_) (fun he => ?_)
  · gauto [refine safe_of_noUb (ht _ _ (Or.inl ⟨he, rfl⟩)) (fun _ => ?_)]
  · gauto [refine safe_of_noUb (ht _ _ (Or.inr ⟨he, rfl⟩)) (fun _ => ?_)]

theorem window_noUb (n : Int) (sym : Bool) : NoUb (window n sym) := by
  unfold window
  exact symWindow_noUb n sym _ (fun _ _ _ => safe_pure trivial)

theorem kaiser_noUb (n : Int) : NoUb (kaiser n) := by unfold kaiser NoUb; dsimp only; gauto

theorem medianfilter_noUb (n lx : Int) : NoUb (medianfilter n lx) := by
  unfold medianfilter NoUb
  apply safe_bind; apply safe_require; intro hn
  rw [Int.tdiv_eq_ediv_of_nonneg (show 0 ≤ n by omega)]
  gauto

theorem medfilt_noUb (lx n : Int) : NoUb (medfilt lx n) := by
  unfold medfilt NoUb
  dsimp only
  apply safe_bind; refine safe_of_noUb (medianfilter_noUb _ _) (fun _ => ?_)
  gauto

theorem iscola_noUb (lw nov : Int) : NoUb (iscola lw nov) := by
  unfold iscola NoUb
  dsimp only
  apply safe_bind; apply safe_require; intro hh
  rw [Int.tdiv_eq_ediv_of_nonneg (show 0 ≤ lw - nov by omega)]
  gauto

theorem convertRangeStft_noUb (nfft range : Int) : NoUb (convertRangeStft nfft range) := by
  unfold convertRangeStft NoUb; gauto

theorem stft_noUb (lx lw ov nfft range : Int) : NoUb (stft lx lw ov nfft range) := by
  unfold stft NoUb
  dsimp only
  gauto [refine safe_of_noUb (convertRangeStft_noUb _ _) (fun _ => ?_)]

theorem convertRangeIstft_noUb (lf nfft range : Int) : NoUb (convertRangeIstft lf nfft range) := by
  unfold convertRangeIstft NoUb; gauto

theorem istft_noUb (nseg lf lw ov nfft range : Int) : NoUb (istft nseg lf lw ov nfft range) := by
  unfold istft NoUb
  dsimp only
  gauto [first
    | refine safe_of_noUb (convertRangeIstft_noUb _ _ _) (fun _ => ?_)
    | refine safe_of_noUb (irfft_noUb _ _) (fun _ => ?_)]

theorem isPow2_pos {n : Int} (h : isPow2 n) : 1 ≤ n := by
  unfold isPow2 at h; have := (le_pow2ceil n).2; omega

theorem welch_noUb (lx lw nov nfft cplx : Int) : NoUb (welch lx lw nov nfft cplx) := by
  unfold welch NoUb
  dsimp only
  apply safe_bind; apply safe_require; intro hp
  have hpos := isPow2_pos hp
  rw [Int.tdiv_eq_ediv_of_nonneg (show 0 ≤ nfft by omega)]
  apply safe_bind; apply safe_require; intro _
  apply safe_bind; apply safe_alloc; intro _
  apply safe_bind; apply safe_alloc; intro _
  apply safe_bind
  refine safe_loopI (fun _ _ _ => ?_) ?_
  · gauto [refine safe_of_noUb (fftn_noUb _ _) (fun _ => ?_)]
  · refine safe_ite (fun _ => ?_) (fun _ => safe_pure trivial)
    apply safe_bind; apply safe_sliceLen; intro s hs
    have := hs.step1 rfl (by omega) (by omega)
    apply safe_bind; apply safe_access (by omega)
    exact safe_pure trivial

theorem mscohere_noUb (lx ly lw nov nfft : Int) : NoUb (mscohere lx ly lw nov nfft) := by
  unfold mscohere NoUb
  dsimp only
  gauto [refine safe_of_noUb (fftn_noUb _ _) (fun _ => ?_)]

theorem lms_noUb (len lx ld : Int) : NoUb (lms len lx ld) := by
  unfold lms NoUb
  dsimp only
  gauto

theorem rls_noUb (n lx ld : Int) : NoUb (rls n lx ld) := by
  unfold rls NoUb
  rw [Int.sub_mul, Int.one_mul]
  gauto

theorem delay_noUb (nd lx : Int) : NoUb (delay nd lx) := by unfold delay NoUb; dsimp only; gauto
theorem xcorr_noUb (l1 l2 : Int) : NoUb (xcorr l1 l2) := by unfold xcorr NoUb; dsimp only; gauto

theorem hilbert_noUb (n : Int) : NoUb (hilbert n) := by
  unfold hilbert NoUb
  apply safe_bind; apply safe_fft1; intro hn
  rw [Int.tdiv_eq_ediv_of_nonneg (show 0 ≤ n by omega)]
  gauto


theorem tukey_noUb (n rn rd : Int) (hrd : 0 < rd) : NoUb (tukey n rn rd) := by
  unfold tukey
  apply symWindow_noUb
  intro np m hrel
  unfold NoUb
  refine safe_ite (fun _ => safe_pure trivial) fun hr => ?_
  · have hr1 : 0 < rn := by omega
    have hr2 : rn < rd := by omega
    apply safe_accessRange _ trivial
    intro hhi
    refine ⟨le_refl _, ?_⟩
    by_cases hnp : np ≤ 0
    · have hneg : rn * (np - 1) < 0 := Int.mul_neg_of_pos_of_neg hr1 (by omega)
      have := Int.ediv_neg_of_neg_of_pos hneg (show 0 < 2 * rd by omega)
      omega
    · have hle : rn * (np - 1) ≤ rd * (np - 1) := Int.mul_le_mul_of_nonneg_right (le_of_lt hr2) (by omega)
      have h1 := Int.ediv_le_ediv (show 0 < 2 * rd by omega) hle
      have h2 : rd * (np - 1) / (2 * rd) = (np - 1) / 2 := by
        rw [Int.mul_comm 2 rd]; exact Int.mul_ediv_mul_of_pos _ _ hrd
      have hnp0 : 0 ≤ np := by omega
      rw [Int.tdiv_eq_ediv_of_nonneg hnp0, Int.tmod_eq_emod_of_nonneg hnp0,
        Int.tdiv_eq_ediv_of_nonneg (show 0 ≤ np + 1 by omega)] at hrel
      omega


/-! ### the branch table of `FIRRateConverter` -/

theorem xidxsInner_spec (M i : Nat) (k : Nat) : ∀ st acc, st < M →
    (xidxsInner M i k st acc).2.length * M + (xidxsInner M i k st acc).1 = acc.length * M + st + k ∧
    (xidxsInner M i k st acc).1 < M ∧ ∀ x ∈ (xidxsInner M i k st acc).2, x ∈ acc ∨ x = i := by
  induction k with
  | zero => intro st acc h; unfold xidxsInner; exact ⟨by simp, h, fun x hx => Or.inl hx⟩
  | succ k ih =>
    intro st acc h
    unfold xidxsInner
    split
    · rename_i he
      obtain ⟨a, b, c⟩ := ih 0 (acc ++ [i]) (by omega)
      refine ⟨?_, b, fun x hx =>
        (c x hx).elim (fun h1 => (List.mem_append.mp h1).imp_right List.eq_of_mem_singleton) Or.inr⟩
      rw [a, List.length_append, List.length_singleton, Nat.add_mul]; omega
    · rename_i he
      obtain ⟨a, b, c⟩ := ih (st + 1) acc (by omega)
      exact ⟨by omega, b, c⟩

theorem xidxsOuter_spec (L M : Nat) (r : Nat) : ∀ i st acc, st < M →
    ∃ st', (xidxsOuter L M r i st acc).length * M + st' = acc.length * M + st + r * L ∧ st' < M ∧
      ∀ x ∈ xidxsOuter L M r i st acc, x ∈ acc ∨ (i ≤ x ∧ x < i + r) := by
  induction r with
  | zero => intro i st acc h; unfold xidxsOuter; exact ⟨st, by omega, h, fun x hx => Or.inl hx⟩
  | succ r ih =>
    intro i st acc h
    unfold xidxsOuter
    dsimp only
    obtain ⟨a, b, c⟩ := xidxsInner_spec M i L st acc h
    obtain ⟨st', a', b', c'⟩ := ih (i + 1) _ (xidxsInner M i L st acc).2 b
    refine ⟨st', ?_, b', fun x hx =>
      (c' x hx).elim (fun h1 => (c x h1).imp_right fun h2 => by omega) fun h1 => Or.inr (by omega)⟩
    rw [a', Nat.add_mul]; omega

theorem xidxs_spec (L M : Nat) (hM : 1 ≤ M) : (xidxs L M).length = L ∧ ∀ x ∈ xidxs L M, x < M := by
  unfold xidxs
  obtain ⟨st', a, b, c⟩ := xidxsOuter_spec L M M 0 0 [] (by omega)
  simp only [List.length_nil, Nat.zero_mul, Nat.zero_add] at a
  constructor
  · -- `len·M + st' = M·L` with `st' < M`: divide by `M`
    have h := Nat.mul_add_div (show 0 < M by omega) (xidxsOuter L M M 0 0 []).length st'
    rw [Nat.mul_comm, a, Nat.mul_div_cancel_left _ (by omega), Nat.div_eq_of_lt b] at h
    exact h.symm
  · intro x hx
    rcases c x hx with h | h
    · simp at h
    · omega

theorem rateconv_noUb (L M lh lx : Int) (hL : 1 ≤ L) (hM : 1 ≤ M) (hh : 0 ≤ lh) (hx : 0 ≤ lx) : NoUb (rateconv L M lh lx) := by
  obtain ⟨xl, xb⟩ := xidxs_spec L.toNat M.toNat (by omega)
  unfold rateconv NoUb
  dsimp only
  apply safe_bind; refine safe_of_noUb (polyphase_noUb lh L hh hL) (fun _ => ?_)
  apply safe_bind; apply safe_alloc; intro hnd
  apply safe_bind; apply safe_require; intro hmod
  apply safe_bind; apply safe_accessRange (by intro; omega)
  have hdm := Int.tdiv_mul_add_tmod lx M
  refine safe_ite (fun _ => ?_) (fun _ => safe_pure trivial)
  apply safe_bind; apply safe_access (by rw [xl]; omega)
  refine safe_ite (fun _ => ?_) (fun _ => safe_pure trivial)
  apply safe_bind
  · apply safe_forM _ trivial
    intro off hoff
    have hb := xb off hoff
    rw [Int.sub_mul, Int.one_mul]
    exact safe_accessRange (by intro; omega) trivial


theorem reduced_pos (a b : Int) (ha : 1 ≤ a) : 1 ≤ Int.tdiv a ((Nat.gcd a.toNat b.toNat : Nat) : Int) := by
  obtain ⟨k, rfl⟩ := Int.eq_ofNat_of_zero_le (show 0 ≤ a by omega)
  have hk : 0 < k := by omega
  rw [Int.toNat_natCast, ← Int.ofNat_tdiv]
  exact Int.natCast_pos.mpr (Nat.div_pos (Nat.gcd_le_left _ hk) (Nat.gcd_pos_of_pos_left _ hk))

theorem reduced_pos' (a b : Int) (hb : 1 ≤ b) : 1 ≤ Int.tdiv b ((Nat.gcd a.toNat b.toNat : Nat) : Int) := by
  rw [Nat.gcd_comm]; exact reduced_pos b a hb

theorem nextSize_nonneg (size q : Int) (hs : 0 ≤ size) (hq : 1 ≤ q) : 0 ≤ nextSize size q := by
  unfold nextSize
  split
  · exact hs
  · exact Int.mul_nonneg (by have := Int.tdiv_nonneg hs (show (0 : Int) ≤ q by omega); omega) (by omega)

theorem sublen_nonneg (lh m : Int) (h0 : 0 ≤ lh) (hm : 1 ≤ m) : 0 ≤ sublen lh m := (polyphase_len lh m h0 hm).2.2

theorem resampleDelay_nonneg (p q lh : Int) (hp : 1 ≤ p) (hq : 1 ≤ q) (hh : 0 ≤ lh) : 0 ≤ resampleDelay p q lh := by
  unfold resampleDelay
  have s1 := sublen_nonneg lh q hh hq
  have s2 := sublen_nonneg lh p hh hp
  split
  · exact Int.tdiv_nonneg s1 (by omega)
  split
  · exact Int.tdiv_nonneg (Int.mul_nonneg s2 (by omega)) (by omega)
  · dsimp only
    split
    · omega
    · exact Int.tdiv_nonneg (by omega) (by omega)

theorem resample_noUb (lx p0 q0 lh : Int) (hp : 1 ≤ p0) (hq : 1 ≤ q0) (hh : 0 ≤ lh) (hx : 0 ≤ lx) : NoUb (resample lx p0 q0 lh) := by
  unfold resample NoUb
  dsimp only
  have p1 := reduced_pos p0 q0 hp
  have q1 := reduced_pos' p0 q0 hq
  generalize Int.tdiv p0 ((Nat.gcd p0.toNat q0.toNat : Nat) : Int) = p at p1 ⊢
  generalize Int.tdiv q0 ((Nat.gcd p0.toNat q0.toNat : Nat) : Int) = q at q1 ⊢
  refine safe_ite (fun _ => safe_pure trivial) fun _ => safe_ite (fun _ => safe_pure trivial) fun _ => ?_
  have hnx := nextSize_nonneg lx q hx q1
  have hdl := resampleDelay_nonneg p q lh p1 q1 hh
  have hmdl : 0 ≤ Int.tdiv (resampleDelay p q lh * q + p - 1) p :=
    Int.tdiv_nonneg (by have := Int.mul_nonneg hdl (show (0 : Int) ≤ q by omega); omega) (by omega)
  have hnn := nextSize_nonneg (nextSize lx q + Int.tdiv (resampleDelay p q lh * q + p - 1) p) q (by omega) q1
  apply safe_bind; apply safe_require; intro _
  refine safe_ite (fun _ => ?_) fun _ => safe_ite (fun _ => ?_) fun _ => ?_
  · apply safe_bind; refine safe_of_noUb (decim_noUb q lh _ q1 hh hnn) (fun _ => ?_); gauto
  · apply safe_bind; refine safe_of_noUb (interp_noUb p lh _ p1 hh hnn) (fun _ => ?_); gauto
  · apply safe_bind; refine safe_of_noUb (rateconv_noUb p q lh _ p1 q1 hh hnn) (fun _ => ?_); gauto


/-! ## T05.1 -/

/-- the documented ranges of the modelled calls: rates / orders / plan sizes ≥ 1, array lengths ≥ 0, a positive
denominator for the `tukey` ratio.  Every other entry point is unconstrained (any integers). -/
def documented : Call → Prop
  | .czt n m _ => 1 ≤ n ∧ 1 ≤ m
  | .fftfilt lh _ => 1 ≤ lh
  | .polyphase lh m => 0 ≤ lh ∧ 1 ≤ m
  | .decim d lh lx => 1 ≤ d ∧ 0 ≤ lh ∧ 0 ≤ lx
  | .interp L lh lx => 1 ≤ L ∧ 0 ≤ lh ∧ 0 ≤ lx
  | .rateconv L M lh lx => 1 ≤ L ∧ 1 ≤ M ∧ 0 ≤ lh ∧ 0 ≤ lx
  | .resample lx p q lh => 1 ≤ p ∧ 1 ≤ q ∧ 0 ≤ lh ∧ 0 ≤ lx
  | .tukey _ _ rd => 0 < rd
  | _ => True

theorem run_noUb (c : Call) (h : documented c) : NoUb c.run := by
  cases c with
  | binop a b => exact binop_noUb a b
  | cmp a b => exact cmp_noUb a b
  | samelen a b => exact samelen_noUb a b
  | idxlist n es => exact idxlist_noUb n es
  | mask n bs => exact mask_noUb n bs
  | slice n a b m => exact sliceRead_noUb n a b m
  | sasgArr n a b m l => exact sasgArr_noUb n a b m l
  | sasgList n a b m l => exact sasgList_noUb n a b m l
  | sasgSlice n a b c n2 d e f => exact sasgSlice_noUb n a b c n2 d e f
  | plan n l => exact plan_noUb n l
  | fft l => exact fft1_noUb l
  | fftn l n => exact fftn_noUb l n
  | irfft l n => exact irfft_noUb l n
  | czt n m l => exact czt_noUb n m l h.2
  | firconv a b => exact firconv_noUb a b
  | fir a b => exact fir_noUb a b
  | fftfilt lh fr => exact fftfilt_noUb lh fr h
  | polyphase a b => exact polyphase_noUb a b h.1 h.2
  | decim a b c => exact decim_noUb a b c h.1 h.2.1 h.2.2
  | interp a b c => exact interp_noUb a b c h.1 h.2.1 h.2.2
  | rateconv a b c d => exact rateconv_noUb a b c d h.1 h.2.1 h.2.2.1 h.2.2.2
  | resample a b c d => exact resample_noUb a b c d h.1 h.2.1 h.2.2.1 h.2.2.2
  | zeropad a b => exact zeropad_noUb a b
  | repelem a b => exact repelem_noUb a b
  | delayseq a b => exact delayseq_noUb a b
  | downsample a b c => exact downsample_noUb a b c
  | upsample a b c => exact upsample_noUb a b c
  | finddelay a b => exact finddelay_noUb a b
  | linspace n => exact linspace_noUb n
  | arange a b s => exact arange_noUb a b s
  | toComplex n => exact toComplex_noUb n
  | window n s => exact window_noUb n s
  | tukey n a b => exact tukey_noUb n a b h
  | kaiser n => exact kaiser_noUb n
  | medianfilter n l => exact medianfilter_noUb n l
  | medfilt l n => exact medfilt_noUb l n
  | iscola a b => exact iscola_noUb a b
  | stft a b c d e => exact stft_noUb a b c d e
  | istft a b c d e f => exact istft_noUb a b c d e f
  | welch a b c d e => exact welch_noUb a b c d e
  | mscohere a b c d e => exact mscohere_noUb a b c d e
  | lms a b c => exact lms_noUb a b c
  | rls a b c => exact rls_noUb a b c
  | delay a b => exact delay_noUb a b
  | xcorr a b => exact xcorr_noUb a b
  | hilbert n => exact hilbert_noUb n

/-- **T05.1 `no_ub`** — "either returns normally or throws a C++ exception … never reads or writes outside the storage of
its operands": for every modelled call in the documented ranges the modelled outcome is `ok shape` or `throws`, never `ub`;
since `ub` is what the model produces when an unchecked subscript leaves its buffer (`access_ok_iff`), every modelled access
of a returning call is in bounds.  Lengths, index lists, plan sizes, slice arguments range over ALL integers. -/
theorem no_ub (c : Call) (h : documented c) : ∀ r, c.outcome ≠ .ub r := by
  intro r
  have := (noUb_iff _).mp (run_noUb c h) r
  unfold Call.outcome outcome
  intro hc
  split at hc <;> simp_all

/-- the meaning of `ok` for a raw subscript: `access` returns exactly when the index is inside the buffer -/
theorem access_ok_iff (w : String) (i n : Int) : access w i n = .ok () ↔ 0 ≤ i ∧ i < n := by
  unfold access; split <;> simp_all

/-- a constructed slice satisfies its specification -/
theorem slice_spec {n i1 i2 m : Int} {s : Sl} (h : slice n i1 i2 m = .ok s) : SliceSpec n i1 i2 m s := by
  have := safe_slice (n := n) (i1 := i1) (i2 := i2) (m := m) (Q := SliceSpec n i1 i2 m) (fun _ hs => hs)
  rw [h] at this; exact this

/-- C04's `in_bounds`, restated for this model: EVERY position `i1 + j·m`, `j < nc`, the iterator of a constructed slice
visits lies in `[0, n)` — not only the two extreme ones the model checks; all `n i1 i2 m : Int`. -/
theorem slice_in_bounds {n i1 i2 m : Int} {s : Sl} (h : slice n i1 i2 m = .ok s) (j : Int) (h0 : 0 ≤ j) (h1 : j < s.nc) :
    0 ≤ s.i1 + j * m ∧ s.i1 + j * m < n := by
  have hs := slice_spec h
  have f := hs.first (by omega)
  have l := hs.last (by omega)
  rcases le_or_gt 0 m with hm | hm
  · have a1 : 0 ≤ j * m := Int.mul_nonneg h0 hm
    have a2 : j * m ≤ (s.nc - 1) * m := Int.mul_le_mul_of_nonneg_right (by omega) hm
    omega
  · have a1 : j * m ≤ 0 := Int.mul_nonpos_of_nonneg_of_nonpos h0 (le_of_lt hm)
    have a2 : (s.nc - 1) * m ≤ j * m := Int.mul_le_mul_of_nonpos_right (by omega) (le_of_lt hm)
    omega

/-! ## T05.2: the misuse classes are exactly the `throws` outcomes -/

theorem accessRange_ok {w : String} {lo hi n : Int} (h : lo ≤ hi → 0 ≤ lo ∧ hi < n) : accessRange w lo hi n = .ok () := by
  unfold accessRange access
  by_cases hh : hi < lo
  · rw [if_pos hh]
  · have := h (by omega)
    rw [if_neg hh, if_pos (by omega), if_pos (by omega)]; rfl

/-- an assert `c` that makes the following read of `x[0 … hi]` from an `n`-element buffer safe: throws exactly when `c` fails -/
theorem assert_read_throws_iff {c : Prop} [Decidable c] {w : String} {hi n : Int} {s : List Int} (hc : c → hi < n) :
    outcome (do require c; accessRange w 0 hi n; pure s) = .throws ↔ ¬ c := by
  unfold require
  by_cases h : c
  · rw [if_pos h]
    show outcome (accessRange w 0 hi n >>= fun _ => pure s) = .throws ↔ ¬ c
    rw [accessRange_ok (fun _ => ⟨Int.le_refl 0, hc h⟩)]
    exact ⟨fun hh => Outcome.noConfusion hh, fun hh => absurd h hh⟩
  · rw [if_neg h]
    exact ⟨fun _ => h, fun _ => rfl⟩

/-- "mismatched array lengths": `a ∘= b`, `a ∘ b` throw exactly when the lengths differ -/
theorem binop_throws_iff (la lb : Int) : outcome (binop la lb) = .throws ↔ la ≠ lb := by
  unfold binop sameLen
  rw [bind_assoc]
  exact assert_read_throws_iff (fun h => by omega)

/-- "plan objects applied to inputs of another length": throws exactly when `len ≠ n` -/
theorem plan_throws_iff (n len : Int) : outcome (plan n len) = .throws ↔ len ≠ n :=
  assert_read_throws_iff (fun h => by omega)

/-- the asserted walk over an index list returns exactly when every entry is in `[0, n)` -/
theorem idxlist_walk_ok_iff (n : Int) (es : List Int) :
    es.forM (fun e => do require (e ≥ 0 ∧ e < n); access "_vec[idxs[i]]" e n) = (.ok () : G Unit) ↔
      ∀ e ∈ es, 0 ≤ e ∧ e < n := by
  induction es with
  | nil => exact ⟨fun _ _ h => (nomatch h), fun _ => rfl⟩
  | cons a t ih =>
    show ((do require (a ≥ 0 ∧ a < n); access "_vec[idxs[i]]" a n) >>= fun _ => t.forM _) = _ ↔ _
    rw [List.forall_mem_cons, ← ih]
    by_cases ha : a ≥ 0 ∧ a < n <;> simp [require, access, ha, bind, Except.bind]

/-- "out-of-range or negative entries in index lists": `a[idxs]` returns `|idxs|` elements when every entry is in `[0, n)`
(in particular for the empty list) -/
theorem idxlist_ok (n : Int) (es : List Int) (h : ∀ e ∈ es, 0 ≤ e ∧ e < n) : idxlist n es = .ok [(es.length : Int)] := by
  unfold idxlist
  rw [(idxlist_walk_ok_iff n es).2 h]; rfl

/-- … and throws as soon as one entry is negative or ≥ n -/
theorem idxlist_throws (n : Int) (es : List Int) (h : ∃ e ∈ es, e < 0 ∨ e ≥ n) : outcome (idxlist n es) = .throws := by
  have hn := (noUb_iff _).mp (idxlist_noUb n es)
  cases hr : idxlist n es with
  | error e => cases e with
    | throws => rfl
    | ub r => exact absurd hr (hn r)
  | ok s =>
    exfalso
    obtain ⟨e, he, hb⟩ := h
    unfold idxlist at hr
    cases hf : es.forM (fun e => do require (e ≥ 0 ∧ e < n); access "_vec[idxs[i]]" e n) with
    | ok u => have := (idxlist_walk_ok_iff n es).1 hf e he; omega
    | error e' => rw [hf] at hr; exact nomatch hr

/-- "right-hand sides longer than the target": a braced list assigned to a constructed slice throws exactly when its
length differs from the slice's element count -/
theorem assignList_throws_iff {n i1 i2 m : Int} {d : Sl} (hd : slice n i1 i2 m = .ok d) (lr : Int) :
    assignList d lr = .error .throws ↔ d.nc ≠ lr := by
  have hs := slice_spec hd
  unfold assignList require
  by_cases h : d.nc = lr
  · subst h
    by_cases hp : d.nc > 0
    · have f := hs.first (by omega)
      have l := hs.last (by omega)
      rw [← hs.n_eq] at f
      rw [← hs.n_eq, ← hs.m_eq] at l
      simp [access, hp, f, l, bind, Except.bind]
    · simp [hp, bind, Except.bind, pure, Except.pure]
  · simp [h, bind, Except.bind]

/-! ## the guards are needed: without them the same access leaves the buffer (non-vacuity of `ub`) -/

/-- array comparison `a > b` with 8 vs 3 elements, size assert removed (the defect repaired by ddafd7f) -/
theorem guard_needed_cmp : accessRange "rhs[i]" 0 (8 - 1) 3 = .error (.ub "rhs[i]") := by decide
/-- `FftPlan(16)` on 8 samples, length assert removed (8d35e96) -/
theorem guard_needed_plan : accessRange "x[i], i < plan length" 0 (16 - 1) 8 = .error (.ub "x[i], i < plan length") := by decide
/-- index list `{-3, 2}` on 5 elements, entry assert removed (4905ca4) -/
theorem guard_needed_idxlist : access "_vec[idxs[i]]" (-3) 5 = .error (.ub "_vec[idxs[i]]") := by decide

/-! ## T05.3: `Pow2FftPlan::_fft` -/

/-- stage `i < l` of the radix-2 loop on `n = 2^l` points (`h = 2^i` butterflies per cluster, `m = 2^(l-1-i)` clusters,
cluster stride `r = 2^(i+1)`): the two operands `out[j·r + k]`, `out[h + j·r + k]` and the twiddle `coeffs_[k·m]`
(`j < m`, `k < h`) are inside their `n`-element buffers. -/
theorem pow2_butterfly_in_bounds (l i j k : Nat) (hi : i < l) (hj : j < 2 ^ (l - 1 - i)) (hk : k < 2 ^ i) :
    2 ^ i + j * 2 ^ (i + 1) + k < 2 ^ l ∧ k * 2 ^ (l - 1 - i) < 2 ^ l := by
  have e : 2 ^ l = 2 ^ (l - 1 - i) * 2 ^ (i + 1) := by rw [← pow_add]; congr 1; omega
  have e2 : 2 ^ (i + 1) = 2 ^ i * 2 := Nat.pow_succ 2 i
  have h1 : (j + 1) * 2 ^ (i + 1) ≤ 2 ^ l := by rw [e]; exact Nat.mul_le_mul_right _ (by omega)
  have h2 := Nat.add_mul j 1 (2 ^ (i + 1))
  constructor
  · omega
  · have h3 : k * 2 ^ (l - 1 - i) < 2 ^ i * 2 ^ (l - 1 - i) := Nat.mul_lt_mul_of_pos_right hk (Nat.two_pow_pos _)
    have h4 : 2 ^ i * 2 ^ (l - 1 - i) * 2 = 2 ^ l := by rw [e, e2]; ring
    omega

/-! ## non-vacuity: concrete calls on both sides of each guard -/

example : (Call.plan 16 8).outcome = .throws := by decide
example : (Call.plan 16 16).outcome = .ok [16] := by decide
example : (Call.cmp 8 3).outcome = .throws := by decide
example : (Call.idxlist 5 [-3, 2]).outcome = .throws := by decide
example : (Call.idxlist 5 []).outcome = .ok [0] := by decide
example : (Call.idxlist 5 [4, 0, 4]).outcome = .ok [3] := by decide
example : (Call.sasgList 5 0 0 (-4) 4).outcome = .throws := by decide
example : (Call.sasgList 5 4 0 (-2) 2).outcome = .ok [5] := by decide
example : (Call.iscola 4 4).outcome = .throws := by decide
example : (Call.downsample 7 3 2).outcome = .ok [2] := by decide
example : (Call.decim 2 3 7).outcome = .throws := by decide
example : (Call.decim 2 3 8).outcome = .ok [4] := by decide
example : documented (Call.tukey 9 1 2) := by unfold documented; decide
example : documented (Call.rateconv 3 5 7 10) := by unfold documented; decide

end Dsp.C05
