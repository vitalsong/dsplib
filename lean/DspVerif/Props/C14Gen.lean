import DspVerif.Props.C14
import DspVerif.Props.C06Gen
import DspVerif.Gen.StepsTuner
import DspVerif.Gen.CtorTuner
import DspVerif.Gen.CtorDelay
/-!
# C14 — bridge: the hand-written `Tuner` model IS the regenerated loop body of `Tuner::process`

`Gen/StepsTuner.lean` is written by `tools/cxx2lean.py` on every check run from the C++ AST of
`include/dsplib/tuner.h`: the body of the sample loop of `Tuner::process` as `Gen.tunerStep`, the members it reads
(`int _fs`, `real_t _freq`, `bool _periodic`) and writes (`long long _phase`).  The translator CHECKS the C++ types of the
members (a sample counter narrower than 64 bit makes the GEN obligation fail), that `process` is nothing but that loop
over the whole input (a counter copied into a local before the loop and written back after it — seeded change C14-D — is
rejected), and refuses every integer conversion that can change a value.

This file proves that `tunerNext` / `tunerMul` of `Model/Hilbert.lean` — about which T14.5 of `Props/C14.lean` is
stated — are that generated step, for EVERY model state and sample, and transports `tuner_eq` to the generated step
folded over a whole stream.  The model keeps `_fs` and `_phase` as `Nat`; the generated structures keep the C++ `int` /
`long long` as `Int`.  Every model state is a generated one (`toGenP`, `toGenS`); the generated states with
`0 ≤ _fs`, `0 ≤ _phase` are exactly those (`tunerStep_eq_ofGen`; `_phase` starts at 0 and is only incremented or reset).
Not modelled (as everywhere): overflow of the 64-bit counter (after 2^63 samples).
-/
namespace Dsp.C14Gen
open Dsp Dsp.Hilbert Dsp.Cx

set_option linter.unusedSectionVars false

/-! ## Folding a one-output step function over a stream -/

section fold
variable {σ τ X B : Type}

/-- `for (int i = 0; i < n; i++) BODY` with `BODY = f`: final state and all outputs -/
def run1 (f : σ → X → σ × B) (s : σ) (x : Array X) : σ × Array B :=
  x.foldl (fun acc xi => ((f acc.1 xi).1, acc.2.push (f acc.1 xi).2)) (s, #[])

/-- two step functions that agree through a state conversion `φ` on an invariant `I` give the same run -/
theorem run1_map (f : σ → X → σ × B) (g : τ → X → τ × B) (φ : τ → σ) (I : τ → Prop)
    (hI : ∀ t x, I t → I (g t x).1) (h : ∀ t x, I t → f (φ t) x = (φ (g t x).1, (g t x).2))
    (t : τ) (ht : I t) (x : Array X) :
    run1 f (φ t) x = (φ (run1 g t x).1, (run1 g t x).2) := by
  unfold run1
  rw [← Array.foldl_toList, ← Array.foldl_toList]
  exact (GenBridge.foldl_rel (fun (a : σ × Array B) (b : τ × Array B) => I b.1 ∧ a = (φ b.1, b.2)) _ _
    (fun a b xi hab => by
      obtain ⟨hb, rfl⟩ := hab
      exact ⟨hI _ xi hb, by simp only [h _ xi hb]⟩) x.toList (φ t, #[]) (t, #[]) ⟨ht, rfl⟩).2

end fold

section generic
variable {α : Type} [Add α] [Sub α] [Mul α] [Div α] [Neg α] [LT α] [LE α] [Fn α] [OfScientific α]
  [DecidableRel (· < · : α → α → Prop)] [DecidableRel (· ≤ · : α → α → Prop)]

/-- the members the generated loop body only reads, from a model state -/
def toGenP (t : TunerState α) : Gen.TunerStepParams α :=
  { fs := (t.fs : Int), freq := t.freq, periodic := t.periodic }

/-- the member the generated loop body writes -/
def toGenS (t : TunerState α) : Gen.TunerStepState α := { phase := (t.phase : Int) }

/-- a model state from generated records (faithful when `0 ≤ _fs`, `0 ≤ _phase`) -/
def ofGen (q : Gen.TunerStepParams α) (s : Gen.TunerStepState α) : TunerState α :=
  { fs := q.fs.toNat, freq := q.freq, periodic := q.periodic, phase := s.phase.toNat }

theorem ofGen_toGen (t : TunerState α) : ofGen (toGenP t) (toGenS t) = t := by
  simp [ofGen, toGenP, toGenS]

theorem toGen_ofGen (q : Gen.TunerStepParams α) (s : Gen.TunerStepState α) (hfs : 0 ≤ q.fs) (hph : 0 ≤ s.phase) :
    toGenP (ofGen q s) = q ∧ toGenS (ofGen q s) = s := by
  cases q; cases s
  simp_all [ofGen, toGenP, toGenS]

theorem tunerProcess_eq_run1 (t : TunerState α) (xs : Array (Cx α)) :
    tunerProcess t xs = run1 (fun s x => (tunerNext s, x * tunerMul s)) t xs := rfl

theorem toGenP_tunerNext (t : TunerState α) : toGenP (tunerNext t) = toGenP t := rfl

/-- **bridge, Tuner, every scalar type** (the C++ converts `_phase`, `_fs` and the literal `2` from integer types:
`Fn.ofInt`; the model converts from `Nat`: `Fn.ofNat`; they agree on naturals at `Float` and at `ℝ`):
the generated loop body of `Tuner::process` is `(tunerNext, x * tunerMul)`, for every model state and every sample. -/
theorem tunerStep_eq_generic (hcast : ∀ n : Nat, (Fn.ofInt (n : Int) : α) = Fn.ofNat n)
    (t : TunerState α) (x : Cx α) :
    Gen.tunerStep (toGenP t) (toGenS t) x = (toGenS (tunerNext t), x * tunerMul t) := by
  have h2 : (Fn.ofInt (2 : Int) : α) = Fn.ofNat 2 := hcast 2
  have hc : ((t.phase : Int) + 1 ≥ (t.fs : Int)) ↔ (t.fs ≤ t.phase + 1) := by
    constructor <;> intro h <;> omega
  simp only [Gen.tunerStep, toGenP, toGenS, tunerNext, tunerMul, hcast, h2, hc, Bool.and_eq_true, decide_eq_true_eq]
  split_ifs <;> simp_all

end generic

noncomputable section

/-- **bridge, Tuner, at `ℝ`** (no hypothesis) -/
theorem tunerStep_eq (t : TunerState ℝ) (x : Cx ℝ) :
    Gen.tunerStep (toGenP t) (toGenS t) x = (toGenS (tunerNext t), x * tunerMul t) :=
  tunerStep_eq_generic (fun n => by simp) t x

/-- the same for every pair of generated records with non-negative `_fs`, `_phase`; the step keeps `_phase ≥ 0` -/
theorem tunerStep_eq_ofGen (q : Gen.TunerStepParams ℝ) (s : Gen.TunerStepState ℝ) (hfs : 0 ≤ q.fs) (hph : 0 ≤ s.phase)
    (x : Cx ℝ) :
    Gen.tunerStep q s x = (toGenS (tunerNext (ofGen q s)), x * tunerMul (ofGen q s)) ∧
      0 ≤ (Gen.tunerStep q s x).1.phase := by
  have e := tunerStep_eq (ofGen q s) x
  rw [(toGen_ofGen q s hfs hph).1, (toGen_ofGen q s hfs hph).2] at e
  refine ⟨e, ?_⟩
  rw [e]
  simp [toGenS]

/-- **whole stream:** the generated loop body folded over the input is the model's `tunerProcess` -/
theorem tuner_run_eq (t : TunerState ℝ) (xs : Array (Cx ℝ)) :
    run1 (Gen.tunerStep (toGenP t)) (toGenS t) xs = (toGenS (tunerProcess t xs).1, (tunerProcess t xs).2) := by
  rw [tunerProcess_eq_run1]
  exact run1_map (Gen.tunerStep (toGenP t)) (fun s x => (tunerNext s, x * tunerMul s)) toGenS
    (fun s => toGenP s = toGenP t) (fun s _ hs => by rw [← hs]; rfl)
    (fun s x hs => by rw [← hs]; exact tunerStep_eq s x) t rfl xs

/-- **T14.5 transported to the regenerated code.**  For every sample rate `fs ≥ 1`, EVERY frequency the constructor
accepts (integral or not) and every stream: running the GENERATED loop body of `Tuner::process` from the constructed
state gives as output `k` the input `k` times `exp(2πi·f·k/fs)`, for every `k` — in particular beyond `2^31` samples,
because the generated counter is the unbounded image of a 64-bit member (a 32-bit one is rejected by the translator). -/
theorem tuner_gen_eq (fs : ℕ) (hfs : 0 < fs) (f : ℝ) (s0 : TunerState ℝ) (h0 : tunerInit fs f = .ok s0)
    (xs : Array (Cx ℝ)) :
    (run1 (Gen.tunerStep (toGenP s0)) (toGenS s0) xs).2.size = xs.size ∧
    ∀ k, k < xs.size →
      toC ((run1 (Gen.tunerStep (toGenP s0)) (toGenS s0) xs).2.getD k 0) =
        toC (xs.getD k 0) * Complex.exp (((2 * Real.pi * f * (k : ℝ) / (fs : ℝ) : ℝ) : ℂ) * Complex.I) := by
  rw [tuner_run_eq]
  exact (C14.tuner_stream fs hfs f s0 h0 xs).2

/-- the counter the generated loop leaves behind: `k mod fs` for an integral `f`, `k` otherwise -/
theorem tuner_gen_state (fs : ℕ) (hfs : 0 < fs) (f : ℝ) (s0 : TunerState ℝ) (h0 : tunerInit fs f = .ok s0)
    (xs : Array (Cx ℝ)) :
    (run1 (Gen.tunerStep (toGenP s0)) (toGenS s0) xs).1 = toGenS (C14.advance s0 xs.size) := by
  rw [tuner_run_eq, (C14.tuner_stream fs hfs f s0 h0 xs).1]

/-! ## The constructor `Tuner::Tuner(int sample_rate, real_t freq)` (regenerated: `Gen/CtorTuner.lean`)

`Gen.tunerCtor` is the constructor as the C++ AST has it: the members in declaration order (`_fs{sample_rate}`, `_freq{freq}`,
`_periodic{freq == std::floor(freq)}` — IEEE `==` as `≤ ∧ ≥` —, `_phase{0}` from the default member initialiser), then the
`DSPLIB_ASSERT(std::abs(_freq) <= (_fs / 2.0))` of the body.  The model's `tunerInit` is that function (`tunerCtor_eq`), so a change of
the integer test, of the guard, or of the initial counter changes `Gen.tunerCtor` and breaks these proofs. -/

/-- the generated object record of a model state -/
def toGenObj {α : Type} (t : TunerState α) : Gen.TunerObj α :=
  { fs := (t.fs : Int), freq := t.freq, periodic := t.periodic, phase := (t.phase : Int) }

/-- the members of a constructed object that the generated loop body only reads / writes -/
def objP {α : Type} (o : Gen.TunerObj α) : Gen.TunerStepParams α := { fs := o.fs, freq := o.freq, periodic := o.periodic }
def objS {α : Type} (o : Gen.TunerObj α) : Gen.TunerStepState α := { phase := o.phase }

theorem objP_toGenObj {α : Type} (t : TunerState α) : objP (toGenObj t) = toGenP t := rfl
theorem objS_toGenObj {α : Type} (t : TunerState α) : objS (toGenObj t) = toGenS t := rfl

/-- **bridge, Tuner constructor, every scalar type on which `Fn.ofInt` and `Fn.ofNat` agree on naturals:** the generated
constructor IS `tunerInit`, for every sample rate `fs ≥ 0` and EVERY frequency (accepted or rejected, same message). -/
theorem tunerCtor_eq_generic {α : Type} [Add α] [Sub α] [Mul α] [Div α] [Neg α] [LT α] [LE α] [Fn α] [OfScientific α]
    [DecidableRel (· < · : α → α → Prop)] [DecidableRel (· ≤ · : α → α → Prop)]
    (hcast : ∀ n : Nat, (Fn.ofInt (n : Int) : α) = Fn.ofNat n) (fs : ℕ) (f : α) :
    Gen.tunerCtor (fs : Int) f = (tunerInit fs f).map toGenObj := by
  have h2 : (Fn.ofInt (2 : Int) : α) = Fn.ofNat 2 := hcast 2
  unfold Gen.tunerCtor tunerInit
  simp only [hcast, h2]
  by_cases h : Fn.abs f ≤ (Fn.ofNat fs : α) / Fn.ofNat 2
  · simp [h, toGenObj, Except.map, and_comm]
  · simp [h, Except.map]

/-- **bridge, Tuner constructor, at `ℝ`** (no hypothesis) -/
theorem tunerCtor_eq (fs : ℕ) (f : ℝ) : Gen.tunerCtor (fs : Int) f = (tunerInit fs f).map toGenObj :=
  tunerCtor_eq_generic (fun n => by simp) fs f

/-- what the generated constructor accepts, for EVERY `int` sample rate (negative ones included: they reject every frequency):
exactly `|f| ≤ fs / 2` in real division, and then the object is `(fs, f, f integral, 0)`. -/
theorem tunerCtor_ok_iff (fs : Int) (f : ℝ) (o : Gen.TunerObj ℝ) :
    Gen.tunerCtor fs f = .ok o ↔
      |f| ≤ (fs : ℝ) / 2 ∧ o = { fs := fs, freq := f, periodic := decide (f ≤ (⌊f⌋ : ℝ) ∧ (⌊f⌋ : ℝ) ≤ f), phase := 0 } := by
  unfold Gen.tunerCtor
  by_cases h : |f| ≤ (fs : ℝ) / 2
  · have h' : Fn.abs f ≤ (Fn.ofInt fs : ℝ) / Fn.ofInt 2 := by simpa using h
    simp only [h', not_true_eq_false, if_false, h, true_and]
    constructor
    · intro e; injection e with e; rw [← e]; simp [fn_floor, and_comm]
    · intro e; rw [e]; simp [fn_floor, and_comm]
  · have h' : ¬ Fn.abs f ≤ (Fn.ofInt fs : ℝ) / Fn.ofInt 2 := by simpa using h
    simp [h]

/-- a negative sample rate is rejected whatever the frequency -/
theorem tunerCtor_neg (fs : Int) (hfs : fs < 0) (f : ℝ) : ∃ e, Gen.tunerCtor fs f = .error e := by
  cases h : Gen.tunerCtor fs f with
  | error e => exact ⟨e, rfl⟩
  | ok o =>
    have h2 : (fs : ℝ) / 2 < 0 := div_neg_of_neg_of_pos (Int.cast_lt_zero.mpr hfs) two_pos
    exact absurd ((abs_nonneg f).trans ((tunerCtor_ok_iff fs f o).1 h).1) (not_le.mpr h2)

/-- **T14.5 from the GENERATED constructor to the GENERATED loop body.**  For every sample rate `fs ≥ 1` and every frequency: if the
regenerated constructor accepts `(fs, f)` — which it does exactly for `|f| ≤ fs/2` (`tunerCtor_ok_iff`) — then running the regenerated
loop body of `Tuner::process` from the object it leaves gives as output `k` the input `k` times `exp(2πi·f·k/fs)`, for every `k`
and every stream.  Nothing hand-modelled is left between the C++ source of `Tuner` and this statement. -/
theorem tuner_gen_from_ctor (fs : ℕ) (hfs : 0 < fs) (f : ℝ) (o : Gen.TunerObj ℝ) (h0 : Gen.tunerCtor (fs : Int) f = .ok o)
    (xs : Array (Cx ℝ)) :
    (run1 (Gen.tunerStep (objP o)) (objS o) xs).2.size = xs.size ∧
    ∀ k, k < xs.size →
      toC ((run1 (Gen.tunerStep (objP o)) (objS o) xs).2.getD k 0) =
        toC (xs.getD k 0) * Complex.exp (((2 * Real.pi * f * (k : ℝ) / (fs : ℝ) : ℝ) : ℂ) * Complex.I) := by
  obtain ⟨s0, hm, rfl⟩ := map_ok.mp ((tunerCtor_eq fs f).symm.trans h0)
  exact tuner_gen_eq fs hfs f s0 hm xs

/-- the counter the generated code holds after the generated constructor and `k` samples: `k mod fs` exactly when `f` is an integer
(`_periodic`), `k` itself otherwise — a tolerant integer test in the constructor (seeded change C14-F) contradicts this. -/
theorem tuner_gen_from_ctor_state (fs : ℕ) (hfs : 0 < fs) (f : ℝ) (o : Gen.TunerObj ℝ) (h0 : Gen.tunerCtor (fs : Int) f = .ok o)
    (xs : Array (Cx ℝ)) :
    (run1 (Gen.tunerStep (objP o)) (objS o) xs).1.phase =
      if f ≤ (⌊f⌋ : ℝ) ∧ (⌊f⌋ : ℝ) ≤ f then ((xs.size % fs : ℕ) : Int) else (xs.size : Int) := by
  obtain ⟨s0, hm, rfl⟩ := map_ok.mp ((tunerCtor_eq fs f).symm.trans h0)
  rw [objP_toGenObj, objS_toGenObj, tuner_gen_state fs hfs f s0 hm xs]
  obtain ⟨rfl, _⟩ := C14.tunerInit_ok fs f s0 hm
  unfold C14.advance toGenS
  by_cases hper : f ≤ (⌊f⌋ : ℝ) ∧ (⌊f⌋ : ℝ) ≤ f
  · simp [hper]
  · simp [hper]

/-- non-vacuity of the constructor bridge: `Tuner(9, 4.5)` is accepted by the GENERATED constructor (real division `9 / 2.0`),
with `_periodic = false`; `Tuner(8, 3)` with `_periodic = true`; `Tuner(9, 4.75)` is rejected -/
example : ∃ o, Gen.tunerCtor (9 : Int) (4.5 : ℝ) = .ok o ∧ o.periodic = false := by
  refine ⟨_, (tunerCtor_ok_iff 9 4.5 _).2 ⟨by norm_num [abs_of_nonneg], rfl⟩, ?_⟩
  have : ⌊(4.5 : ℝ)⌋ = 4 := by rw [Int.floor_eq_iff]; norm_num
  simp [this]; norm_num
example : ∃ e, Gen.tunerCtor (9 : Int) (4.75 : ℝ) = .error e := by
  cases h : Gen.tunerCtor (9 : Int) (4.75 : ℝ) with
  | error e => exact ⟨e, rfl⟩
  | ok o => have := ((tunerCtor_ok_iff 9 4.75 o).1 h).1; norm_num [abs_of_nonneg] at this

/-- non-vacuity: `Tuner(48000, 0.3)` is accepted, so `tuner_gen_eq` applies to a non-integral frequency -/
example : ∃ s0 : TunerState ℝ, tunerInit 48000 (3 / 10 : ℝ) = .ok s0 :=
  (C14.tunerInit_accepts 48000 (3 / 10)).mpr (by rw [abs_of_pos (by norm_num)]; norm_num)

end


/-! ## `Delay<T>::process`, `HilbertFilter::process` (regenerated: `Gen/StepsDelay.lean`) and the models of `Model/Hilbert.lean`

The bridge proper is `Props/C06Gen.lean` (against the minimal models of `Model/Framing.lean`); here the same generated functions
are tied to `Hilbert.delayProcess` / `Hilbert.delayProcessE` / `Hilbert.hfProcess`, about which the C14 theorems speak. -/

section hilbertFilter

/-- `Delay<real_t>::process`, generated = `Hilbert.delayProcess` (buffer of at least one sample) -/
theorem gen_delayProcess_eq (s : DelayState ℝ) (x : Array ℝ) (hb : 1 ≤ s.buf.size) :
    Gen.delayRProcess ⟨s.buf⟩ x = .ok (⟨(delayProcess s x).1.buf⟩, (delayProcess s x).2) := by
  rw [C06Gen.delayRProcess_eq s.buf x hb]
  simp only [Framing.delayProcess, delayProcess]

/-- … and the throwing case of `Hilbert.delayProcessE` (buffer of length 0): the generated code throws as well -/
theorem gen_delayProcessE_zero (s : DelayState ℝ) (x : Array ℝ) (hb : s.buf.size = 0) :
    (∃ e, Gen.delayRProcess ⟨s.buf⟩ x = .error e) ∧ (∃ e, delayProcessE s x = .error e) := by
  have : s.buf = #[] := Array.eq_empty_of_size_eq_zero hb
  constructor
  · rw [this]; exact C06Gen.delayRProcess_zero x
  · unfold delayProcessE; rw [if_pos hb]; exact ⟨_, rfl⟩

/-- `HilbertFilter::process`, generated = `Hilbert.hfProcess`: at least one tap, history of `nh - 1` samples, delay buffer of
at least one sample (all true for the state `HilbertFilter(h)` constructs from an accepted tap vector) -/
theorem gen_hfProcess_eq (s : HfState ℝ) (x : Array ℝ) (hf : 1 ≤ s.fir.h.size) (hd : s.fir.d.size = s.fir.h.size - 1)
    (hb : 1 ≤ s.d.buf.size) :
    Gen.hilbertProcess ⟨⟨s.fir.h, s.fir.d⟩, ⟨s.d.buf⟩⟩ x =
      .ok (⟨⟨(hfProcess s x).1.fir.h, (hfProcess s x).1.fir.d⟩, ⟨(hfProcess s x).1.d.buf⟩⟩, (hfProcess s x).2) := by
  have h := C06Gen.hilbertProcess_eq ⟨s.fir, s.d.buf⟩ x hf hd hb
  unfold C06Gen.toGenH at h
  rw [h]
  have hre : (Framing.delayProcess s.d.buf x).2.size = x.size := C06.delay_out_size s.d.buf x
  have him : (Fir.firProcessR s.fir x).2.size = x.size := by
    simp only [Fir.firProcessR, Fir.process, Fir.conv, Array.size_ofFn, Array.size_append, hd]; omega
  simp only [Framing.Hilbert.process, hfProcess, delayProcess, Framing.delayProcess]
  congr 2
  have hre' : ((s.d.buf ++ x).extract 0 x.size).size = x.size := by
    have := hre; simpa only [Framing.delayProcess] using this
  generalize (s.d.buf ++ x).extract 0 x.size = A at hre' ⊢
  generalize (Fir.firProcessR s.fir x).2 = B at him ⊢
  apply Array.ext
  · simp [hre', him]
  · intro j hj1 hj2
    simp only [Array.size_ofFn] at hj2
    simp [Array.getD_eq_getD_getElem?, show j < A.size by omega, show j < B.size by omega]

end hilbertFilter

/-! ## Constructors of `Delay<T>` and `HilbertFilter` (regenerated: `Gen/CtorDelay.lean`, `Gen/CtorFir.lean`)

`Delay(int length)` (`_buffer(length)`: zero-filled), `Delay(const base_array<T>& initial)` (`_buffer(initial)`);
`HilbertFilter(const arr_real& h)`: `_fir(h)` (the GENERATED `FirFilter<real_t>` constructor), `_d{h.size() / 2}` (the GENERATED
`Delay<real_t>(int)` constructor, C `/`), then `DSPLIB_ASSERT(firtype(h) == FirType::EvenAntiSym)` with `firtype` a parameter and the
enumerator value regenerated; `HilbertFilter(int flen, real_t tw)` delegates to it with `real_hilbert(design_fir(flen, 1.0, tw))`,
`real_hilbert` = `imag(h) * 2` translated (`imag(const arr_cmplx&)` of lib/math.cpp translated, `arr_real * int` pinned),
`design_fir` a parameter. -/

noncomputable section

/-- **bridge, `Delay<real_t>(int length)`**, `length ≥ 0` -/
theorem delayRCtorLen_eq (n : ℕ) : (Gen.delayRCtorLen (n : Int) : Gen.DelayRState ℝ) = ⟨(delayInit (0 : ℝ) n).buf⟩ := by
  simp [Gen.delayRCtorLen, delayInit, Gen.arrNew, Gen.zeroR]

/-- **bridge, `Delay<real_t>(const arr_real& initial)`** -/
theorem delayRCtorInit_eq (a : Array ℝ) : (Gen.delayRCtorInit a : Gen.DelayRState ℝ) = ⟨(delayInitWith a).buf⟩ := rfl

/-- **bridge, `Delay<cmplx_t>(int length)`** -/
theorem delayCCtorLen_eq (n : ℕ) : (Gen.delayCCtorLen (n : Int) : Gen.DelayCState ℝ) = ⟨(delayInit (0 : Cx ℝ) n).buf⟩ := by
  simp [Gen.delayCCtorLen, delayInit, Gen.arrNew, C07Gen.gzeroC_eq]

/-- **bridge, `Delay<cmplx_t>(const arr_cmplx& initial)`** -/
theorem delayCCtorInit_eq (a : Array (Cx ℝ)) : (Gen.delayCCtorInit a : Gen.DelayCState ℝ) = ⟨(delayInitWith a).buf⟩ := rfl

/-- `Delay(0)` is constructed (and its first `process` throws: `gen_delayProcessE_zero`); a negative length gives the same empty buffer
here, where C++ throws `std::length_error` -/
theorem delayRCtorLen_nonpos (n : Int) (hn : n ≤ 0) : (Gen.delayRCtorLen n : Gen.DelayRState ℝ) = ⟨#[]⟩ := by
  have : n.toNat = 0 := by omega
  simp [Gen.delayRCtorLen, Gen.arrNew, this]

/-- `imag(const arr_cmplx&)` of lib/math.cpp (generated) is the element-wise imaginary part -/
theorem imagArr_eq (x : Array (Cx ℝ)) : Gen.imagArr x = x.map (fun z => z.im) := by
  unfold Gen.imagArr
  simp only [Gen.arrNew, Gen.arrSize, Int.ofNat_eq_natCast, Int.toNat_natCast]
  rw [GenBridge.foldl_loop_eq_ofFn (0 : ℝ) (fun (_ : ℝ) (k : Nat) => (x.getD k Gen.zeroC).im) _
    (fun a i => by simp only [Gen.imagArr_loop1, Int.ofNat_eq_natCast, GenBridge.arrSet_natCast, GenBridge.arrGet_natCast])
    x.size _ (by simp)]
  exact (map_eq_ofFn Gen.zeroC x _ x.size rfl).symm

/-- `real_hilbert` of lib/hilbert.cpp (generated) is the model's `realHilbert` -/
theorem hilbertRealHilbert_eq (hh : Array (Cx ℝ)) : Gen.hilbertRealHilbert hh = realHilbert hh := by
  unfold Gen.hilbertRealHilbert Gen.arrMulRI realHilbert
  rw [imagArr_eq]
  simp [Array.map_map, Function.comp_def]

/-- `firtype` as the generated constructor takes it: the model's `Window.firtype` with its value as an `int` -/
def firtypeI (a : Array ℝ) : Int := (Window.firtype a.toList : Int)

/-- the generated state of the model's `HilbertFilter` state -/
def toGenHf (s : HfState ℝ) : Gen.HilbertFilterState ℝ := ⟨⟨s.fir.h, s.fir.d⟩, ⟨s.d.buf⟩⟩

/-- **bridge, `HilbertFilter(const arr_real& h)`:** for EVERY tap vector the generated constructor (with the generated sub-object
constructors and the regenerated enumerator value `FirType::EvenAntiSym`) accepts exactly when `hfInit` does — same message — and
leaves the same object -/
theorem hilbertCtorTaps_eq (h : Array ℝ) : Gen.hilbertCtorTaps firtypeI h = (hfInit h).map toGenHf := by
  unfold Gen.hilbertCtorTaps hfInit firtypeI
  have h3 : ((Window.firtype h.toList : Int) = Gen.FirType_EvenAntiSym) ↔ Window.firtype h.toList = 3 := by
    unfold Gen.FirType_EvenAntiSym; omega
  by_cases hc : Window.firtype h.toList = 3
  · have hd : (Int.tdiv (h.size : Int) 2) = ((h.size / 2 : ℕ) : Int) := GenBridge.tdiv_eq _ _ 2 rfl
    have hc' : ((Window.firtype h.toList : Int) = Gen.FirType_EvenAntiSym) := h3.mpr hc
    rw [if_pos hc]
    simp only [hc', not_true_eq_false, if_false, Except.map, toGenHf, C07Gen.firRCtor_eq, C07Gen.toGenR, Gen.arrSize, Int.ofNat_eq_natCast, hd, delayRCtorLen_eq]
    simp [Fir.firInitR, Cx.zeroR_eq]
  · have hc' : ¬ ((Window.firtype h.toList : Int) = Gen.FirType_EvenAntiSym) := fun e => hc (h3.mp e)
    have hc'' : ¬ (Gen.FirType_EvenAntiSym = (Window.firtype h.toList : Int)) := fun e => hc' e.symm
    rw [if_neg hc]
    simp [hc', hc'', Except.map]

/-- **bridge, `HilbertFilter(int flen, real_t tw)`:** with any `design_fir` the generated delegating constructor is the model's
composition `hfInit ∘ realHilbert ∘ design_fir(flen, 1.0, tw)` -/
theorem hilbertCtorDesign_eq (designFir : Int → ℝ → ℝ → Except String (Array (Cx ℝ))) (flen : Int) (tw : ℝ) :
    Gen.hilbertCtorDesign firtypeI designFir flen tw =
      match designFir flen 1 tw with
      | .error e => .error e
      | .ok hh => (hfInit (realHilbert hh)).map toGenHf := by
  unfold Gen.hilbertCtorDesign
  simp only [fn_ofInt, Int.cast_one]
  cases designFir flen 1 tw with
  | error e => rfl
  | ok hh => simp only [hilbertRealHilbert_eq, hilbertCtorTaps_eq]

/-- **T14.4 from the GENERATED constructor through the GENERATED `process`.**  For every tap vector the regenerated constructor
accepts (then `M = len h` is odd and `≥ 3`) and every frame: the regenerated `HilbertFilter::process` returns as many outputs as inputs,
output `k` with real part `x[k - M/2]` (0 while `k < M/2`) and imaginary part `Σ_{j ≤ k} h[j]·x[k-j]`. -/
theorem hilbert_gen_from_ctor (h : Array ℝ) (o : Gen.HilbertFilterState ℝ) (ho : Gen.hilbertCtorTaps firtypeI h = .ok o)
    (x : Array ℝ) :
    ∃ st y, Gen.hilbertProcess o x = .ok (st, y) ∧ y.size = x.size ∧
      ∀ k, k < x.size →
        (y.getD k 0).re = (if k < h.size / 2 then 0 else x.getD (k - h.size / 2) 0) ∧
        (y.getD k 0).im = ∑ j ∈ Finset.range h.size, if j ≤ k then h.getD j 0 * x.getD (k - j) 0 else 0 := by
  obtain ⟨s0, hs, rfl⟩ := map_ok.mp ((hilbertCtorTaps_eq h).symm.trans ho)
  have key := C14.hf_eq h s0 hs [x]
  obtain ⟨rfl, _, h3⟩ := C14.hfInit_ok h s0 hs
  have e := gen_hfProcess_eq ⟨Fir.firInitR h, delayInit 0 (h.size / 2)⟩ x (show 1 ≤ h.size by omega) (Array.size_replicate (n := h.size - 1))
    (show 1 ≤ (Array.replicate (h.size / 2) (0 : ℝ)).size by rw [Array.size_replicate]; omega)
  simp only [C14.runFrames, C14.flatten, Array.append_empty] at key
  exact ⟨_, _, e, key.1, key.2⟩

/-- the regenerated value of `FirType::EvenAntiSym` and the default arguments `HilbertFilter(int flen = 51, real_t tw = 0.01)` -/
theorem hilbert_ctor_consts :
    Gen.FirType_EvenAntiSym = 3 ∧ (Gen.hilbertCtorDesignDefault_flen, (Gen.hilbertCtorDesignDefault_tw : ℝ)) = (51, 1 / 100) := by
  simp [Gen.FirType_EvenAntiSym, Gen.hilbertCtorDesignDefault_flen, Gen.hilbertCtorDesignDefault_tw]

/-- non-vacuity: the antisymmetric taps `[1, 0, -1]` are accepted by the generated constructor -/
example : ∃ o, Gen.hilbertCtorTaps firtypeI (#[1, 0, -1] : Array ℝ) = .ok o := by
  rw [hilbertCtorTaps_eq, hfInit, if_pos C14.firtype_taps3]
  exact ⟨_, rfl⟩

end

end Dsp.C14Gen
