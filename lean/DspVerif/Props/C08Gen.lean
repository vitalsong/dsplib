import DspVerif.Props.C08
import DspVerif.Gen.StepsResample
import DspVerif.Gen.CtorResample
import DspVerif.Lib.RealFn
import DspVerif.Lib.GenBridge
/-!
# C08 — bridge: the hand-written polyphase converter models ARE the regenerated `process` functions

`Gen/StepsResample.lean` is written by `tools/cxx2lean.py` on every check run from `lib/resample/fir-decimator.cpp`,
`fir-interpolator.cpp`, `fir-rate-converter.cpp` (members from include/dsplib/resample.h, C++ types checked:
`std::vector<arr_real> h_`, `arr_real d_`, `int decim_ / interp_ / sublen_`, `std::vector<int> xidxs_`): the whole
frame-level `process` of the three classes —
* the throwing guard `DSPLIB_ASSERT(nx % decim_ == 0, …)` (decimator, rate converter; the generated functions are `Except`-valued),
* the history concatenation `x = d_ | in` and hand-over by three `std::memcpy`s (`arrCopy` of `Gen/StepsArray.lean`, index
  arithmetic explicit),
* the three nested loops, with the raw pointers as (array, `Int` offset) pairs: `px += decim_`, `++py`, `*py += …`,
  `const auto* px = x.data() + i * decim_ + xidxs_[k]`, the second loop variable `idx += decim_`, `h_[k][j]`.

Proved here over ℝ, for EVERY state (any coefficient table, any history, any rates) and every frame: generated `process` of a
frame = model `process` of the frame (`Model/Resample.lean`), including the rejection of frames whose length is not a multiple
of `decim_`; the generated constructors and `IResampler::polyphase` (`Gen/CtorResample.lean`) leave the model's `init`; and
the headline theorems of `Props/C08.lean` (T08.2, T08.3, T08.5, lengths) transported to the generated code.
-/
namespace Dsp.C08Gen
open Dsp Dsp.Resample Dsp.GenBridge

set_option linter.unusedSectionVars false
set_option linter.unusedSimpArgs false

theorem loopN_eq_foldl {σ : Type} (step : Nat → σ → σ) (n : Nat) (s : σ) :
    loopN step n s = (List.range n).foldl (fun s k => step k s) s := by
  induction n with
  | zero => rfl
  | succ n ih => simp [loopN, ih, List.range_succ]

noncomputable section

/-- the history buffer built by the first two `memcpy`s: `x = d_ | in` -/
theorem concat_copy (d inp : Array ℝ) (x0 x1 x2 : Array ℝ)
    (h0 : x0 = Gen.arrNew (Gen.zeroR : ℝ) ((d.size : Int) + (inp.size : Int)))
    (h1 : x1 = if (d.size : Int) > 0 then Gen.arrCopy x0 0 d 0 (d.size : Int) else x0)
    (h2 : x2 = if (inp.size : Int) > 0 then Gen.arrCopy x1 (d.size : Int) inp 0 (inp.size : Int) else x1) :
    x2 = d ++ inp := by
  rw [ite_arrCopy _ _ _ _ _ _ (by omega)] at h1 h2
  have s0 : x0.size = d.size + inp.size := by
    rw [h0, arrNew_nat _ (d.size + inp.size) _ (Nat.cast_add _ _).symm, Array.size_replicate]
  have s1 : x1.size = d.size + inp.size := by rw [h1, arrCopy_size, s0]
  apply ext_getD (0 : ℝ)
  · rw [h2, arrCopy_size, s1, Array.size_append]
  · intro j hj
    rw [h2, arrCopy_size, s1] at hj
    rw [getD_append, h2, arrCopy_getD_eq x1 inp _ 0 d.size 0 _ j 0 (s1 ▸ hj) rfl rfl]
    by_cases hjd : j < d.size
    · rw [if_neg (by omega), if_pos hjd, h1, arrCopy_getD_eq x0 d 0 0 0 0 _ j 0 (s0 ▸ hj) rfl rfl,
        if_pos ⟨by omega, by omega⟩]
      exact getD_default d _ _ _ hjd
    · rw [if_pos ⟨by omega, by omega⟩, if_neg hjd]
      exact getD_default inp _ _ _ (by omega)

/-- the third `memcpy`: the new history is the tail of the buffer -/
theorem tail_copy (d x : Array ℝ) (nx : ℕ) (hx : x.size = d.size + nx) :
    (if (d.size : Int) > 0 then Gen.arrCopy d 0 x (nx : Int) (d.size : Int) else d) = x.extract nx (nx + d.size) := by
  rw [ite_arrCopy _ _ _ _ _ _ (by omega)]
  apply ext_getD (0 : ℝ)
  · rw [arrCopy_size, Array.size_extract, hx]; omega
  · intro j hj
    rw [arrCopy_size] at hj
    rw [getD_extract _ _ _ _ _ (by omega), if_pos (by omega), arrCopy_getD_eq d x 0 _ 0 nx _ j 0 hj rfl rfl, if_pos ⟨by omega, by omega⟩, Nat.sub_zero, Nat.add_comm]
    exact getD_default x _ _ _ (by omega)

/-- the loop nest of the interpolator and of the rate converter, `for i < m: for k < n: { for j < sub: *py += t i k j; ++py; }`
on a zero-filled output: cell `o` receives `Σ_j t (o / n) (o % n) j` -/
theorem grid_loops (m n sub : ℕ) (t : ℕ → ℕ → ℕ → ℝ) (L1 : Int → ℕ → ℕ → Array ℝ → ℕ → Array ℝ)
    (L2 : ℕ → Array ℝ × Int → ℕ → Array ℝ × Int) (L3 : Array ℝ × Int → ℕ → Array ℝ × Int)
    (h1 : ∀ (o i k : ℕ) y j, L1 (o : Int) i k y j = y.setIfInBounds o (y.getD o 0 + t i k j))
    (h2 : ∀ i acc k, L2 i acc k = ((List.range sub).foldl (L1 acc.2 i k) acc.1, acc.2 + 1))
    (h3 : ∀ acc i, L3 acc i = (List.range n).foldl (L2 i) acc) :
    ((List.range m).foldl L3 (Array.replicate (m * n) 0, 0)).1 =
      Array.ofFn (n := m * n) fun o => (List.range sub).foldl (fun v j => v + t (o / n) (o % n) j) 0 := by
  -- innermost loop: one output cell accumulates
  have hj : ∀ (o i k : ℕ) (y : Array ℝ), (List.range sub).foldl (L1 (o : Int) i k) y =
      y.setIfInBounds o ((List.range sub).foldl (fun v j => v + t i k j) (y.getD o 0)) := by
    intro o i k y
    rw [show L1 (o : Int) i k = fun y j => y.setIfInBounds o ((fun v j => v + t i k j) (y.getD o 0) j) from
      funext fun y => funext fun j => h1 o i k y j]
    exact foldl_acc_cell (0 : ℝ) (fun v j => v + t i k j) o _ y
  -- middle loop: the position advances by one per branch
  have hk : ∀ (i : ℕ) (y : Array ℝ) (b : ℕ), (List.range n).foldl (L2 i) (y, (b : Int)) =
      ((List.range n).foldl (fun y k => y.setIfInBounds (b + k)
          ((List.range sub).foldl (fun v j => v + t i k j) (y.getD (b + k) 0))) y, ((b + n : ℕ) : Int)) := by
    intro i y b
    rw [show L2 i = fun acc k => ((fun y o k => (List.range sub).foldl (L1 o i k) y) acc.1 acc.2 k, acc.2 + 1) from
      funext fun acc => funext fun k => h2 i acc k]
    refine (foldl_pair_counter (fun y o k => (List.range sub).foldl (L1 o i k) y) 1 n y b).trans
      (Prod.ext ?_ (by omega))
    apply foldl_range_congr
    intro y k _
    rw [show ((b : Int) + (k : Int) * 1) = ((b + k : ℕ) : Int) by omega, hj]
  -- outer loop: the position advances by `n` per input sample
  have hout : ∀ (m : ℕ) (y : Array ℝ), (List.range m).foldl L3 (y, (0 : Int)) =
      ((List.range m).foldl (fun y i => (List.range n).foldl (fun y k => y.setIfInBounds (i * n + k)
          ((fun i k v => (List.range sub).foldl (fun v j => v + t i k j) v) i k (y.getD (i * n + k) 0))) y) y,
        ((m * n : ℕ) : Int)) := by
    intro m
    induction m with
    | zero => intro y; rw [Nat.zero_mul]; rfl
    | succ m ih =>
      intro y
      rw [List.range_succ, List.foldl_append, List.foldl_append, ih, List.foldl_cons, List.foldl_nil, h3, hk, Nat.succ_mul]
      rfl
  rw [hout]
  obtain ⟨g1, g2⟩ := foldl_cell_grid (0 : ℝ) (fun i k v => (List.range sub).foldl (fun v j => v + t i k j) v) n
    (Array.replicate (m * n) (0 : ℝ)) m
  apply ext_getD (0 : ℝ)
  · rw [g1, Array.size_replicate, Array.size_ofFn]
  · intro o ho
    rw [g1, Array.size_replicate] at ho
    rw [g2 o, if_pos ⟨ho, by rwa [Array.size_replicate]⟩, getD_replicate', if_pos ho, getD_ofFn, dif_pos ho]

/-- the loop nest of the decimator, `for i < ny: { for k < m: { idx = k; for j < sub: { y[i] += t (px + idx) k j; idx += c; } } px += c; }`
on a zero-filled output: both counters are arithmetic progressions, cell `i` receives `Σ_k Σ_j t (i c + k + j c) k j` -/
theorem decim_nest (ny m sub c : ℕ) (t : ℕ → ℕ → ℕ → ℝ) (L1 : ℕ → Int → ℕ → Array ℝ × Int → ℕ → Array ℝ × Int)
    (L2 : ℕ → Int → Array ℝ → ℕ → Array ℝ) (L3 : Array ℝ × Int → ℕ → Array ℝ × Int)
    (h1 : ∀ (i p k q : ℕ) y j, (L1 i (p : Int) k (y, (q : Int)) j).1 = y.setIfInBounds i (y.getD i 0 + t (p + q) k j))
    (h1c : ∀ i p k acc j, (L1 i p k acc j).2 = acc.2 + (c : Int))
    (h2 : ∀ i p y k, L2 i p y k = ((List.range sub).foldl (L1 i p k) (y, (k : Int))).1)
    (h3 : ∀ acc i, L3 acc i = ((List.range m).foldl (L2 i acc.2) acc.1, acc.2 + (c : Int))) :
    ((List.range ny).foldl L3 (Array.replicate ny 0, 0)).1 =
      Array.ofFn (n := ny) fun i => (List.range m).foldl (fun v k =>
        (List.range sub).foldl (fun v j => v + t (i * c + k + j * c) k j) v) 0 := by
  -- innermost loop: cell `i` accumulates, `idx` runs through `k + j c`
  have hj : ∀ (i p k : ℕ) (y : Array ℝ), ((List.range sub).foldl (L1 i (p : Int) k) (y, (k : Int))).1 =
      y.setIfInBounds i ((List.range sub).foldl (fun v j => v + t (p + k + j * c) k j) (y.getD i 0)) := by
    intro i p k y
    rw [foldl_counter_fst _ (c : Int) (h1c i p k)]
    refine (foldl_range_congr _ _ sub (fun y j _ => ?_) y).trans
      (foldl_acc_cell 0 (fun v j => v + t (p + k + j * c) k j) i _ y)
    rw [show (k : Int) + (j : Int) * (c : Int) = ((k + j * c : ℕ) : Int) by push_cast; rfl, h1, ← Nat.add_assoc]
  -- middle loop: cell `i` keeps accumulating over the branches
  have hk : ∀ (i p : ℕ) (y : Array ℝ), (List.range m).foldl (L2 i (p : Int)) y =
      y.setIfInBounds i ((List.range m).foldl (fun v k =>
        (List.range sub).foldl (fun v j => v + t (p + k + j * c) k j) v) (y.getD i 0)) := fun i p y =>
    (foldl_range_congr _ _ m (fun y k _ => by rw [h2, hj]) y).trans
      (foldl_acc_cell 0 (fun v k => (List.range sub).foldl (fun v j => v + t (p + k + j * c) k j) v) i _ y)
  -- outer loop: `px` runs through `i c`
  rw [foldl_counter_fst _ (c : Int) (fun acc i => by rw [h3])]
  refine ((foldl_range_congr _ _ ny (fun y i _ => ?_) _).trans
    (foldl_set_eq_ofFn 0 (fun v i => (List.range m).foldl (fun v k =>
      (List.range sub).foldl (fun v j => v + t (i * c + k + j * c) k j) v) v) ny _ Array.size_replicate)).trans ?_
  · rw [h3, show (0 : Int) + (i : Int) * (c : Int) = ((i * c : ℕ) : Int) by push_cast; ring, hk]
  · congr 1; funext i
    rw [getD_replicate', if_pos i.isLt]

/-! ## `FIRInterpolator::process` -/

def toGenI (s : Interp ℝ) : Gen.FIRInterpolatorState ℝ := ⟨s.h, s.d, (s.L : Int), (s.sub : Int)⟩

/-- the three nested loops of `FIRInterpolator::process` on the zero-filled output: `y[i L + k] = Σ_j px[i + j] * h_[k][j]` -/
theorem interp_loops (s : Interp ℝ) (px : Array ℝ) (nx : ℕ) :
    ((List.range nx).foldl (Gen.firInterpProcess_loop3 (toGenI s) (s.sub : Int) px)
        (Array.replicate (nx * s.L) (0 : ℝ), (0 : Int))).1 =
      tab (nx * s.L) fun o => accN (fun j => elem px (o / s.L + j) * elem (row s.h (o % s.L)) j) s.sub zero := by
  refine (grid_loops nx s.L s.sub (fun i k j => px.getD (i + j) 0 * (s.h.getD k #[]).getD j 0)
    (fun o i k => Gen.firInterpProcess_loop1 o px (i : Int) (toGenI s) (k : Int))
    (fun i => Gen.firInterpProcess_loop2 (s.sub : Int) px (i : Int) (toGenI s)) _ ?_ ?_ ?_).trans ?_
  · intro o i k y j
    simp only [Gen.firInterpProcess_loop1, Gen.zeroR, fn_ofInt, Int.cast_zero, Int.ofNat_eq_natCast, toGenI]
    rw [ptrGet_eq 0 y _ o rfl, ptrSet_eq y _ o _ rfl, arrGet_eq 0 px _ (i + j) (Nat.cast_add _ _).symm, ptrGet_eq #[] s.h _ k rfl,
      arrGet_eq 0 _ _ j rfl]
  · intro i acc k
    simp only [Gen.firInterpProcess_loop2, Int.ofNat_eq_natCast, Int.toNat_natCast]
  · intro acc i
    simp only [Gen.firInterpProcess_loop3, Int.ofNat_eq_natCast, toGenI, Int.toNat_natCast]
  · simp only [tab, accN, loopN_eq_foldl, elem, row, C08.zero_real]

/-- **bridge, `FIRInterpolator::process`, one frame.**  For every state (any table `h_`, any history, any `interp_`, `sublen_`)
and every frame: the generated `process` — the three `memcpy`s that build `px = d_ | in` and hand the history over, the
three nested loops with the moving output pointer `py` — returns the model's `Interp.process`. -/
theorem firInterpProcess_eq (s : Interp ℝ) (x : Array ℝ) :
    Gen.firInterpProcess (toGenI s) x = .ok (toGenI (s.process x).1, (s.process x).2) := by
  unfold Gen.firInterpProcess
  extract_lets -merge nx nh nd p0 p1a p1 p2a p2 sd self' y0 py0 acc
  have hnx : nx = (x.size : Int) := rfl
  have hnd : nd = (s.d.size : Int) := rfl
  have hp2 : p2 = s.d ++ x := concat_copy s.d x p0 p1 p2 rfl rfl rfl
  have hself : self' = ⟨s.h, (s.d ++ x).extract x.size (x.size + s.d.size), (s.L : Int), (s.sub : Int)⟩ := by
    simp only [self', sd, hnd, hnx, hp2, toGenI]
    rw [← tail_copy s.d (s.d ++ x) x.size Array.size_append]
    split <;> rfl
  have hy0 : y0 = Array.replicate (x.size * s.L) (0 : ℝ) := by
    simp only [y0, hself, hnx]
    rw [arrNew_nat _ (x.size * s.L) _ (Nat.cast_mul _ _).symm]
    simp only [Gen.zeroR, fn_ofInt, Int.cast_zero]
  have hacc : acc.1 = tab (x.size * s.L) fun o =>
      accN (fun j => elem (s.d ++ x) (o / s.L + j) * elem (row s.h (o % s.L)) j) s.sub zero := by
    have := interp_loops ⟨s.L, s.sub, s.h, (s.d ++ x).extract x.size (x.size + s.d.size)⟩ (s.d ++ x) x.size
    simp only [acc, hy0, py0, hnx, hp2, nh, hself, Int.toNat_natCast]
    simp only [toGenI] at this
    exact this
  show Except.ok (self', acc.1) = _
  rw [hacc, hself]
  simp only [Interp.process, toGenI]

/-! ## `FIRRateConverter::process` -/

/-- the generated state of a model state (`xidxs_` holds `int`s) -/
def toGenRC (s : RateConv ℝ) : Gen.FIRRateConverterState ℝ :=
  ⟨s.h, s.d, (s.L : Int), (s.M : Int), (s.sub : Int), s.xi.map Int.ofNat⟩

theorem xidx_get (xi : Array ℕ) (k : ℕ) : Gen.ptrGet (0 : Int) (xi.map Int.ofNat) (k : Int) = ((xi.getD k 0 : ℕ) : Int) := by
  rw [ptrGet_natCast]
  simp only [Array.getD_eq_getD_getElem?, Array.getElem?_map]
  cases xi[k]? <;> simp

/-- the three nested loops of `FIRRateConverter::process` on the zero-filled output:
`y[i L + k] = Σ_j x[i M + xidxs_[k] + j] * h_[k][j]` -/
theorem rate_loops (s : RateConv ℝ) (xb : Array ℝ) (np : ℕ) :
    ((List.range np).foldl (Gen.firRateProcess_loop3 (toGenRC s) (s.sub : Int) xb)
        (Array.replicate (np * s.L) (0 : ℝ), (0 : Int))).1 =
      tab (np * s.L) fun o =>
        accN (fun j => elem xb (o / s.L * s.M + s.xi.getD (o % s.L) 0 + j) * elem (row s.h (o % s.L)) j) s.sub zero := by
  refine (grid_loops np s.L s.sub (fun i k j => xb.getD (i * s.M + s.xi.getD k 0 + j) 0 * (s.h.getD k #[]).getD j 0)
    (fun o i k => Gen.firRateProcess_loop1 o xb
      (((i : Int) * (s.M : Int)) + Gen.ptrGet (0 : Int) (s.xi.map Int.ofNat) (k : Int)) (Gen.ptrGet #[] s.h (k : Int)))
    (fun i => Gen.firRateProcess_loop2 (toGenRC s) (i : Int) (s.sub : Int) xb) _ ?_ ?_ ?_).trans ?_
  · intro o i k y j
    simp only [Gen.firRateProcess_loop1, Gen.zeroR, fn_ofInt, Int.cast_zero, Int.ofNat_eq_natCast, xidx_get]
    rw [ptrGet_eq 0 y _ o rfl, ptrSet_eq y _ o _ rfl, ptrGet_eq 0 xb _ (i * s.M + s.xi.getD k 0 + j) (by omega),
      ptrGet_eq #[] s.h _ k rfl, arrGet_eq 0 _ _ j rfl]
  · intro i acc k
    simp only [Gen.firRateProcess_loop2, Int.ofNat_eq_natCast, Int.toNat_natCast, toGenRC]
  · intro acc i
    simp only [Gen.firRateProcess_loop3, Int.ofNat_eq_natCast, toGenRC, Int.toNat_natCast]
  · simp only [tab, accN, loopN_eq_foldl, elem, row, C08.zero_real]

/-- **bridge, `FIRRateConverter::process`, one frame.**  For every state and every frame: the generated `process` — the frame
length guard, the history `memcpy`s, the three nested loops with the per-branch input pointer `px = x + i·decim + xidxs_[k]`
and the moving output pointer `py` — is the model's `RateConv.process`: the same exception for a frame whose length is not a
multiple of `decim_`, else the same state and output. -/
theorem firRateProcess_eq (s : RateConv ℝ) (x : Array ℝ) :
    Gen.firRateProcess (toGenRC s) x = (s.process x).map (fun r => (toGenRC r.1, r.2)) := by
  unfold Gen.firRateProcess RateConv.process
  extract_lets -merge nx nh nd p0 p1a p1 p2a p2 sd self' np y0 py0 acc yv pyv buf ym
  have hnx : nx = (x.size : Int) := rfl
  have hnd : nd = (s.d.size : Int) := rfl
  have hdec : (toGenRC s).decim = (s.M : Int) := rfl
  by_cases hm : x.size % s.M = 0
  · have hg : ¬ ¬ (Int.tmod nx (toGenRC s).decim = (0 : Int)) := by
      rw [hnx, hdec, ← Int.ofNat_tmod, hm]; simp
    rw [if_neg hg, if_neg (by simpa using hm)]
    have hp2 : p2 = s.d ++ x := concat_copy s.d x p0 p1 p2 rfl rfl rfl
    have hself : self' = ⟨s.h, (s.d ++ x).extract x.size (x.size + s.d.size), (s.L : Int), (s.M : Int), (s.sub : Int),
        s.xi.map Int.ofNat⟩ := by
      simp only [self', sd, hnd, hnx, hp2, toGenRC]
      rw [← tail_copy s.d (s.d ++ x) x.size Array.size_append]
      split <;> rfl
    have hnp : np = ((x.size / s.M : ℕ) : Int) := by
      simp only [np, hself, hnx]; exact (Int.ofNat_tdiv _ _).symm
    have hy0 : y0 = Array.replicate (x.size / s.M * s.L) (0 : ℝ) := by
      simp only [y0, hnp, hself]
      rw [arrNew_nat _ (x.size / s.M * s.L) _ (Nat.cast_mul _ _).symm]
      simp only [Gen.zeroR, fn_ofInt, Int.cast_zero]
    have hacc : acc.1 = tab (x.size / s.M * s.L) fun o =>
        accN (fun j => elem (s.d ++ x) (o / s.L * s.M + s.xi.getD (o % s.L) 0 + j) * elem (row s.h (o % s.L)) j) s.sub zero := by
      have := rate_loops ⟨s.L, s.M, s.sub, s.h, s.xi, (s.d ++ x).extract x.size (x.size + s.d.size)⟩ (s.d ++ x) (x.size / s.M)
      simp only [acc, hy0, py0, hnp, hp2, nh, hself, Int.toNat_natCast]
      simp only [toGenRC] at this
      exact this
    show Except.ok (self', acc.1) = _
    rw [hacc, hself]
    simp only [Except.map, toGenRC, ym, buf]
  · have hg : ¬ (Int.tmod nx (toGenRC s).decim = (0 : Int)) := by
      rw [hnx, hdec, ← Int.ofNat_tmod]; omega
    rw [if_pos hg, if_pos (by simpa using hm)]
    rfl

/-! ## `FIRDecimator::process` -/

def toGenD (s : Decim ℝ) : Gen.FIRDecimatorState ℝ := ⟨s.h, s.d, (s.M : Int), (s.sub : Int)⟩

/-- the three nested loops of `FIRDecimator::process` on the zero-filled output of length `ny`:
`y[i] = Σ_k Σ_j x[i M + k + j M] * h_[k][j]` (k outer, j inner; `px` advances by `decim_` per output, `idx` by `decim_` per tap) -/
theorem decim_loops (s : Decim ℝ) (xb : Array ℝ) (ny : ℕ) :
    ((List.range ny).foldl (Gen.firDecimProcess_loop3 (toGenD s) xb) (Array.replicate ny (0 : ℝ), (0 : Int))).1 =
      tab ny fun i =>
        loopN (fun k a => accN (fun j => elem xb (i * s.M + k + j * s.M) * elem (row s.h k) j) s.sub a) s.M zero := by
  refine (decim_nest ny s.M s.sub s.M (fun q k j => xb.getD q 0 * (s.h.getD k #[]).getD j 0)
    (fun i p k => Gen.firDecimProcess_loop1 (i : Int) xb p (Gen.ptrGet #[] s.h (k : Int)) (toGenD s))
    (fun i p => Gen.firDecimProcess_loop2 (toGenD s) (i : Int) xb p) _ ?_ ?_ ?_ ?_).trans ?_
  · intro i p k q y j
    simp only [Gen.firDecimProcess_loop1, Gen.zeroR, fn_ofInt, Int.cast_zero, Int.ofNat_eq_natCast]
    rw [arrGet_eq 0 y _ i rfl, arrSet_eq y _ i _ rfl, ptrGet_eq 0 xb _ (p + q) (Nat.cast_add _ _).symm, ptrGet_eq #[] s.h _ k rfl,
      arrGet_eq 0 _ _ j rfl]
  · intro i p k acc j
    simp only [Gen.firDecimProcess_loop1, toGenD]
  · intro i p y k
    simp only [Gen.firDecimProcess_loop2, Int.ofNat_eq_natCast, toGenD, Int.toNat_natCast]
  · intro acc i
    simp only [Gen.firDecimProcess_loop3, Int.ofNat_eq_natCast, toGenD, Int.toNat_natCast]
  · simp only [tab, accN, loopN_eq_foldl, elem, row, C08.zero_real]

/-- **bridge, `FIRDecimator::process`, one frame** (as `firRateProcess_eq`): same exception for a frame whose length is not a
multiple of `decim_`, else the model's state and output -/
theorem firDecimProcess_eq (s : Decim ℝ) (x : Array ℝ) :
    Gen.firDecimProcess (toGenD s) x = (s.process x).map (fun r => (toGenD r.1, r.2)) := by
  unfold Gen.firDecimProcess Decim.process
  extract_lets -merge nx nd p0 p1a p1 p2a p2 sd self' y0 px0 acc yv pxv buf ym
  have hnx : nx = (x.size : Int) := rfl
  have hnd : nd = (s.d.size : Int) := rfl
  have hdec : (toGenD s).decim = (s.M : Int) := rfl
  by_cases hm : x.size % s.M = 0
  · have hg : ¬ ¬ (Int.tmod nx (toGenD s).decim = (0 : Int)) := by
      rw [hnx, hdec, ← Int.ofNat_tmod, hm]; simp
    rw [if_neg hg, if_neg (by simpa using hm)]
    have hp2 : p2 = s.d ++ x := concat_copy s.d x p0 p1 p2 rfl rfl rfl
    have hself : self' = ⟨s.h, (s.d ++ x).extract x.size (x.size + s.d.size), (s.M : Int), (s.sub : Int)⟩ := by
      simp only [self', sd, hnd, hnx, hp2, toGenD]
      rw [← tail_copy s.d (s.d ++ x) x.size Array.size_append]
      split <;> rfl
    have hy0 : y0 = Array.replicate (x.size / s.M) (0 : ℝ) := by
      simp only [y0, hself, hnx]
      rw [arrNew_nat _ (x.size / s.M) _ (Int.ofNat_tdiv _ _).symm]
      simp only [Gen.zeroR, fn_ofInt, Int.cast_zero]
    have hacc : acc.1 = tab (x.size / s.M) fun i =>
        loopN (fun k a => accN (fun j => elem (s.d ++ x) (i * s.M + k + j * s.M) * elem (row s.h k) j) s.sub a) s.M zero := by
      have := decim_loops ⟨s.M, s.sub, s.h, (s.d ++ x).extract x.size (x.size + s.d.size)⟩ (s.d ++ x) (x.size / s.M)
      simp only [acc, hy0, px0, hp2, hself, Gen.arrSize, Array.size_replicate, Int.ofNat_eq_natCast, Int.toNat_natCast]
      simp only [toGenD] at this
      exact this
    show Except.ok (self', acc.1) = _
    rw [hacc, hself]
    simp only [Except.map, toGenD, ym, buf]
  · have hg : ¬ (Int.tmod nx (toGenD s).decim = (0 : Int)) := by
      rw [hnx, hdec, ← Int.ofNat_tmod]; omega
    rw [if_pos hg, if_pos (by simpa using hm)]
    rfl

/-! ## what the theorems of C08 say about the generated code -/

/-- **T08 (decimator) transported:** the generated `FIRDecimator::process` rejects exactly the frames whose length is not a
multiple of the decimation factor, and otherwise returns `len / M` samples -/
theorem gen_decim_len (s : Decim ℝ) (x : Array ℝ) :
    (x.size % s.M ≠ 0 → ∃ e, Gen.firDecimProcess (toGenD s) x = .error e) ∧
    (x.size % s.M = 0 → ∃ st y, Gen.firDecimProcess (toGenD s) x = .ok (st, y) ∧ y.size = x.size / s.M) := by
  rw [firDecimProcess_eq]
  constructor
  · intro h
    obtain ⟨e, he⟩ := C08.decim_reject s x h
    exact ⟨e, by rw [he]; rfl⟩
  · intro h
    unfold Decim.process
    rw [if_neg (by simpa using h)]
    exact ⟨_, _, rfl, by simp [tab]⟩

/-- **T08 (interpolator) transported:** the generated `FIRInterpolator::process` never throws and returns `len · L` samples -/
theorem gen_interp_len (s : Interp ℝ) (x : Array ℝ) :
    ∃ st y, Gen.firInterpProcess (toGenI s) x = .ok (st, y) ∧ y.size = x.size * s.L :=
  ⟨_, _, firInterpProcess_eq s x, C08.interp_len s x⟩

/-- **T08.2 transported to the regenerated code:** every call of the GENERATED `FIRInterpolator::process`, after any
history `past`, returns exactly the next `|x|·L` samples of the textbook chain (zero-stuff by `L`, filter with `h` normalised to
DC gain `L`) and leaves the object in the state "has consumed `past ++ x`" -/
theorem gen_interp_eq (L : ℕ) (hL : 0 < L) (h : Array ℝ) (hh : 0 < h.size) (hs : C08.hsum h ≠ 0) (past x : Array ℝ) :
    Gen.firInterpProcess (toGenI (C08.interpAt L h past)) x =
      .ok (toGenI (C08.interpAt L h (past ++ x)),
        tab (x.size * L) fun o => C08.upfir L h (past ++ x) (past.size * L + o)) := by
  rw [firInterpProcess_eq, C08.interp_eq L hL h hh hs past x]

/-- **T08.3 transported:** the GENERATED `FIRDecimator::process` on a frame whose length is a multiple of `M`, after any
history: the next `|x|/M` samples of "filter with the (padded, flipped) taps, keep every `M`-th" -/
theorem gen_decim_eq (M : ℕ) (hM : 0 < M) (h : Array ℝ) (hh : 0 < h.size) (hs : C08.hsum h ≠ 0)
    (past x : Array ℝ) (hx : x.size % M = 0) :
    Gen.firDecimProcess (toGenD (C08.decimAt M h past)) x =
      .ok (toGenD (C08.decimAt M h (past ++ x)),
        tab (x.size / M) fun i =>
          C08.fir (paddedLen h.size M) (C08.hflip h M) (elem (past ++ x)) (past.size + i * M + (M - 1))) := by
  rw [firDecimProcess_eq, C08.decim_eq M hM h hh hs past x hx]
  rfl

/-- **T08.5 transported:** the GENERATED `FIRRateConverter::process` (frames and history multiples of `M`): the next
`|x|/M·L` samples of zero-stuff by `L`, filter, keep every `M`-th -/
theorem gen_rateconv_eq (L M : ℕ) (hL : 0 < L) (hM : 0 < M) (h : Array ℝ) (hh : 0 < h.size) (hs : C08.hsum h ≠ 0)
    (past x : Array ℝ) (hP : past.size % M = 0) (hx : x.size % M = 0) :
    Gen.firRateProcess (toGenRC (C08.rateAt L M h past)) x =
      .ok (toGenRC (C08.rateAt L M h (past ++ x)),
        tab (x.size / M * L) fun o => C08.upfir L h (past ++ x) ((past.size / M * L + o + 1) * M - 1)) := by
  rw [firRateProcess_eq, C08.rateconv_eq L M hL hM h hh hs past x hP hx]
  rfl

/-! ## Constructors of `FIRDecimator`, `FIRInterpolator`, `FIRRateConverter` and `IResampler::polyphase` (regenerated: `Gen/CtorResample.lean`) -/

/-- `sum(const arr_real&)` (generated: a left fold) is the sum of the cells -/
theorem sumR_eq_sum (a : Array ℝ) : Gen.sumR a = ∑ j ∈ Finset.range a.size, a.getD j 0 := by
  unfold Gen.sumR
  exact foldl_getD_induction (0 : ℝ) a _ _ (fun i v => v = ∑ j ∈ Finset.range i, a.getD j 0) (by simp)
    fun i _ v h => by rw [Finset.sum_range_succ, h]

/-- the zero-padded copy `zeropad(h, nh)` makes -/
def padTo (h : Array ℝ) (nh : ℕ) : Array ℝ := h ++ Array.replicate (nh - h.size) 0

theorem padTo_getD (h : Array ℝ) (nh j : ℕ) : (padTo h nh).getD j 0 = elem h j := by
  unfold padTo elem
  rw [C08.zero_real, getD_append_replicate]

/-- `zeropad<real_t>(h, nh)` (generated) for `nh ≥ |h|`: no throw, the padded copy -/
theorem zeropadR_eq (h : Array ℝ) (nh : ℕ) (hle : h.size ≤ nh) : Gen.zeropadR h (nh : Int) = .ok (padTo h nh) := by
  unfold Gen.zeropadR padTo
  have h1 : ¬ (Gen.arrSize h > (nh : Int)) := by simp only [Gen.arrSize, Int.ofNat_eq_natCast]; omega
  rw [if_neg h1]
  by_cases he : h.size = nh
  · have h2 : Gen.arrSize h = (nh : Int) := by simp only [Gen.arrSize, Int.ofNat_eq_natCast]; exact_mod_cast he
    rw [if_pos h2]
    simp [he]
  · have h2 : ¬ Gen.arrSize h = (nh : Int) := by
      simp only [Gen.arrSize, Int.ofNat_eq_natCast]; intro e; exact he (by exact_mod_cast e)
    rw [if_neg h2]
    simp only [Gen.arrConcat, Gen.arrNew, Gen.zeroR, fn_ofInt, Int.cast_zero, Gen.arrSize, Int.ofNat_eq_natCast]
    have : ((nh : Int) - (h.size : Int)).toNat = nh - h.size := by omega
    rw [this]

/-- `nh = (n % m == 0) ? n : (n / m + 1) * m` of `polyphase`, `n = h.size()`, is the model's `paddedLen` -/
theorem nh_eq (h : Array ℝ) (m : ℕ) :
    (if Int.tmod (Gen.arrSize h) (m : Int) = 0 then Gen.arrSize h else (Int.tdiv (Gen.arrSize h) (m : Int) + 1) * (m : Int)) =
      ((paddedLen h.size m : ℕ) : Int) := by
  rw [show Gen.arrSize h = (h.size : Int) from rfl, ← Int.ofNat_tmod, ← Int.ofNat_tdiv]
  unfold paddedLen
  by_cases hr : h.size % m = 0
  · rw [if_pos (by exact_mod_cast hr), if_pos hr]
  · rw [if_neg (by intro e; exact hr (by exact_mod_cast e)), if_neg hr]
    push_cast; ring

/-- the rows the two nested loops of `polyphase` build, before the optional flip -/
theorem polyphase_loops (hq : Array ℝ) (m n : ℕ) (gain : ℝ) :
    (List.range m).foldl (Gen.polyphase_loop2 hq (m : Int) gain (n : Int)) (Array.replicate m (Array.replicate n (0 : ℝ))) =
      tab m fun i => tab n fun k => hq.getD (i + k * m) 0 * gain := by
  unfold tab
  -- one row: the inner loop rewrites row `i`
  have hstep : (Gen.polyphase_loop2 hq (m : Int) gain (n : Int) : Array (Array ℝ) → Nat → Array (Array ℝ)) =
      fun r i => r.setIfInBounds i ((fun (old : Array ℝ) (i : Nat) =>
        (List.range n).foldl (fun (row : Array ℝ) (k : Nat) =>
          row.setIfInBounds k (Gen.arrGet Gen.zeroR hq (Int.tmod ((m : Int) + (i : Int)) (m : Int) + (k : Int) * (m : Int)) * gain)) old)
        (r.getD i #[]) i) := by
    funext r i
    simp only [Gen.polyphase_loop2, Int.ofNat_eq_natCast, Int.toNat_natCast]
    have hf : (Gen.polyphase_loop1 hq (m : Int) gain (i : Int) : Array (Array ℝ) × Int → Nat → Array (Array ℝ) × Int) =
        fun acc k => ((fun (r : Array (Array ℝ)) (ih : Int) (k : Nat) =>
          r.setIfInBounds i ((r.getD i #[]).setIfInBounds k (Gen.arrGet Gen.zeroR hq ih * gain))) acc.1 acc.2 k, acc.2 + (m : Int)) := by
      funext acc k
      simp only [Gen.polyphase_loop1, Int.ofNat_eq_natCast, ptrSet_natCast, ptrGet_natCast, arrSet_natCast, mul_comm gain]
    rw [hf, foldl_pair_counter (fun (r : Array (Array ℝ)) (ih : Int) (k : Nat) =>
          r.setIfInBounds i ((r.getD i #[]).setIfInBounds k (Gen.arrGet Gen.zeroR hq ih * gain))) (m : Int) n r]
    simp only
    exact foldl_acc_cell (#[] : Array ℝ)
      (fun (row : Array ℝ) (k : Nat) =>
        row.setIfInBounds k (Gen.arrGet Gen.zeroR hq (Int.tmod ((m : Int) + (i : Int)) (m : Int) + (k : Int) * (m : Int)) * gain)) i (List.range n) r
  have key := foldl_set_eq_ofFn (#[] : Array ℝ) (fun (old : Array ℝ) (i : Nat) =>
        (List.range n).foldl (fun (row : Array ℝ) (k : Nat) =>
          row.setIfInBounds k (Gen.arrGet Gen.zeroR hq (Int.tmod ((m : Int) + (i : Int)) (m : Int) + (k : Int) * (m : Int)) * gain)) old)
    m (Array.replicate m (Array.replicate n (0 : ℝ))) (by simp)
  rw [hstep]
  refine key.trans ?_
  apply Array.ext
  · simp only [Array.size_ofFn, Array.size_reverse, Array.size_replicate]
  · intro i h1 h2
    simp only [Array.size_ofFn] at h1
    simp only [Array.getElem_ofFn]
    rw [getD_replicate', if_pos h1]
    have := foldl_set_eq_ofFn (0 : ℝ)
      (fun (_ : ℝ) (k : Nat) => Gen.arrGet Gen.zeroR hq (Int.tmod ((m : Int) + (i : Int)) (m : Int) + (k : Int) * (m : Int)) * gain)
      n (Array.replicate n (0 : ℝ)) (by simp)
    rw [this]
    apply Array.ext
    · simp only [Array.size_ofFn, Array.size_reverse, Array.size_replicate]
    · intro k k1 k2
      simp only [Array.size_ofFn] at k1
      simp only [Array.getElem_ofFn]
      have hi : Int.tmod ((m : Int) + (i : Int)) (m : Int) = (i : Int) := by
        rw [tmod_eq _ (m + i) m (Nat.cast_add _ _).symm, Nat.add_mod_left, Nat.mod_eq_of_lt h1]
      rw [hi, arrGet_eq Gen.zeroR hq _ (i + k * m) (by omega)]
      simp [Gen.zeroR]

theorem reverse_tab {β : Type} (n : ℕ) (f : ℕ → β) : (tab n f).reverse = tab n fun k => f (n - 1 - k) := by
  apply Array.ext
  · simp only [tab, Array.size_reverse, Array.size_ofFn]
  · intro k h1 h2
    simp only [tab, Array.getElem_reverse, Array.getElem_ofFn, Array.size_ofFn]

/-- the flip loop: every row reversed -/
theorem polyphase_flip (m n : ℕ) (c : ℕ → ℕ → ℝ) :
    (List.range m).foldl Gen.polyphase_loop3 (tab m fun i => tab n (c i)) = tab m fun i => tab n fun k => c i (n - 1 - k) := by
  have hstep : (Gen.polyphase_loop3 : Array (Array ℝ) → Nat → Array (Array ℝ)) =
      fun r i => r.setIfInBounds i ((fun (old : Array ℝ) (_ : Nat) => old.reverse) (r.getD i #[]) i) := by
    funext r i
    simp only [Gen.polyphase_loop3, Int.ofNat_eq_natCast, ptrSet_natCast, ptrGet_natCast, Gen.arrFlip]
  rw [hstep]
  refine (foldl_set_eq_ofFn (#[] : Array ℝ) (fun (old : Array ℝ) (_ : Nat) => old.reverse) m _ (C08.size_tab _ _)).trans ?_
  exact C08.tab_congr m (fun i => ((tab m fun i => tab n (c i)).getD i #[]).reverse) _ fun i hi => by
    rw [C08.row_tab _ _ _ hi, reverse_tab]

/-- **bridge, `IResampler::polyphase`:** for every coefficient vector, every branch count `m ≥ 1`, gain and flip flag, the GENERATED
`polyphase` (zero-pad to a multiple of `m` through the generated `zeropad`, divide by the generated `sum`, the two nested loops with
the running index `ih`, the optional `flip` of every branch) does not throw and returns the model's table
`r[i][k] = h[i + k' m] / Σh · gain`, `k' = k` or `n - 1 - k`. -/
theorem polyphase_eq (h : Array ℝ) (m : ℕ) (hm : 0 < m) (gain : ℝ) (flip : Bool) :
    Gen.polyphase h (m : Int) gain flip = .ok (Resample.polyphase h m gain flip) := by
  obtain ⟨hle, _, hmod⟩ := C08.paddedLen_spec h.size m hm
  unfold Gen.polyphase
  simp only [nh_eq h m]
  simp only [zeropadR_eq h _ hle, ← Int.ofNat_tdiv, Gen.vecNew, Gen.arrNew, Int.toNat_natCast, Gen.zeroR, fn_ofInt, Int.cast_zero]
  set nh := paddedLen h.size m with hnh
  set n := nh / m with hn
  have hS : Gen.sumR (padTo h nh) = accN (fun i => elem h i) nh (Resample.zero : ℝ) := by
    rw [sumR_eq_sum, C08.accN_eq, C08.zero_real, zero_add]
    have hsz : (padTo h nh).size = nh := by rw [padTo, Array.size_append, Array.size_replicate]; omega
    rw [hsz]
    exact Finset.sum_congr rfl (fun j _ => padTo_getD h nh j)
  rw [polyphase_loops _ m n gain]
  have hnm : n * m = nh := Nat.div_mul_cancel (Nat.dvd_of_mod_eq_zero hmod)
  have hcell : ∀ i k, i < m → k < n →
      (Gen.arrDivRR (padTo h nh) (Gen.sumR (padTo h nh))).getD (i + k * m) 0 * gain =
        elem h (i + k * m) / accN (fun i => elem h i) nh (Resample.zero : ℝ) * gain := by
    intro i k hi hk
    have hlt : i + k * m < nh := by
      rw [← hnm]
      calc i + k * m < m + k * m := by omega
        _ = (k + 1) * m := by ring
        _ ≤ n * m := Nat.mul_le_mul_right m (by omega)
    have hsz : (padTo h nh).size = nh := by rw [padTo, Array.size_append, Array.size_replicate]; omega
    unfold Gen.arrDivRR
    rw [Array.getD_eq_getD_getElem?, Array.getElem?_map, ← hS]
    have : (padTo h nh)[i + k * m]? = some ((padTo h nh).getD (i + k * m) 0) := by
      simp [Array.getD_eq_getD_getElem?, hsz, hlt]
    rw [this, padTo_getD]
    rfl
  rw [C08.tab_congr m _ _ fun i hi => C08.tab_congr n _ _ fun k hk => hcell i k hi hk]
  cases flip with
  | false => rfl
  | true => rw [if_pos rfl, polyphase_flip]; rfl

/-! ### the three constructors -/

theorem zeros_eq (n : ℕ) : (Resample.zeros n : Array ℝ) = Array.replicate n 0 := by
  unfold Resample.zeros tab
  apply Array.ext
  · simp
  · intro i h1 h2; simp [C08.zero_real]

theorem toNat_pred (n : ℕ) : ((n : Int) - 1).toNat = n - 1 := by omega

theorem ptrGet_row (th : Array (Array ℝ)) (k : ℕ) : Gen.ptrGet (#[] : Array ℝ) th (k : Int) = row th k := by
  rw [ptrGet_natCast]; rfl

/-- **bridge, `FIRInterpolator(int interp, const arr_real& h)`:** for every `interp ≥ 1` and every coefficient vector the generated
constructor (generated `polyphase` with gain `real_t(interp_)` and flipped branches, `sublen_ = h_[0].size()`,
`d_ = zeros(sublen_ - 1)`) does not throw and leaves the model's `Interp.init` -/
theorem firInterpCtor_eq (L : ℕ) (hL : 0 < L) (h : Array ℝ) :
    Gen.firInterpCtor (L : Int) h = .ok (toGenI (Interp.init L h)) := by
  unfold Gen.firInterpCtor
  simp only [fn_ofInt, Int.cast_natCast, polyphase_eq h L hL]
  unfold Interp.init toGenI
  simp only [fn_ofNat, zeros_eq, Gen.arrSize, Int.ofNat_eq_natCast, Gen.arrNew, Gen.zeroR, fn_ofInt, Int.cast_zero]
  rw [show ((0 : Int)) = ((0 : ℕ) : Int) from rfl, ptrGet_row, toNat_pred]

theorem toNat_mul_pred (M sub : ℕ) (z : Int) (hz : z = (M : Int) * ((sub : Int) - 1)) : z.toNat = M * (sub - 1) := by
  subst hz
  rcases sub with _ | s
  · exact Int.toNat_of_nonpos (by
      rw [Nat.cast_zero, Int.zero_sub, Int.mul_neg, Int.mul_one]; exact Int.neg_nonpos_of_nonneg (Int.natCast_nonneg M))
  · rw [Nat.cast_succ, Int.add_sub_cancel, ← Nat.cast_mul, Int.toNat_natCast, Nat.add_sub_cancel]

/-- **bridge, `FIRDecimator(int decim, const arr_real& h)`** (`polyphase(h, decim_, 1.0, false)`, `d_ = zeros(decim_ * (sublen_ - 1))`) -/
theorem firDecimCtor_eq (M : ℕ) (hM : 0 < M) (h : Array ℝ) :
    Gen.firDecimCtor (M : Int) h = .ok (toGenD (Decim.init M h)) := by
  unfold Gen.firDecimCtor
  simp only [fn_ofInt, Int.cast_one, polyphase_eq h M hM]
  unfold Decim.init toGenD
  simp only [fn_ofNat, Nat.cast_one, zeros_eq, Gen.arrSize, Int.ofNat_eq_natCast, Gen.arrNew, Gen.zeroR, fn_ofInt, Int.cast_zero]
  rw [show ((0 : Int)) = ((0 : ℕ) : Int) from rfl, ptrGet_row]
  congr 3
  exact toNat_mul_pred M _ _ (by ring)

/-- generated triple `(st, h_, xidxs_)` of the schedule loops against the model's `(st, [(branch, offset)])` -/
def SchedRel (th : Array (Array ℝ)) (g : Int × Array (Array ℝ) × Array Int) (s : Nat × List (Nat × Nat)) : Prop :=
  g.1 = (s.1 : Int) ∧ g.2.1 = (s.2.map fun p => row th p.1).toArray ∧ g.2.2 = (s.2.map fun p => Int.ofNat p.2).toArray

theorem sched_step (th : Array (Array ℝ)) (M i k : ℕ) (g : Int × Array (Array ℝ) × Array Int) (s : Nat × List (Nat × Nat))
    (hr : SchedRel th g s) : SchedRel th (Gen.firRateCtor_loop1 (M : Int) th (i : Int) g k) (schedStep M k i s) := by
  obtain ⟨h1, h2, h3⟩ := hr
  unfold Gen.firRateCtor_loop1 schedStep SchedRel
  simp only [Int.ofNat_eq_natCast, ptrGet_row, Gen.vecPush, h1, h2, h3]
  by_cases hc : s.1 + 1 = M
  · have hc' : ((s.1 : Int) + 1 = (M : Int)) := by exact_mod_cast hc
    simp [hc, hc']
  · have hc' : ¬ ((s.1 : Int) + 1 = (M : Int)) := by intro e; exact hc (by exact_mod_cast e)
    simp [hc, hc']

theorem sched_loops (th : Array (Array ℝ)) (L M : ℕ) :
    SchedRel th ((List.range M).foldl (Gen.firRateCtor_loop2 (L : Int) (M : Int) th) ((0 : Int), #[], #[]))
      (loopN (fun i s => loopN (fun k s => schedStep M k i s) L s) M (0, [])) := by
  rw [loopN_eq_foldl]
  apply foldl_rel (SchedRel th)
  · intro g s i hr
    have : Gen.firRateCtor_loop2 (L : Int) (M : Int) th g i =
        (List.range L).foldl (Gen.firRateCtor_loop1 (M : Int) th (i : Int)) g := by
      simp only [Gen.firRateCtor_loop2, Int.ofNat_eq_natCast, Int.toNat_natCast]
    rw [this, loopN_eq_foldl]
    exact foldl_rel (SchedRel th) _ _ (fun a b k hab => sched_step th M i k a b hab) _ _ _ hr
  · exact ⟨rfl, rfl, rfl⟩

/-- **bridge, `FIRRateConverter(int interp, int decim, const arr_real& h)`:** the generated constructor — generated `polyphase`,
`sublen_`, `d_`, and the branch / offset schedule loops `st = st + 1; if (st == decim_) { h_.emplace_back(th[k]); xidxs_.push_back(i); st = 0; }`
— does not throw and leaves the model's `RateConv.init`, for every `interp ≥ 1`, every `decim ≥ 0` -/
theorem firRateCtor_eq (L M : ℕ) (hL : 0 < L) (h : Array ℝ) :
    Gen.firRateCtor (L : Int) (M : Int) h = .ok (toGenRC (RateConv.init L M h)) := by
  unfold Gen.firRateCtor
  simp only [fn_ofInt, Int.cast_natCast, polyphase_eq h L hL]
  obtain ⟨h1, h2, h3⟩ := sched_loops (polyphase h L (L : ℝ) true) L M
  unfold RateConv.init toGenRC schedule
  simp only [fn_ofNat, zeros_eq, Gen.arrSize, Int.ofNat_eq_natCast, Gen.arrNew, Gen.zeroR, fn_ofInt, Int.cast_zero, Int.toNat_natCast]
  rw [show ((0 : Int)) = ((0 : ℕ) : Int) from rfl, ptrGet_row]
  simp only [Nat.cast_zero] at h2 h3 ⊢
  rw [h2, h3]
  have hx : ∀ l : List (Nat × Nat), Array.map Int.ofNat (List.map (fun p => p.2) l).toArray = (List.map (fun p => Int.ofNat p.2) l).toArray := by
    intro l; rw [List.map_toArray, List.map_map]; rfl
  rw [hx, toNat_pred]

/-! ### the transported theorems, from the GENERATED constructors -/

/-- **T08.2 from the GENERATED constructor:** `FIRInterpolator(L, h)` constructed by the regenerated constructor, first call of the
regenerated `process`: the first `|x|·L` samples of the textbook chain (zero-stuff by `L`, filter with `h` normalised to DC gain `L`) -/
theorem gen_interp_from_ctor (L : ℕ) (hL : 0 < L) (h : Array ℝ) (hh : 0 < h.size) (hs : C08.hsum h ≠ 0) (x : Array ℝ) :
    (Gen.firInterpCtor (L : Int) h).bind (fun o => Gen.firInterpProcess o x) =
      .ok (toGenI (C08.interpAt L h x), tab (x.size * L) fun o => C08.upfir L h x o) := by
  rw [firInterpCtor_eq L hL h, C08.interp_init L hL h]
  have := gen_interp_eq L hL h hh hs #[] x
  simp only [Array.empty_append, Array.size_empty, Nat.zero_div, Nat.zero_mul, Nat.zero_add] at this
  exact this

/-- **T08.3 from the GENERATED constructor** -/
theorem gen_decim_from_ctor (M : ℕ) (hM : 0 < M) (h : Array ℝ) (hh : 0 < h.size) (hs : C08.hsum h ≠ 0) (x : Array ℝ)
    (hx : x.size % M = 0) :
    (Gen.firDecimCtor (M : Int) h).bind (fun o => Gen.firDecimProcess o x) =
      .ok (toGenD (C08.decimAt M h x),
        tab (x.size / M) fun i => C08.fir (paddedLen h.size M) (C08.hflip h M) (elem x) (i * M + (M - 1))) := by
  rw [firDecimCtor_eq M hM h, C08.decim_init M hM h]
  have := gen_decim_eq M hM h hh hs #[] x hx
  simp only [Array.empty_append, Array.size_empty, Nat.zero_div, Nat.zero_mul, Nat.zero_add] at this
  exact this

/-- **T08.5 from the GENERATED constructor** -/
theorem gen_rateconv_from_ctor (L M : ℕ) (hL : 0 < L) (hM : 0 < M) (h : Array ℝ) (hh : 0 < h.size) (hs : C08.hsum h ≠ 0)
    (x : Array ℝ) (hx : x.size % M = 0) :
    (Gen.firRateCtor (L : Int) (M : Int) h).bind (fun o => Gen.firRateProcess o x) =
      .ok (toGenRC (C08.rateAt L M h x), tab (x.size / M * L) fun o => C08.upfir L h x ((o + 1) * M - 1)) := by
  rw [firRateCtor_eq L M hL h, C08.rateconv_init L M hL h]
  have := gen_rateconv_eq L M hL hM h hh hs #[] x (Nat.zero_mod M) hx
  simp only [Array.empty_append, Array.size_empty, Nat.zero_div, Nat.zero_mul, Nat.zero_add] at this
  exact this

/-- the default arguments of `IResampler::polyphase(h, m, gain = 1.0, flip_coeffs = false)` -/
theorem polyphase_defaults : ((Gen.polyphaseDefault_gain : ℝ), Gen.polyphaseDefault_flip_coeffs) = (1, false) := by
  simp [Gen.polyphaseDefault_gain, Gen.polyphaseDefault_flip_coeffs]

end
end Dsp.C08Gen
