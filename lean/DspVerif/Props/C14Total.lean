import DspVerif.Props.C14
import DspVerif.Props.C01Total
/-!
# C14 — `hilbert` UNCONDITIONALLY: the transform hypotheses of `Props/C14.lean` discharged for the library's own FFT

`Props/C14.lean` proves T14.1–T14.3 (`hilbert_re`, `hilbert_spectrum`, `hilbert_onesided`, `hilbertN_eq`) with the two transforms
as PARAMETERS and the hypotheses `IsRealDft n fft` ("`fft(arr_real)` is the DFT at length `n`") and `IsIdft n ifft`
("`ifft(arr_cmplx)` is the inverse DFT at length `n`").  `Props/C01Total.lean` proves that the model of the library's FFT family
IS the DFT for every length `0 < n < 2^31` (`C01.fftR_eq`, `C01.fftC_eq`).  This file puts the two together for exactly the
instantiation `dspdriver_c14` runs (`Driver/H14.lean`: `fftF x = Fft.fftR lits x.size x`,
`ifftF X = Fft.ifftWith (Fft.fftC lits X.size) X.size X`), at `ℝ` (`fftLib`, `ifftLib`).

The only hypotheses left: `LitsOK lit` (the three literals of the small kernels denote `√½`, `√½`, `√¾`; satisfiable:
`C01.litsOK_exact`) and `3 ≤ n < 2^31` (below 3 the code throws — `hilbert_err_total`; `2^31` is the end of the `int` range, the
bound of `C01.fftC_eq` / `C01.fftR_eq`).
-/
open Finset Complex
namespace Dsp.C14
open Dsp Dsp.Hilbert Dsp.Cx Dsp.C07

/-! ## the driver's instantiation at ℝ -/

/-- `fft(const arr_real&)` as `dspdriver_c14` instantiates it (`Driver.C14.fftF`), at `ℝ` -/
noncomputable def fftLib (lit : Fft.Lits ℝ) (x : Array ℝ) : Array (Cx ℝ) := Fft.fftR lit x.size x

/-- `ifft(const arr_cmplx&)` = `IfftPlan(n).solve` as `dspdriver_c14` instantiates it (`Driver.C14.ifftF`), at `ℝ` -/
noncomputable def ifftLib (lit : Fft.Lits ℝ) (X : Array (Cx ℝ)) : Array (Cx ℝ) :=
  Fft.ifftWith (Fft.fftC lit X.size) X.size X

/-! ## the two hypotheses of T14.1 / T14.2, discharged -/

/-- **hypothesis `IsRealDft` of T14.1/T14.2 for the library's `fft(arr_real)`**, every `0 < n < 2^31` -/
theorem isRealDft_fftLib (lit : Fft.Lits ℝ) (hl : C01.LitsOK lit) (n : ℕ) (hn : 0 < n) (hlt : n < 2 ^ 31) :
    IsRealDft n (fftLib lit) := by
  intro x hx
  subst hx
  exact C01.fftR_getD lit hl x.size hn hlt x

/-- **hypothesis `IsIdft` of T14.1/T14.2 for the library's `ifft(arr_cmplx)`** (`IfftPlan(n).solve` over `FftPlan(n)`),
every `0 < n < 2^31` -/
theorem isIdft_ifftLib (lit : Fft.Lits ℝ) (hl : C01.LitsOK lit) (n : ℕ) (hn : 0 < n) (hlt : n < 2 ^ 31) :
    IsIdft n (ifftLib lit) := by
  intro X hX
  subst hX
  exact C01.ifftWith_getD lit hl X.size hn hlt.le X

/-! ## T14.1 / T14.2 without any transform hypothesis -/

/-- **T14.1 `hilbert_re`, unconditional.**  For every `3 ≤ n < 2^31` and every real `x` of length `n`, `hilbert(x)` — computed with
the library's own `fft` and `ifft` — returns `n` samples whose real part is `x`. -/
theorem hilbert_re_total (lit : Fft.Lits ℝ) (hl : C01.LitsOK lit) (n : ℕ) (h3 : 3 ≤ n) (hlt : n < 2 ^ 31)
    (x : Array ℝ) (hx : x.size = n) :
    ∃ y, hilbert (fftLib lit) (ifftLib lit) x = .ok y ∧ y.size = n ∧ ∀ t, t < n → (y.getD t 0).re = x.getD t 0 :=
  hilbert_re n h3 _ _ (isRealDft_fftLib lit hl n (Nat.zero_lt_of_lt h3) hlt) (isIdft_ifftLib lit hl n (Nat.zero_lt_of_lt h3) hlt) x hx

/-- **T14.2 (full form), unconditional.**  The spectrum of `hilbert(x)` is the spectrum of `x` with DC (and Nyquist) kept, the
positive frequencies doubled and the negative frequencies removed — every `3 ≤ n < 2^31`. -/
theorem hilbert_spectrum_total (lit : Fft.Lits ℝ) (hl : C01.LitsOK lit) (n : ℕ) (h3 : 3 ≤ n) (hlt : n < 2 ^ 31)
    (x : Array ℝ) (hx : x.size = n) :
    ∃ y, hilbert (fftLib lit) (ifftLib lit) x = .ok y ∧
      ∀ k, k < n → dft n (seqC y) k = ((osw n k : ℝ) : ℂ) * dft n (seqR x) k :=
  hilbert_spectrum n h3 _ _ (isRealDft_fftLib lit hl n (Nat.zero_lt_of_lt h3) hlt) (isIdft_ifftLib lit hl n (Nat.zero_lt_of_lt h3) hlt) x hx

/-- **T14.2 `hilbert_onesided`, unconditional.**  For every `3 ≤ n < 2^31`: the discrete spectrum of `hilbert(x)` vanishes on the
negative-frequency bins `n/2 < k < n`. -/
theorem hilbert_onesided_total (lit : Fft.Lits ℝ) (hl : C01.LitsOK lit) (n : ℕ) (h3 : 3 ≤ n) (hlt : n < 2 ^ 31)
    (x : Array ℝ) (hx : x.size = n) :
    ∃ y, hilbert (fftLib lit) (ifftLib lit) x = .ok y ∧ ∀ k, n / 2 < k → k < n → dft n (seqC y) k = 0 :=
  hilbert_onesided n h3 _ _ (isRealDft_fftLib lit hl n (Nat.zero_lt_of_lt h3) hlt) (isIdft_ifftLib lit hl n (Nat.zero_lt_of_lt h3) hlt) x hx

/-- **T14.1 + T14.2 for ONE returned array, unconditional**: `hilbert(x)` succeeds for every real `x` with `3 ≤ len x < 2^31`, and
the array it returns has length `len x`, real part `x`, spectrum `osw · DFT(x)`, hence no negative-frequency content. -/
theorem hilbert_total (lit : Fft.Lits ℝ) (hl : C01.LitsOK lit) (x : Array ℝ) (h3 : 3 ≤ x.size) (hlt : x.size < 2 ^ 31) :
    ∃ y, hilbert (fftLib lit) (ifftLib lit) x = .ok y ∧ y.size = x.size ∧
      (∀ t, t < x.size → (y.getD t 0).re = x.getD t 0) ∧
      (∀ k, k < x.size → dft x.size (seqC y) k = ((osw x.size k : ℝ) : ℂ) * dft x.size (seqR x) k) ∧
      (∀ k, x.size / 2 < k → k < x.size → dft x.size (seqC y) k = 0) := by
  obtain ⟨y, hy, hs, hre, hsp⟩ := hilbert_all x.size h3 _ _ (isRealDft_fftLib lit hl _ (Nat.zero_lt_of_lt h3) hlt)
    (isIdft_ifftLib lit hl _ (Nat.zero_lt_of_lt h3) hlt) x rfl
  exact ⟨y, hy, hs, hre, hsp, osw_onesided hsp⟩

/-- below three samples `hilbert` throws (whatever the transforms are; restated for the library's) -/
theorem hilbert_err_total (lit : Fft.Lits ℝ) (x : Array ℝ) (h : x.size < 3) :
    ∃ e, hilbert (fftLib lit) (ifftLib lit) x = .error e :=
  hilbert_err _ _ x h

/-! ## T14.3 `hilbert(x, n)` without any transform hypothesis -/

theorem padTrunc_size (x : Array ℝ) (n : ℕ) : (padTrunc x n).size = n := by simp [padTrunc]

theorem padTrunc_getD (x : Array ℝ) (n t : ℕ) (ht : t < n) :
    (padTrunc x n).getD t 0 = if t < x.size then x.getD t 0 else 0 := by
  unfold padTrunc
  rw [getD_ofFn, dif_pos ht]
  simp only [Cx.zeroR_eq]

/-- **T14.3 `hilbert_n` with T14.1/T14.2, unconditional.**  For EVERY input length and every target length `3 ≤ n < 2^31`:
`hilbert(x, n)` equals `hilbert` of `x` zero-padded / truncated to `n` samples, it succeeds, returns `n` samples whose real part
is the padded / truncated input, and whose spectrum is `osw ·` that of the padded / truncated input — zero on the
negative-frequency bins. -/
theorem hilbertN_total (lit : Fft.Lits ℝ) (hl : C01.LitsOK lit) (n : ℕ) (h3 : 3 ≤ n) (hlt : n < 2 ^ 31) (x : Array ℝ) :
    hilbertN (fftLib lit) (ifftLib lit) x n = hilbert (fftLib lit) (ifftLib lit) (padTrunc x n) ∧
    ∃ y, hilbertN (fftLib lit) (ifftLib lit) x n = .ok y ∧ y.size = n ∧
      (∀ t, t < n → (y.getD t 0).re = if t < x.size then x.getD t 0 else 0) ∧
      (∀ k, k < n → dft n (seqC y) k = ((osw n k : ℝ) : ℂ) * dft n (seqR (padTrunc x n)) k) ∧
      (∀ k, n / 2 < k → k < n → dft n (seqC y) k = 0) := by
  have hN := hilbertN_eq (fftLib lit) (ifftLib lit) x n
  refine ⟨hN, ?_⟩
  have hps := padTrunc_size x n
  obtain ⟨y, hy, hs, hre, hsp, hneg⟩ := hilbert_total lit hl (padTrunc x n) (hps.symm ▸ h3) (hps.symm ▸ hlt)
  rw [hps] at hs hre hsp hneg
  refine ⟨y, by rw [hN, hy], hs, fun t ht => ?_, hsp, hneg⟩
  rw [hre t ht, padTrunc_getD x n t ht]

/-- `hilbert(x, n)` with `n < 3` throws, whatever `x` is -/
theorem hilbertN_err_total (lit : Fft.Lits ℝ) (x : Array ℝ) (n : ℕ) (h : n < 3) :
    ∃ e, hilbertN (fftLib lit) (ifftLib lit) x n = .error e := by
  rw [hilbertN_eq]
  exact hilbert_err _ _ _ (by rw [padTrunc_size]; exact h)

/-! ## non-vacuity: the exact literals, concrete lengths of every plan branch -/

/-- the exact literals -/
noncomputable abbrev litX : Fft.Lits ℝ := ⟨√2 / 2, √2 / 2, √3 / 2⟩

/-- the discharged hypotheses at a composite even length (packed real transform over the factor tree of size 500;
inverse over the factor tree of size 1000) and at a prime above 41 (Bluestein) -/
example : IsRealDft 1000 (fftLib litX) ∧ IsIdft 1000 (ifftLib litX) ∧ IsRealDft 1009 (fftLib litX) ∧ IsIdft 1009 (ifftLib litX) :=
  ⟨isRealDft_fftLib _ C01.litsOK_exact 1000 (by norm_num) (by norm_num), isIdft_ifftLib _ C01.litsOK_exact 1000 (by norm_num) (by norm_num),
   isRealDft_fftLib _ C01.litsOK_exact 1009 (by norm_num) (by norm_num), isIdft_ifftLib _ C01.litsOK_exact 1009 (by norm_num) (by norm_num)⟩

/-- T14.1 at `n = 1000` (even composite), `n = 1001` (odd composite: factor tree on the complexified input), `n = 3` (the
smallest accepted length: `_dft_n3`) -/
example (x : Array ℝ) (hx : x.size = 1000) :
    ∃ y, hilbert (fftLib litX) (ifftLib litX) x = .ok y ∧ y.size = 1000 ∧ ∀ t, t < 1000 → (y.getD t 0).re = x.getD t 0 :=
  hilbert_re_total _ C01.litsOK_exact 1000 (by norm_num) (by norm_num) x hx

example (x : Array ℝ) (hx : x.size = 1001) :
    ∃ y, hilbert (fftLib litX) (ifftLib litX) x = .ok y ∧ y.size = 1001 ∧ ∀ t, t < 1001 → (y.getD t 0).re = x.getD t 0 :=
  hilbert_re_total _ C01.litsOK_exact 1001 (by norm_num) (by norm_num) x hx

example : ∃ y, hilbert (fftLib litX) (ifftLib litX) #[1, 2, 4] = .ok y ∧ y.size = 3 ∧
    (y.getD 0 0).re = 1 ∧ (y.getD 1 0).re = 2 ∧ (y.getD 2 0).re = 4 := by
  obtain ⟨y, hy, hs, hre⟩ := hilbert_re_total litX C01.litsOK_exact 3 (by norm_num) (by norm_num) #[1, 2, 4] rfl
  exact ⟨y, hy, hs, hre 0 (by decide), hre 1 (by decide), hre 2 (by decide)⟩

/-- T14.2 at a power of two (radix-2 network) and at the largest `int` (`2^31 − 1`, prime: Bluestein of size `2^32`) -/
example (x : Array ℝ) (hx : x.size = 4096) :
    ∃ y, hilbert (fftLib litX) (ifftLib litX) x = .ok y ∧ ∀ k, 2048 < k → k < 4096 → dft 4096 (seqC y) k = 0 :=
  hilbert_onesided_total _ C01.litsOK_exact 4096 (by norm_num) (by norm_num) x hx

example (x : Array ℝ) (hx : x.size = 2147483647) :
    ∃ y, hilbert (fftLib litX) (ifftLib litX) x = .ok y ∧
      ∀ k, k < 2147483647 → dft 2147483647 (seqC y) k = ((osw 2147483647 k : ℝ) : ℂ) * dft 2147483647 (seqR x) k :=
  hilbert_spectrum_total _ C01.litsOK_exact 2147483647 (by norm_num) (by norm_num) x hx

/-- T14.3: `hilbert(x, 1009)` of an input of ANY length (padded or truncated), and a concrete padded sample -/
example (x : Array ℝ) :
    ∃ y, hilbertN (fftLib litX) (ifftLib litX) x 1009 = .ok y ∧ y.size = 1009 ∧
      ∀ t, t < 1009 → (y.getD t 0).re = if t < x.size then x.getD t 0 else 0 := by
  obtain ⟨_, y, hy, hs, hre, _⟩ := hilbertN_total litX C01.litsOK_exact 1009 (by norm_num) (by norm_num) x
  exact ⟨y, hy, hs, hre⟩

example : ∃ y, hilbertN (fftLib litX) (ifftLib litX) #[5, 7] 6 = .ok y ∧ (y.getD 1 0).re = 7 ∧ (y.getD 4 0).re = 0 := by
  obtain ⟨_, y, hy, _, hre, _⟩ := hilbertN_total litX C01.litsOK_exact 6 (by norm_num) (by norm_num) #[5, 7]
  exact ⟨y, hy, hre 1 (by decide), hre 4 (by decide)⟩

end Dsp.C14
