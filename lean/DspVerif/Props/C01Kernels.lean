import DspVerif.Lib.C01Fft
import Mathlib.Tactic.IntervalCases
/-!
# C01 (kernels): the hard-coded small transforms, as REGENERATED from `lib/fft/small-fft.h` and
`lib/fft/primes-fft.h` by `tools/cxx2lean.py` on every run (`Gen/SmallFft.lean`), equal the DFT.

Floating literals of the source are abstracted as parameters (`c0`) with the algebraic property they
approximate as hypothesis; `lit_ok_*` shows that the literal actually written in the source satisfies
that property to 2⁻⁴⁸ (exact rational arithmetic on the source text).
-/
open Finset Complex
namespace Dsp.C01K
open Dsp Dsp.Gen

/-- the complex sequence a `Nat → Cx ℝ` denotes -/
noncomputable def seqC (x : Nat → Cx ℝ) : ℕ → ℂ := fun i => Cx.toC (x i)

/-- a real sequence as a complex one -/
noncomputable def seqR (x : Nat → ℝ) : ℕ → ℂ := fun i => ((x i : ℝ) : ℂ)


/-! ## explicit roots of unity -/

theorem ω_re (n j : ℕ) : (ω n j).re = Real.cos (2 * Real.pi * j / n) := by
  unfold ω; rw [← Complex.ofReal_neg, Complex.exp_ofReal_mul_I_re, Real.cos_neg]

theorem ω_im (n j : ℕ) : (ω n j).im = -Real.sin (2 * Real.pi * j / n) := by
  unfold ω; rw [← Complex.ofReal_neg, Complex.exp_ofReal_mul_I_im, Real.sin_neg]

theorem ω_pow (n j : ℕ) : ω n j = (ω n 1) ^ j := Dsp.ω_pow n j

/-- `ω n j` is the point of the unit circle at the angle `-t`, for `t` any expression of `2πj/n` -/
theorem ω_angle (n j : ℕ) (t : ℝ) (h : 2 * Real.pi * j / n = t) : ω n j = ⟨Real.cos t, -Real.sin t⟩ :=
  h ▸ Complex.ext (ω_re n j) (ω_im n j)

theorem ω4_1 : ω 4 1 = -I := by
  rw [ω_angle 4 1 (Real.pi / 2) (by push_cast; ring), Real.cos_pi_div_two, Real.sin_pi_div_two]
  apply Complex.ext <;> simp

theorem ω8_1 (c : ℝ) (hc : 2 * c ^ 2 = 1) (hc0 : 0 < c) : ω 8 1 = ⟨c, -c⟩ := by
  have e : c = √2 / 2 := (sq_eq_sq₀ hc0.le (by positivity)).mp (by
    rw [div_pow, Real.sq_sqrt (by norm_num)]; linarith)
  rw [ω_angle 8 1 (Real.pi / 4) (by push_cast; ring), Real.cos_pi_div_four, Real.sin_pi_div_four, e]

theorem ω3_1 (d : ℝ) (hd : 4 * d ^ 2 = 3) (hd0 : 0 < d) : ω 3 1 = ⟨-(1 / 2), -d⟩ := by
  have e : d = √3 / 2 := (sq_eq_sq₀ hd0.le (by positivity)).mp (by
    rw [div_pow, Real.sq_sqrt (by norm_num)]; linarith)
  rw [ω_angle 3 1 (Real.pi - Real.pi / 3) (by push_cast; ring), Real.cos_pi_sub, Real.cos_pi_div_three,
    Real.sin_pi_sub, Real.sin_pi_div_three, e]

/-- the twiddles of the odd half of `_fft_n8` in terms of the literal `c` -/
theorem ω8_vals (c : ℝ) (hc : 2 * c ^ 2 = 1) (hc0 : 0 < c) :
    ω 8 0 = 1 ∧ ω 8 1 = ⟨c, -c⟩ ∧ ω 8 2 = -I ∧ ω 8 3 = ⟨-c, -c⟩ := by
  have h1 := ω8_1 c hc hc0
  have h2 : ω 8 2 = -I := (ω_scale 4 2 1 (by norm_num)).trans ω4_1
  refine ⟨ω_zero 8, h1, h2, ?_⟩
  rw [show (3 : ℕ) = 1 + 2 from rfl, ω_add, h1, h2]
  apply Complex.ext <;> simp

/-! ## the transforms of length 2, 3 and 4 written out row by row -/

theorem dft2_rows (x : ℕ → ℂ) : dft 2 x 0 = x 0 + x 1 ∧ dft 2 x 1 = x 0 - x 1 := by
  constructor <;> simp only [dft, Finset.sum_range_succ, Finset.sum_range_zero, Nat.mul_zero, Nat.mul_one, ω_zero, ω_two_one] <;> ring

/-- two transforms of length 2 (`dft_dif`) -/
theorem dft4_rows (x : ℕ → ℂ) :
    dft 4 x 0 = x 0 + x 1 + x 2 + x 3 ∧ dft 4 x 1 = x 0 - I * x 1 - x 2 + I * x 3 ∧
      dft 4 x 2 = x 0 - x 1 + x 2 - x 3 ∧ dft 4 x 3 = x 0 + I * x 1 - x 2 - I * x 3 := by
  have e := fun s => dft_dif 2 (by norm_num) x s
  have r := fun y => dft2_rows y
  refine ⟨(e 0).1.trans ?_, (e 0).2.trans ?_, (e 1).1.trans ?_, (e 1).2.trans ?_⟩ <;>
    first | rw [(r _).1] | rw [(r _).2]
  all_goals simp only [Nat.add_zero, Nat.reduceMul, ω_zero, ω4_1]
  all_goals ring

/-- with the two non-trivial cube roots of unity left as they are -/
theorem dft3_rows (x : ℕ → ℂ) :
    dft 3 x 0 = x 0 + x 1 + x 2 ∧ dft 3 x 1 = x 0 + x 1 * ω 3 1 + x 2 * ω 3 2 ∧
      dft 3 x 2 = x 0 + x 1 * ω 3 2 + x 2 * ω 3 1 := by
  have e : ω 3 4 = ω 3 1 := (ω_mod 3 4 (by norm_num)).symm
  refine ⟨?_, ?_, ?_⟩ <;> simp [dft, Finset.sum_range_succ, ω_zero, e]

/-! ## the kernels -/

/-- Real and imaginary part of a cell of a generated kernel (guards `k = j` at a numeral `k`, the `Cx` operators and
    literals of the source) and of a row of the transform; what is left is an identity for `ring`.  A closed list because
    the default simp set reaches the same form several times more slowly on these cells; it names the `Cx` operators,
    which the kernels as generated do not use, so that a kernel written with them still goes through. -/
macro "cx_parts" : tactic =>
  `(tactic| simp only [Cx.toC_re, Cx.toC_im, Cx.add_re, Cx.add_im, Cx.sub_re, Cx.sub_im, Cx.mul_re, Cx.mul_im,
    Cx.neg_re, Cx.neg_im, Complex.add_re, Complex.add_im, Complex.sub_re, Complex.sub_im, Complex.mul_re,
    Complex.mul_im, Complex.neg_re, Complex.neg_im, Complex.I_re, Complex.I_im, Complex.ofReal_re,
    Complex.ofReal_im, fn_ofInt, Int.cast_zero, Int.cast_one, Int.cast_ofNat, Int.cast_neg, OfNat.ofNat_ne_zero,
    OfNat.ofNat_ne_one, Nat.reduceEqDiff, if_true, if_false])

/-- T01.1 `_fft_n2` -/
theorem fft2_eq (x : Nat → Cx ℝ) (k : ℕ) (hk : k < 2) : Cx.toC (fft2 x k) = dft 2 (seqC x) k := by
  obtain ⟨r0, r1⟩ := dft2_rows (seqC x)
  interval_cases k <;> simp only [r0, r1] <;> apply Complex.ext <;> simp [fft2, seqC]

/-- T01.1 `_fft_n4` -/
theorem fft4_eq (x : Nat → Cx ℝ) (k : ℕ) (hk : k < 4) : Cx.toC (fft4 x k) = dft 4 (seqC x) k := by
  obtain ⟨r0, r1, r2, r3⟩ := dft4_rows (seqC x)
  interval_cases k <;> simp only [r0, r1, r2, r3] <;> apply Complex.ext <;> simp only [fft4, seqC] <;> cx_parts <;> ring

/-- T01.1 real-input `_fft_n2` -/
theorem rfft2_eq (x : Nat → ℝ) (k : ℕ) (hk : k < 2) : Cx.toC (rfft2 x k) = dft 2 (seqR x) k := by
  obtain ⟨r0, r1⟩ := dft2_rows (seqR x)
  interval_cases k <;> simp only [r0, r1] <;> apply Complex.ext <;> simp [rfft2, seqR]

/-- T01.1 real-input `_fft_n4` -/
theorem rfft4_eq (x : Nat → ℝ) (k : ℕ) (hk : k < 4) : Cx.toC (rfft4 x k) = dft 4 (seqR x) k := by
  obtain ⟨r0, r1, r2, r3⟩ := dft4_rows (seqR x)
  interval_cases k <;> simp only [r0, r1, r2, r3] <;> apply Complex.ext <;> simp only [rfft4, seqR] <;> cx_parts <;> ring

/-- T01.1 `_dft_n3`, for every value `d` of the literal with `4d² = 3`, `d > 0` (i.e. `d = √3/2`) -/
theorem dft3_eq (d : ℝ) (hd : 4 * d ^ 2 = 3) (hd0 : 0 < d) (x : Nat → Cx ℝ) (k : ℕ) (hk : k < 3) :
    Cx.toC (dft3 d x k) = dft 3 (seqC x) k := by
  obtain ⟨r0, r1, r2⟩ := dft3_rows (seqC x)
  have w1 := ω3_1 d hd hd0
  have w2 : ω 3 2 = ⟨-(1 / 2), d⟩ := by
    rw [← ω_conj_of_dvd 3 1 2 (by norm_num) (by norm_num), w1]
    apply Complex.ext <;> simp
  interval_cases k <;> simp only [r0, r1, r2, w1, w2] <;> apply Complex.ext <;> simp only [dft3, seqC] <;> cx_parts <;> ring

/-- `_fft_n8` and its real-input twin are one radix-2 decimation in frequency (`dft_dif`): the even outputs are the
    half-length transform of the folded sums, the odd outputs that of the twiddled differences -/
theorem dif_interleave (h : ℕ) (hh : 0 < h) (X Y1 Y2 : ℕ → ℂ) (y : ℕ → Cx ℝ)
    (h1 : ∀ s < h, Cx.toC (y (s * 2)) = dft h Y1 s) (h2 : ∀ s < h, Cx.toC (y (s * 2 + 1)) = dft h Y2 s)
    (hY1 : ∀ j < h, Y1 j = X j + X (h + j)) (hY2 : ∀ j < h, Y2 j = (X j - X (h + j)) * ω (2 * h) j)
    (k : ℕ) (hk : k < 2 * h) : Cx.toC (y k) = dft (2 * h) X k := by
  have hs : k / 2 < h := by omega
  obtain ⟨e1, e2⟩ := dft_dif h hh X (k / 2)
  rcases Nat.mod_two_eq_zero_or_one k with hp | hp
  · rw [show k = k / 2 * 2 by omega, h1 _ hs, e1]
    exact dft_congr h _ _ hY1 _
  · rw [show k = k / 2 * 2 + 1 by omega, h2 _ hs, e2]
    exact dft_congr h _ _ hY2 _

/-- T01.1 `_fft_n8`, for every value `c` of the literal with `2c² = 1`, `c > 0` (i.e. `c = √½`) -/
theorem fft8_eq (c : ℝ) (hc : 2 * c ^ 2 = 1) (hc0 : 0 < c) (x : Nat → Cx ℝ) (k : ℕ) (hk : k < 8) :
    Cx.toC (fft8 c x k) = dft 8 (seqC x) k := by
  obtain ⟨w0, w1, w2, w3⟩ := ω8_vals c hc hc0
  apply dif_interleave 4 (by norm_num) (seqC x) _ _ (fft8 c x) ?h1 ?h2 ?e ?o k hk
  case h1 => intro s hs; interval_cases s <;> simp only [fft8, Nat.reduceMul, OfNat.ofNat_ne_zero, OfNat.ofNat_ne_one, Nat.reduceEqDiff, if_true, if_false] <;> exact fft4_eq _ _ (by norm_num)
  case h2 => intro s hs; interval_cases s <;> simp only [fft8, Nat.reduceMul, Nat.reduceAdd, OfNat.ofNat_ne_zero, OfNat.ofNat_ne_one, Nat.reduceEqDiff, if_true, if_false] <;> exact fft4_eq _ _ (by norm_num)
  case e => intro j hj; interval_cases j <;> simp [seqC, Cx.toC_add]
  case o =>
    intro j hj; interval_cases j <;> simp only [w0, w1, w2, w3] <;> apply Complex.ext <;> simp [seqC]

/-- T01.1 real-input `_fft_n8` -/
theorem rfft8_eq (c : ℝ) (hc : 2 * c ^ 2 = 1) (hc0 : 0 < c) (x : Nat → ℝ) (k : ℕ) (hk : k < 8) :
    Cx.toC (rfft8 c x k) = dft 8 (seqR x) k := by
  obtain ⟨w0, w1, w2, w3⟩ := ω8_vals c hc hc0
  apply dif_interleave 4 (by norm_num) (seqR x) _ _ (rfft8 c x) ?h1 ?h2 ?e ?o k hk
  case h1 => intro s hs; interval_cases s <;> simp only [rfft8, Nat.reduceMul, OfNat.ofNat_ne_zero, OfNat.ofNat_ne_one, Nat.reduceEqDiff, if_true, if_false] <;> exact rfft4_eq _ _ (by norm_num)
  case h2 => intro s hs; interval_cases s <;> simp only [rfft8, Nat.reduceMul, Nat.reduceAdd, OfNat.ofNat_ne_zero, OfNat.ofNat_ne_one, Nat.reduceEqDiff, if_true, if_false] <;> exact fft4_eq _ _ (by norm_num)
  case e => intro j hj; interval_cases j <;> simp [seqR]
  case o =>
    intro j hj
    interval_cases j <;> simp only [w0, w1, w2, w3] <;> apply Complex.ext <;> simp [seqC, seqR, Cx.rmul, Cx.mulr] <;> ring

/-- the literal written in `_fft_n8` (as an exact rational) is √½ to 2⁻⁴⁸: a literal mutated in any of its
    first 14 digits fails this -/
theorem lit_ok_fft8 : |((fft8_c0_rat.1 : ℚ) / fft8_c0_rat.2) ^ 2 * 2 - 1| ≤ 1 / 2 ^ 48 ∧ 0 < (fft8_c0_rat.1 : ℚ) := by
  constructor
  · rw [abs_le]; simp only [fft8_c0_rat]; norm_num
  · simp only [fft8_c0_rat]; norm_num

theorem lit_ok_rfft8 : |((rfft8_c0_rat.1 : ℚ) / rfft8_c0_rat.2) ^ 2 * 2 - 1| ≤ 1 / 2 ^ 48 ∧ 0 < (rfft8_c0_rat.1 : ℚ) := by
  constructor
  · rw [abs_le]; simp only [rfft8_c0_rat]; norm_num
  · simp only [rfft8_c0_rat]; norm_num

/-- the literal written in `_dft_n3` is √3/2 to 2⁻⁴⁸ -/
theorem lit_ok_dft3 : |((dft3_c0_rat.1 : ℚ) / dft3_c0_rat.2) ^ 2 * 4 - 3| ≤ 1 / 2 ^ 48 ∧ 0 < (dft3_c0_rat.1 : ℚ) := by
  constructor
  · rw [abs_le]; simp only [dft3_c0_rat]; norm_num
  · simp only [dft3_c0_rat]; norm_num

end Dsp.C01K
