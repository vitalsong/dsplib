import DspVerif.Props.C16
import DspVerif.Gen.StepsMedian
import DspVerif.Gen.CtorMedian
import DspVerif.Lib.RealFn
import DspVerif.Lib.GenBridge
/-!
# C16 — bridge: the hand-written median-filter model IS the regenerated code of `lib/medfilt.cpp`

`Gen/StepsMedian.lean` is written by `tools/cxx2lean.py` on every check run from the C++ AST of `lib/medfilt.cpp`:
* `static void _update_sort(real_t* x, int nx, real_t v_new, real_t v_old)` as `Gen.medianUpdateSort` — the pointer
  parameter is the array it works on in place (result = the array afterwards), its two `while` loops are *bounded walks*
  (`while (… && pos < nx - 1) ++pos;`: the body only steps `pos`, a conjunct of the condition bounds it by an expression
  the loop cannot change) and become the fuel-bounded recursions `Gen.medianUpdateSort_while1/2` called with exactly the
  fuel `nx - 1 - pos` that the bound allows; the two `std::memmove`s are `arrMove` of `Gen/StepsArray.lean` (index
  arithmetic explicit), `x[pos]` on the raw pointer is `ptrGet` / `ptrSet`;
* the body of the sample loop of `MedianFilter::process` as `Gen.medianStep` (`_i = (_i + 1) % _n` with C's `%`, the call
  `_update_sort(_s.data(), _n, x[i], _d[_i])`, the store into the ring buffer, the middle of the sorted window with the
  even-order `(_s[_n / 2] + _s[_n / 2 - 1]) / 2`); members `_d _s _i` (written) and `_n` (read), C++ types checked.
The declaration `auto y = zeros(x.size())` and `return y` are not translated (the output array is as long as the input).

Over ℝ, for every order `n > 0`: the generated `_update_sort` and loop body are `updateSort` and `MF.step` (with `avg2`) of
`Model/Order.lean`, about which T16.3 of `Props/C16.lean` is stated; T16.3 is then transported to the generated body
iterated over a frame, started from what the generated constructor (`Gen/CtorMedian.lean`) leaves.
-/
namespace Dsp.C16Gen
open Dsp Dsp.Order Dsp.GenBridge

set_option linter.unusedSimpArgs false

section lists
variable {α : Type} [LinearOrder α]

theorem eraseOld_eq (v : α) : ∀ s : List α,
    eraseOld v s = s.eraseIdx ((s.take (s.length - 1)).findIdx (fun y => y == v))
  | [] => rfl
  | [_] => rfl
  | a :: b :: t => by
    rw [eraseOld, eraseOld_eq v (b :: t)]
    change _ = (a :: b :: t).eraseIdx ((a :: (b :: t).take ((b :: t).length - 1)).findIdx _)
    rw [List.findIdx_cons]
    by_cases h : a = v
    · simp [h]
    · rw [show (a == v) = false by simpa using h]; simp [h]

theorem insertNew_eq (v : α) : ∀ l : List α,
    insertNew v l = l.insertIdx (l.findIdx (fun y => !decide (y < v))) v
  | [] => rfl
  | a :: t => by
    rw [insertNew, insertNew_eq v t]
    by_cases h : a < v <;> simp [List.findIdx_cons, h]

end lists

/-- A bounded walk `while (C(x[pos]) && pos < nx - 1) ++pos;` as the translator renders it, a recursion `w` on fuel: started
at `pos ≤ nx - 1` with at least the fuel `nx - 1 - pos`, it stops at the first cell among `pos … nx-2` where `C` fails
(`p` holds), else at `nx - 1`. -/
theorem boundedWalk {β : Type} (C : β → Prop) [DecidablePred C] (p : β → Bool) (hC : ∀ y, C y ↔ p y = false) (d : β)
    (a : Array β) (n : ℕ) (ha : n ≤ a.size + 1) (w : ℕ → Int → Int) (h0 : ∀ pos, w 0 pos = pos)
    (hs : ∀ fuel (pos : ℕ), w (fuel + 1) pos = if C (a.getD pos d) ∧ (pos : Int) < n - 1 then w fuel (pos + 1) else pos) :
    ∀ fuel pos : ℕ, n ≤ pos + fuel + 1 → pos + 1 ≤ n →
      w fuel pos = ((pos + ((a.toList.drop pos).take (n - 1 - pos)).findIdx p : ℕ) : Int) := by
  intro fuel
  induction fuel with
  | zero =>
    intro pos h1 h2
    rw [h0, show n - 1 - pos = 0 by omega]; rfl
  | succ fuel ih =>
    intro pos h1 h2
    rw [hs]
    by_cases hlt : pos + 1 < n
    · have hpos : pos < a.size := by omega
      rw [List.drop_eq_getElem_cons (by simpa using hpos), show n - 1 - pos = (n - 1 - (pos + 1)) + 1 by omega,
        List.take_succ_cons, List.findIdx_cons, getD_of_lt d a hpos, Array.getElem_toList]
      cases hp : p a[pos]
      · rw [if_pos ⟨(hC _).2 hp, by omega⟩, ← Nat.cast_succ, ih (pos + 1) (by omega) (by omega), cond_false]
        congr 1; omega
      · rw [if_neg (fun h => by simp [(hC _).1 h.1] at hp)]; rfl
    · rw [if_neg (by omega), show n - 1 - pos = 0 by omega]; rfl

noncomputable section

/-- the first `while` of `_update_sort` (`x[pos] != v_old`, rendered as `¬ (x ≤ v ∧ v ≤ x)`), from 0 with any sufficient fuel:
the position of the first cell equal to `v_old` among the cells `0 … nx-2`, else `nx-1`.  (`and_comm`: whichever way round
the source writes the two conjuncts of the loop condition.) -/
theorem while1_spec (a : Array ℝ) (v : ℝ) (n : ℕ) (hn : 0 < n) (ha : a.size = n) (fuel : ℕ) (hf : n - 1 ≤ fuel) :
    Gen.medianUpdateSort_while1 a (n : Int) v fuel 0 = (((a.toList.take (n - 1)).findIdx (fun y => y == v) : ℕ) : Int) := by
  simpa only [Nat.cast_zero, Nat.zero_add, List.drop_zero, Nat.sub_zero] using
    boundedWalk (fun y => ¬ (y ≤ v ∧ v ≤ y)) (fun y => y == v)
      (fun y => (not_congr le_antisymm_iff.symm).trans beq_eq_false_iff_ne.symm) Gen.zeroR a n (by omega)
      (Gen.medianUpdateSort_while1 a n v) (fun _ => rfl)
      (fun fuel pos => by simp only [Gen.medianUpdateSort_while1, ptrGet_natCast, and_comm]) fuel 0 (by omega) (by omega)

/-- the second `while`: the position of the first cell that is not `< v_new` among the cells `0 … nx-2`, else `nx-1` -/
theorem while2_spec (a : Array ℝ) (v : ℝ) (n : ℕ) (hn : 0 < n) (ha : a.size = n) (fuel : ℕ) (hf : n - 1 ≤ fuel) :
    Gen.medianUpdateSort_while2 a (n : Int) v fuel 0 =
      (((a.toList.take (n - 1)).findIdx (fun y => !decide (y < v)) : ℕ) : Int) := by
  simpa only [Nat.cast_zero, Nat.zero_add, List.drop_zero, Nat.sub_zero] using
    boundedWalk (fun y => y < v) (fun y => !decide (y < v)) (fun y => by simp) Gen.zeroR a n (by omega)
      (Gen.medianUpdateSort_while2 a n v) (fun _ => rfl)
      (fun fuel pos => by simp only [Gen.medianUpdateSort_while2, ptrGet_natCast, and_comm]) fuel 0 (by omega) (by omega)

/-- the first `memmove` of `_update_sort` (cells `k+1 … n-1` one down): cell `k` is erased, the last cell is stale -/
theorem take_moveDown {β : Type} [Inhabited β] (a : Array β) (n k : ℕ) (ha : a.size = n) (hk : k < n) :
    (Gen.arrMove a k ((k : Int) + 1) ((n : Int) - k - 1)).toList.take (n - 1) = a.toList.eraseIdx k := by
  apply List.ext_getElem?
  intro j
  rw [List.getElem?_take, List.getElem?_eraseIdx, Array.getElem?_toList]
  by_cases hj : j < n - 1
  · rw [if_pos hj, getElem?_eq_getD _ j default (by rw [arrMove_size]; omega), ← Nat.cast_succ,
      arrMove_getD a k (k + 1) _ j _ (by omega)]
    by_cases hjk : j < k
    · rw [if_neg (by omega), if_pos hjk, Array.getElem?_toList, getElem?_eq_getD a j _ (by omega)]
    · rw [if_pos (by omega), if_neg hjk, Array.getElem?_toList, show j - k + (k + 1) = j + 1 by omega]
      exact (getElem?_eq_getD a _ _ (by omega)).symm
  · rw [if_neg hj, if_neg (by omega), Array.getElem?_toList, Array.getElem?_eq_none (by omega)]

/-- the second `memmove` (cells `k … n-2` one up) and the store: `v` is inserted at `k` among the first `n-1` cells -/
theorem set_moveUp {β : Type} [Inhabited β] (b : Array β) (n k : ℕ) (hb : b.size = n) (hk : k < n) (v : β) :
    (Gen.ptrSet (Gen.arrMove b ((k : Int) + 1) k ((n : Int) - k - 1)) k v).toList =
      (b.toList.take (n - 1)).insertIdx k v := by
  apply List.ext_getElem?
  intro j
  rw [ptrSet_natCast, Array.getElem?_toList, Array.getElem?_setIfInBounds, List.getElem?_insertIdx, arrMove_size,
    List.length_take, Array.length_toList, List.getElem?_take, List.getElem?_take]
  rcases lt_trichotomy j k with hjk | rfl | hjk
  · rw [if_neg (by omega), if_pos hjk, if_pos (by omega), Array.getElem?_toList,
      getElem?_eq_getD _ j default (by rw [arrMove_size]; omega), ← Nat.cast_succ, arrMove_getD b (k + 1) k _ j _ (by omega),
      if_neg (by omega)]
    exact (getElem?_eq_getD b _ _ (by omega)).symm
  · rw [if_pos rfl, if_pos (by omega), if_neg (by omega), if_pos rfl, if_pos (by omega)]
  · rw [if_neg (by omega), if_neg (by omega), if_neg (by omega)]
    by_cases hj : j < n
    · rw [if_pos (by omega), Array.getElem?_toList, getElem?_eq_getD _ j default (by rw [arrMove_size]; omega),
        ← Nat.cast_succ, arrMove_getD b (k + 1) k _ j _ (by omega), if_pos (by omega),
        show j - (k + 1) + k = j - 1 by omega]
      exact (getElem?_eq_getD b _ _ (by omega)).symm
    · rw [if_neg (by omega), Array.getElem?_eq_none (by rw [arrMove_size]; omega)]

/-- `_update_sort` guards each `memmove` by `pos != nx - 1`; in the other case the count is 0 and the move does nothing -/
theorem ite_arrMove {β : Type} (a : Array β) (nx pos dst src : Int) :
    (if pos ≠ nx - 1 then Gen.arrMove a dst src (nx - pos - 1) else a) = Gen.arrMove a dst src (nx - pos - 1) :=
  ite_arrCopy _ a a dst src _ (by omega)

/-- **`_update_sort`, generated = model.**  For every array of length `nx ≥ 1` and every pair of values: the generated
translation of `_update_sort` (two bounded walks, two `memmove`s, one store) yields the model's `updateSort`
(`insertNew v_new (eraseOld v_old ·)`) of the array's contents, and keeps the length. -/
theorem updateSort_eq (a : Array ℝ) (n : ℕ) (hn : 0 < n) (ha : a.size = n) (vNew vOld : ℝ) :
    (Gen.medianUpdateSort a (n : Int) vNew vOld).toList = Order.updateSort a.toList vNew vOld ∧
    (Gen.medianUpdateSort a (n : Int) vNew vOld).size = n := by
  have hlt : ∀ (p : ℝ → Bool) (l : List ℝ), (l.take (n - 1)).findIdx p < n := fun p l =>
    lt_of_le_of_lt (List.findIdx_le_length.trans (List.length_take_le _ _)) (by omega)
  simp only [Gen.medianUpdateSort, ite_arrMove]
  -- first walk and move: `X` holds `eraseOld` in its first `n - 1` cells
  rw [while1_spec a vOld n hn ha _ (by omega)]
  generalize hk1 : (a.toList.take (n - 1)).findIdx (fun y => y == vOld) = k1
  have hXs : (Gen.arrMove a k1 ((k1 : Int) + 1) ((n : Int) - k1 - 1)).size = n := (arrMove_size ..).trans ha
  have hXt := take_moveDown a n k1 ha (hk1 ▸ hlt _ _)
  generalize Gen.arrMove a k1 ((k1 : Int) + 1) ((n : Int) - k1 - 1) = X at hXs hXt ⊢
  -- second walk reads only those cells; move and store insert `vNew` among them
  rw [while2_spec X vNew n hn hXs _ (by omega)]
  generalize hk2 : (X.toList.take (n - 1)).findIdx (fun y => !decide (y < vNew)) = k2
  constructor
  · rw [set_moveUp X n k2 hXs (hk2 ▸ hlt _ _), Order.updateSort, eraseOld_eq, insertNew_eq, Array.length_toList, ha,
      hk1, ← hXt, hk2]
  · rw [ptrSet_natCast, Array.size_setIfInBounds, arrMove_size, hXs]

/-! ## the loop body of `MedianFilter::process` -/

/-- the model state a generated state stands for (`_n` from the parameters) -/
def toMF (n : ℕ) (g : Gen.MedianFilterStepState ℝ) : MF ℝ := ⟨n, g.i.toNat, g.d.toList, g.s.toList⟩

/-- both buffers have `_n` cells and the ring index is not negative -/
def MedInv (n : ℕ) (g : Gen.MedianFilterStepState ℝ) : Prop := g.d.size = n ∧ g.s.size = n ∧ 0 ≤ g.i

/-- the model's `middle` of an `n`-cell window, read with `arrGet` at the `int` indices `n / 2`, `n / 2 - 1` of the C code -/
theorem middle_arrGet {β : Type} [LT β] [DecidableRel (· < · : β → β → Prop)] (avg : β → β → β) (d : β) (s : Array β)
    (n : ℕ) (hn : 0 < n) (hs : s.size = n) :
    middle avg n s.toList = some (if ((n % 2 : ℕ) : Int) = 1 then Gen.arrGet d s ((n / 2 : ℕ) : Int)
      else avg (Gen.arrGet d s ((n / 2 : ℕ) : Int)) (Gen.arrGet d s (((n / 2 : ℕ) : Int) - 1))) := by
  rw [middle, Array.getElem?_toList, Array.getElem?_toList, getElem?_eq_getD s _ d (by omega),
    getElem?_eq_getD s _ d (by omega), arrGet_natCast]
  by_cases hodd : n % 2 = 1
  · rw [if_pos hodd, if_pos (by omega)]
  · rw [if_neg hodd, if_neg (by omega), arrGet_eq _ _ _ (n / 2 - 1) (by omega)]

/-- **bridge, `MedianFilter::process`, one sample.**  For every order `n > 0`, every state with `n`-cell buffers and every
input sample: the GENERATED loop body (ring index advance with C's `%`, `_update_sort` in place on `_s`, store into `_d`,
middle of `_s` with the even-order `(a + b) / 2`) is the model's `MF.step` with `avg2`; the model's output is never `none`. -/
theorem medianStep_eq (n : ℕ) (hn : 0 < n) (g : Gen.MedianFilterStepState ℝ) (h : MedInv n g) (x : ℝ) :
    MF.step avg2 (toMF n g) x =
      (toMF n (Gen.medianStep ⟨(n : Int)⟩ g x).1, some (Gen.medianStep ⟨(n : Int)⟩ g x).2) ∧
    MedInv n (Gen.medianStep ⟨(n : Int)⟩ g x).1 := by
  obtain ⟨d, s, i⟩ := g
  obtain ⟨hd, hs, hi⟩ := h
  obtain ⟨k, rfl⟩ := Int.eq_ofNat_of_zero_le hi
  dsimp only at hd hs
  have hj : (k + 1) % n < n := Nat.mod_lt _ hn
  have ej : Int.tmod ((k : Int) + 1) n = (((k + 1) % n : ℕ) : Int) := (Int.ofNat_tmod (k + 1) n).symm
  simp only [Gen.medianStep, ej, arrGet_natCast, arrSet_natCast]
  obtain ⟨hu, hus⟩ := updateSort_eq s n hn hs x (d.getD ((k + 1) % n) Gen.zeroR)
  generalize Gen.medianUpdateSort s n x (d.getD ((k + 1) % n) Gen.zeroR) = u at hu hus ⊢
  refine ⟨?_, (Array.size_setIfInBounds ..).trans hd, hus, Int.natCast_nonneg _⟩
  simp only [MF.step, toMF, Int.toNat_natCast, Array.getElem?_toList, Array.toList_setIfInBounds,
    getElem?_eq_getD d ((k + 1) % n) Gen.zeroR (hd.symm ▸ hj)]
  have e2 : Int.tmod (n : Int) 2 = ((n % 2 : ℕ) : Int) := (Int.ofNat_tmod n 2).symm
  have e3 : Int.tdiv (n : Int) 2 = ((n / 2 : ℕ) : Int) := (Int.ofNat_tdiv n 2).symm
  rw [← hu, middle_arrGet avg2 Gen.zeroR u n hn hus, e2, e3]
  simp [avg2, add_comm]

/-! ## the sample loop: the generated body iterated over a frame -/

/-- `for (i < x.size()) BODY` with `BODY` = the generated loop body: final members and the output samples -/
def genMedianRun (n : ℕ) : Gen.MedianFilterStepState ℝ → List ℝ → Gen.MedianFilterStepState ℝ × List ℝ
  | g, [] => (g, [])
  | g, x :: t =>
    ((genMedianRun n (Gen.medianStep ⟨(n : Int)⟩ g x).1 t).1,
      (Gen.medianStep ⟨(n : Int)⟩ g x).2 :: (genMedianRun n (Gen.medianStep ⟨(n : Int)⟩ g x).1 t).2)

/-- the same as a left fold of the generated step over the samples -/
theorem genMedianRun_foldl (n : ℕ) (xs : List ℝ) : ∀ (g : Gen.MedianFilterStepState ℝ) (acc : List ℝ),
    xs.foldl (fun (a : Gen.MedianFilterStepState ℝ × List ℝ) x =>
        ((Gen.medianStep ⟨(n : Int)⟩ a.1 x).1, a.2 ++ [(Gen.medianStep ⟨(n : Int)⟩ a.1 x).2])) (g, acc) =
      ((genMedianRun n g xs).1, acc ++ (genMedianRun n g xs).2) := by
  induction xs with
  | nil => intro g acc; simp [genMedianRun]
  | cons x t ih => intro g acc; simp [genMedianRun, ih]

/-- **whole frame:** the model's `process` is the generated loop body iterated over the frame (outputs never `none`) -/
theorem median_run_eq (n : ℕ) (hn : 0 < n) (xs : List ℝ) : ∀ (g : Gen.MedianFilterStepState ℝ), MedInv n g →
    MF.process avg2 (toMF n g) xs = (toMF n (genMedianRun n g xs).1, (genMedianRun n g xs).2.map some) ∧
    MedInv n (genMedianRun n g xs).1 := by
  induction xs with
  | nil => intro g h; exact ⟨by simp [MF.process, genMedianRun], h⟩
  | cons x t ih =>
    intro g h
    obtain ⟨h1, h2⟩ := medianStep_eq n hn g h x
    obtain ⟨h3, h4⟩ := ih _ h2
    refine ⟨?_, h4⟩
    simp only [MF.process, h1, h3, genMedianRun, List.map_cons]

/-- the state the constructor `MedianFilter(n, init_value)` leaves (`_i{0}`, both buffers filled with `init_value`) -/
def genMedianInit (n : ℕ) (v : ℝ) : Gen.MedianFilterStepState ℝ := ⟨Array.replicate n v, Array.replicate n v, 0⟩

theorem genMedianInit_inv (n : ℕ) (v : ℝ) : MedInv n (genMedianInit n v) := by
  simp [MedInv, genMedianInit]

theorem init_toMF (n : ℕ) (hn : 3 ≤ n) (v : ℝ) : MF.init (n : Int) v = .ok (toMF n (genMedianInit n v)) := by
  unfold MF.init
  rw [if_neg (by omega)]
  simp [toMF, genMedianInit]

/-- **T16.3 transported to the regenerated loop.**  A `MedianFilter` of any accepted order `n ≥ 3` and initial value `v`:
the GENERATED loop body iterated over a stream `xs` outputs for sample `k` the median (`Order.median`: the middle order
statistic for odd `n`, the mean of the two middle ones for even `n`) of the last `n` samples of `v^n ++ xs` up to and
including sample `k`. -/
theorem gen_medianFilter_spec (n : ℕ) (hn : 3 ≤ n) (v : ℝ) (xs : List ℝ) :
    (genMedianRun n (genMedianInit n v) xs).2.map some =
      (List.range xs.length).map (fun k => median avg2 (C16.window (List.replicate n v) xs k)) := by
  obtain ⟨h1, _⟩ := median_run_eq n (by omega) xs _ (genMedianInit_inv n v)
  have h2 := (C16.process_spec avg2 xs (C16.init_inv (init_toMF n hn v))).1
  rw [h1] at h2
  simpa using h2

/-- framing of the generated run (cf. `C16.process_append`) -/
theorem genMedianRun_append (n : ℕ) (a b : List ℝ) : ∀ (g : Gen.MedianFilterStepState ℝ),
    genMedianRun n g (a ++ b) =
      ((genMedianRun n (genMedianRun n g a).1 b).1, (genMedianRun n g a).2 ++ (genMedianRun n (genMedianRun n g a).1 b).2) := by
  induction a with
  | nil => intro g; simp [genMedianRun]
  | cons x t ih => intro g; simp [genMedianRun, ih]

/-- non-vacuity: order 3, initial value 0, samples 5, 1, 4 — windows (0,0,5), (0,5,1), (5,1,4): medians 0, 1, 4 -/
example : (genMedianRun 3 (genMedianInit 3 0) [5, 1, 4]).2.map some =
    [median avg2 [0, 0, 5], median avg2 [0, 5, 1], median avg2 [5, 1, 4]] := by
  rw [gen_medianFilter_spec 3 (by norm_num) 0 [5, 1, 4]]
  simp [C16.window, List.range_succ]

end
/-! ## Constructor `MedianFilter::MedianFilter(int n, real_t init_value)` (regenerated: `Gen/CtorMedian.lean`)

`Gen.medianCtor` is the constructor as `lib/medfilt.cpp` has it: `_d`, `_s` default-constructed (empty), `_i{0}`, `_n{n}`, the
order guard `n < 3`, then `_d = zeros(_n)`, `_s = zeros(_n)` and the two `std::fill(…, init_value)`.  It accepts exactly the orders
`MF.init` accepts and leaves `genMedianInit` — the state `gen_medianFilter_spec` starts from. -/

noncomputable section

/-- members of a constructed `MedianFilter` that the generated loop body writes / reads -/
def medObjS (o : Gen.MedianFilterObj ℝ) : Gen.MedianFilterStepState ℝ := ⟨o.d, o.s, o.i⟩
def medObjP (o : Gen.MedianFilterObj ℝ) : Gen.MedianFilterStepParams ℝ := ⟨o.n⟩

/-- **bridge, constructor:** the generated constructor, for EVERY `int` order and initial value: rejected exactly for `n < 3`, else the
object `(_d = _s = init_value^n, _i = 0, _n = n)` -/
theorem medianCtor_eq (n : Int) (v : ℝ) :
    Gen.medianCtor n v =
      if n < 3 then .error "The filter order must be greater than or equal to 3"
      else .ok { d := Array.replicate n.toNat v, s := Array.replicate n.toNat v, i := 0, n := n } := by
  unfold Gen.medianCtor
  by_cases h : n < 3
  · simp [h]
  · simp [h, Gen.arrNew, Gen.arrFill]

/-- … which is the model's constructor `MF.init` (same acceptance, same message, same state) -/
theorem medianCtor_init (n : Int) (v : ℝ) :
    (Gen.medianCtor n v).map (fun o => toMF o.n.toNat (medObjS o)) = MF.init n v := by
  rw [medianCtor_eq]
  unfold MF.init
  by_cases h : n < 3
  · simp [h, Except.map]
  · simp [h, Except.map, toMF, medObjS]

theorem medianCtor_ok {n : Int} {v : ℝ} {o : Gen.MedianFilterObj ℝ} (h : Gen.medianCtor n v = .ok o) :
    3 ≤ n ∧ medObjS o = genMedianInit n.toNat v ∧ medObjP o = ⟨((n.toNat : ℕ) : Int)⟩ := by
  rw [medianCtor_eq] at h
  obtain ⟨hn, h⟩ := guard_ok.mp h
  obtain rfl := Except.ok.inj h
  refine ⟨by omega, rfl, ?_⟩
  simp only [medObjP]
  congr 1
  omega

/-- **T16.3 from the GENERATED constructor through the GENERATED loop.**  Whatever order and initial value the regenerated
constructor accepts (exactly `n ≥ 3`), the regenerated loop body run from the object it leaves outputs for sample `k` the median of
the last `n` samples of `v^n ++ xs` up to and including sample `k`. -/
theorem gen_medianFilter_from_ctor (n : Int) (v : ℝ) (o : Gen.MedianFilterObj ℝ) (h : Gen.medianCtor n v = .ok o) (xs : List ℝ) :
    3 ≤ n ∧ medObjP o = ⟨((n.toNat : ℕ) : Int)⟩ ∧
    (genMedianRun n.toNat (medObjS o) xs).2.map some =
      (List.range xs.length).map (fun k => median avg2 (C16.window (List.replicate n.toNat v) xs k)) := by
  obtain ⟨h1, h2, h3⟩ := medianCtor_ok h
  refine ⟨h1, h3, ?_⟩
  rw [h2]
  exact gen_medianFilter_spec n.toNat (by omega) v xs

/-- the default arguments `MedianFilter(int n = 3, real_t init_value = 0)` -/
theorem ctor_defaults : (Gen.medianCtorDefault_n, (Gen.medianCtorDefault_init_value : ℝ)) = (3, 0) := by
  simp [Gen.medianCtorDefault_n, Gen.medianCtorDefault_init_value]

/-- non-vacuity: `MedianFilter(3, 0)` is accepted, `MedianFilter(2, 0)` is rejected -/
example : ∃ o, Gen.medianCtor (3 : Int) (0 : ℝ) = .ok o := by rw [medianCtor_eq, if_neg (by norm_num)]; exact ⟨_, rfl⟩
example : ∃ e, Gen.medianCtor (2 : Int) (0 : ℝ) = .error e := by rw [medianCtor_eq, if_pos (by norm_num)]; exact ⟨_, rfl⟩

end

end Dsp.C16Gen
