import DspVerif.Model.Order
import DspVerif.Lib.RealFn
import DspVerif.Lib.Guard
import Mathlib.Data.List.Sort
import Mathlib.Data.List.Rotate
import Mathlib.Data.List.FinRange
import Mathlib.Data.Nat.Choose.Basic
import Mathlib.Order.Basic
import Mathlib.Tactic.Linarith
import Mathlib.Algebra.QuadraticDiscriminant
import Mathlib.Data.List.Zip
import Mathlib.Algebra.Order.BigOperators.Group.List
/-!
# C16 — sorting, order statistics and rank correlation match their definitions

Theorems about `Model/Order.lean` (tied to `lib/math.cpp`, `lib/medfilt.cpp`, `lib/corr.cpp` by the
correspondence run of `harness/c16.cpp`).  Everything about order is proved for EVERY linear order
`α` (so for every input, repeated values included) and every window length; nothing is bounded.
The rank-correlation clauses (T16.4: Kendall, Spearman) assume tie-free samples; Pearson's bounds assume non-constant ones.
-/
namespace Dsp.C16
open Dsp Dsp.Order List

variable {α : Type} [LinearOrder α]

/-! ## T16.1 `sort` -/

theorem leB_true_iff (a b : α) : leB true a b = true ↔ a ≤ b := by simp [leB]
theorem leB_false_iff (a b : α) : leB false a b = true ↔ b ≤ a := by simp [leB]

theorem leB_trans (asc : Bool) (a b c : α) : leB asc a b = true → leB asc b c = true → leB asc a c = true := by
  cases asc
  · simp only [leB_false_iff]; exact fun h1 h2 => le_trans h2 h1
  · simp only [leB_true_iff]; exact le_trans

theorem leB_total (asc : Bool) (a b : α) : (leB asc a b || leB asc b a) = true := by
  cases asc
  · simp only [Bool.or_eq_true, leB_false_iff]; exact le_total b a
  · simp only [Bool.or_eq_true, leB_true_iff]; exact le_total a b

theorem sorted_mergeSort (l : List α) : (l.mergeSort (leB true)).Pairwise (· ≤ ·) :=
  (List.pairwise_mergeSort (leB_trans true) (leB_total true) l).imp fun h => (leB_true_iff _ _).1 h

theorem eq_mergeSort_of_sorted_perm {s w : List α} (hs : s.Pairwise (· ≤ ·)) (hp : s.Perm w) :
    s = w.mergeSort (leB true) :=
  List.Perm.eq_of_pairwise' hs (sorted_mergeSort w) (hp.trans (List.mergeSort_perm w _).symm)


theorem isSorted_iff (asc : Bool) (l : List α) :
    isSorted asc l = true ↔ l.Pairwise (fun a b => leB asc a b = true) := by
  induction l with
  | nil => simp [isSorted]
  | cons a t ih =>
    cases t with
    | nil => simp [isSorted]
    | cons b t =>
      -- adjacent pairs suffice because `leB asc` is transitive
      unfold isSorted
      rw [Bool.and_eq_true, ih, pairwise_cons (a := a), forall_mem_cons]
      constructor
      · rintro ⟨hab, hp⟩
        exact ⟨⟨hab, fun c hc => leB_trans asc a b c hab (rel_of_pairwise_cons hp hc)⟩, hp⟩
      · rintro ⟨h1, hp⟩
        exact ⟨h1.1, hp⟩

omit [LinearOrder α] in
theorem gather_finRange [LT α] [DecidableRel (· < · : α → α → Prop)] (x : Array α) :
    gather x (List.finRange x.size) = x.toList := by
  apply List.ext_getElem
  · simp [gather]
  · intro i h1 h2; simp [gather]

theorem sortIdx_perm (x : Array α) (asc : Bool) : (sortIdx x asc).Perm (List.finRange x.size) := by
  unfold sortIdx
  split
  · exact List.Perm.refl _
  · exact List.mergeSort_perm _ _

theorem sortIdx_sorted (x : Array α) (asc : Bool) :
    (gather x (sortIdx x asc)).Pairwise (fun a b => leB asc a b = true) := by
  unfold sortIdx
  split
  · rename_i h
    rw [gather_finRange]; exact (isSorted_iff asc _).1 h
  · unfold gather
    rw [List.pairwise_map]
    apply List.pairwise_mergeSort
    · intro a b c; exact leB_trans asc _ _ _
    · intro a b; exact leB_total asc _ _

theorem gather_sortIdx_perm (x : Array α) (asc : Bool) : (gather x (sortIdx x asc)).Perm x.toList := by
  rw [← gather_finRange x]; exact (sortIdx_perm x asc).map _

theorem sortIdx_strict (x : Array α) (hx : x.toList.Nodup) : (gather x (sortIdx x true)).Pairwise (· < ·) := by
  have h1 : (gather x (sortIdx x true)).Pairwise (· ≤ ·) := by simpa [leB_true_iff] using sortIdx_sorted x true
  exact (h1.and ((gather_sortIdx_perm x true).nodup_iff.2 hx)).imp fun h => lt_of_le_of_ne h.1 h.2

/-- **T16.1** -/
theorem sort_spec (x : Array α) (asc : Bool) :
    (sort x asc).2.Perm (List.finRange x.size) ∧
    (sort x asc).1.length = x.size ∧
    (∀ (i : Nat) (h1 : i < (sort x asc).1.length) (h2 : i < (sort x asc).2.length),
        (sort x asc).1[i] = x[(sort x asc).2[i]]) ∧
    (if asc then (sort x asc).1.Pairwise (· ≤ ·) else (sort x asc).1.Pairwise (· ≥ ·)) ∧
    (sort x asc).1.Perm x.toList := by
  refine ⟨sortIdx_perm x asc, ?_, ?_, ?_, gather_sortIdx_perm x asc⟩
  · simp [sort, gather, (sortIdx_perm x asc).length_eq]
  · intro i h1 h2; simp [sort, gather]
  · have := sortIdx_sorted x asc
    cases asc
    · simpa [leB_false_iff, sort] using this
    · simpa [leB_true_iff, sort] using this

/-! ## T16.2 order statistics -/

/-- `v` is the `k`-th smallest (0-based) value of `x`, duplicates counted: fewer than or exactly `k`
entries are strictly smaller, more than `k` are smaller or equal.  (This is the counting definition
the harness oracle uses.) -/
def IsOrderStat (x : List α) (k : Nat) (v : α) : Prop :=
  x.countP (fun u => decide (u < v)) ≤ k ∧ k < x.countP (fun u => decide (u ≤ v))

/-- the `k`-th order statistic is unique (so the counting definition determines the median) -/
theorem isOrderStat_unique {x : List α} {k : Nat} {v v' : α}
    (h : IsOrderStat x k v) (h' : IsOrderStat x k v') : v = v' := by
  -- of two candidates the smaller cannot be one: everything `≤` it is `<` the larger, so the two counts contradict
  have key : ∀ {a b : α}, IsOrderStat x k a → IsOrderStat x k b → ¬ a < b := fun {a b} ha hb hlt => by
    have : x.countP (fun u => decide (u ≤ a)) ≤ x.countP (fun u => decide (u < b)) :=
      List.countP_mono_left fun u _ => by simpa using fun hu => lt_of_le_of_lt hu hlt
    have := ha.2; have := hb.1; omega
  exact le_antisymm (not_lt.1 (key h' h)) (not_lt.1 (key h h'))

omit [LinearOrder α] in
theorem pairwise_split {R : α → α → Prop} {s : List α} (hs : s.Pairwise R) (k : Nat) (hk : k < s.length) :
    (∀ a ∈ s.take k, R a s[k]) ∧ ∀ b ∈ s.drop (k + 1), R s[k] b := by
  rw [← take_append_drop k s, drop_eq_getElem_cons hk, pairwise_append, pairwise_cons] at hs
  exact ⟨fun a ha => hs.2.2 a ha _ mem_cons_self, hs.2.1.1⟩

omit [LinearOrder α] in
theorem countP_split (p : α → Bool) (s : List α) (k : Nat) (hk : k < s.length) :
    s.countP p = (s.take k).countP p + ((s.drop (k + 1)).countP p + if p s[k] then 1 else 0) := by
  conv_lhs => rw [← take_append_drop k s, drop_eq_getElem_cons hk, countP_append, countP_cons]

theorem isOrderStat_sorted {s x : List α} (hs : s.Pairwise (· ≤ ·)) (hp : s.Perm x) (k : Nat) (hk : k < s.length) :
    IsOrderStat x k s[k] := by
  obtain ⟨h1, h2⟩ := pairwise_split hs k hk
  have e0 : (s.drop (k + 1)).countP (fun u => decide (u < s[k])) = 0 :=
    countP_eq_zero.2 fun b hb => by simpa using h2 b hb
  have e1 : (s.take k).countP (fun u => decide (u ≤ s[k])) = (s.take k).length :=
    countP_eq_length.2 fun a ha => by simpa using h1 a ha
  have e2 := countP_le_length (p := fun u => decide (u < s[k])) (l := s.take k)
  rw [length_take_of_le hk.le] at e1 e2
  rw [IsOrderStat, ← hp.countP_eq, ← hp.countP_eq, countP_split _ s k hk, countP_split _ s k hk, e0, e1,
    if_neg (by simp), if_pos (by simp)]
  omega

theorem sorted_getElem?_orderStat (x : List α) (k : Nat) (hk : k < x.length) :
    ∃ v, (x.mergeSort (leB true))[k]? = some v ∧ IsOrderStat x k v :=
  have hp := List.mergeSort_perm x (leB true)
  have hk' : k < (x.mergeSort (leB true)).length := hp.length_eq ▸ hk
  ⟨_, List.getElem?_eq_getElem hk', isOrderStat_sorted (sorted_mergeSort x) hp k hk'⟩

/-- **T16.2 (odd length)** -/
theorem median_odd (avg : α → α → α) {x : List α} (h : x.length % 2 = 1) :
    ∃ m, median avg x = some m ∧ IsOrderStat x (x.length / 2) m := by
  obtain ⟨m, hm, hos⟩ := sorted_getElem?_orderStat x (x.length / 2) (by omega)
  exact ⟨m, by rw [median, middle, if_pos h, hm], hos⟩

/-- **T16.2 (even length)** -/
theorem median_even (avg : α → α → α) {x : List α} (hx : x ≠ []) (h : x.length % 2 = 0) :
    ∃ a b, median avg x = some (avg a b) ∧ IsOrderStat x (x.length / 2) a ∧
      IsOrderStat x (x.length / 2 - 1) b := by
  have hpos := List.length_pos_of_ne_nil hx
  obtain ⟨a, ha, hoa⟩ := sorted_getElem?_orderStat x (x.length / 2) (by omega)
  obtain ⟨b, hb, hob⟩ := sorted_getElem?_orderStat x (x.length / 2 - 1) (by omega)
  exact ⟨a, b, by rw [median, middle, if_neg (by omega), ha, hb], hoa, hob⟩

theorem avg2_real (a b : ℝ) : avg2 a b = (a + b) / 2 := by simp [avg2]

/-- non-vacuity: a window with a repeated value, odd and even length -/
example : median (fun a b : Int => (a + b) / 2) [5, 1, 4, 1, 3] = some 3 := by
  unfold median
  rw [← eq_mergeSort_of_sorted_perm (s := [1, 1, 3, 4, 5]) (by decide) (by decide)]
  decide
example : median (fun a b : Int => (a + b) / 2) [5, 1, 4, 1] = some 2 := by
  unfold median
  rw [← eq_mergeSort_of_sorted_perm (s := [1, 1, 4, 5]) (by decide) (by decide)]
  decide
example : IsOrderStat [5, 1, 4, 1, 3] 2 (3 : Int) := by unfold IsOrderStat; decide
example : IsOrderStat [5, 1, 4, 1, 3] 1 (1 : Int) ∧ IsOrderStat [5, 1, 4, 1, 3] 0 (1 : Int) := by
  unfold IsOrderStat; decide

/-! ## T16.3 median filter -/

theorem eraseOld_sublist (v : α) : ∀ s : List α, (eraseOld v s).Sublist s
  | [] => .slnil
  | [_] => List.nil_sublist _
  | a :: b :: t => by
    rw [eraseOld]; split
    · exact (eraseOld_sublist v (b :: t)).cons_cons a
    · exact List.sublist_cons_self a _

/-- `_update_sort`, erase phase: if `v_old` is in the window, exactly one copy of it is removed -/
theorem eraseOld_perm {v : α} : ∀ {s : List α}, v ∈ s → (v :: eraseOld v s).Perm s
  | [a], h => by rw [List.mem_singleton.1 h]; exact .refl _
  | a :: b :: t, h => by
    rw [eraseOld]; split
    · next hav =>
      exact (List.Perm.swap a v _).trans
        ((eraseOld_perm ((List.mem_cons.1 h).resolve_left fun e => by simp [e] at hav)).cons a)
    · next hav => rw [show a = v by simpa using hav]

/-- `_update_sort`, insert phase: the new value is added, nothing else changes -/
theorem insertNew_perm (v : α) (l : List α) : (insertNew v l).Perm (v :: l) := by
  induction l with
  | nil => simp [insertNew]
  | cons a t ih =>
    unfold insertNew
    split
    · exact (ih.cons a).trans (List.Perm.swap v a t)
    · exact List.Perm.refl _

theorem insertNew_sorted (v : α) {l : List α} (h : l.Pairwise (· ≤ ·)) : (insertNew v l).Pairwise (· ≤ ·) := by
  induction l with
  | nil => simp [insertNew]
  | cons a t ih =>
    have h' := List.pairwise_cons.1 h
    rw [insertNew]; split
    · next hlt =>
      exact List.pairwise_cons.2 ⟨fun b hb =>
        List.forall_mem_cons.2 ⟨hlt.le, h'.1⟩ b ((insertNew_perm v t).subset hb), ih h'.2⟩
    · next hnlt =>
      exact List.pairwise_cons.2 ⟨List.forall_mem_cons.2 ⟨not_lt.1 hnlt, fun b hb => (not_lt.1 hnlt).trans (h'.1 b hb)⟩, h⟩

omit [LinearOrder α] in
theorem set_rotate_succ (d : List α) (k : Nat) (hk : k < d.length) (x : α) :
    (d.set k x).rotate (k + 1) = (d.rotate k).tail ++ [x] ∧ d[k]? = (d.rotate k).head? := by
  obtain ⟨a, y, b, rfl, rfl⟩ : ∃ a y b, d = a ++ y :: b ∧ a.length = k :=
    ⟨d.take k, d[k], d.drop (k+1), by simp, by simp; omega⟩
  have h2 : (a ++ y :: b).rotate a.length = y :: b ++ a := List.rotate_append_length_eq a (y :: b)
  constructor
  · have h3 := List.rotate_append_length_eq (a ++ [x]) b
    rw [length_append, length_singleton] at h3
    rw [show (a ++ y :: b).set a.length x = a ++ [x] ++ b by simp, h2, h3, cons_append, tail_cons, append_assoc]
  · rw [h2]; simp

/-- the state invariant of a `MedianFilter` whose window (oldest sample first) is `w` -/
structure Inv (st : MF α) (w : List α) : Prop where
  len : w.length = st.n
  pos : 0 < st.n
  dlen : st.d.length = st.n
  ring : st.d.rotate (st.i + 1) = w
  sorted : st.s.Pairwise (· ≤ ·)
  perm : st.s.Perm w

/-- **T16.3 invariant**: one loop iteration of `MedianFilter::process` (ring-buffer advance + `_update_sort`) maps a state
whose sorted window is a sorted permutation of the ring buffer holding the last `n` samples `w` to such a state for
`w.tail ++ [x]`; the output is the middle of the new sorted window.  Every `n > 0`, every input, repeats included. -/
theorem step_inv (avg : α → α → α) {st : MF α} {w : List α} (h : Inv st w) (x : α) :
    Inv (st.step avg x).1 (w.tail ++ [x]) ∧ (st.step avg x).1.n = st.n ∧
      (st.step avg x).2 = middle avg st.n (st.step avg x).1.s := by
  obtain ⟨hlen, hpos, hdlen, hring, hsorted, hperm⟩ := h
  have hi : (st.i + 1) % st.n < st.d.length := by rw [hdlen]; exact Nat.mod_lt _ hpos
  have hrot : st.d.rotate ((st.i + 1) % st.n) = w := by
    rw [← hdlen, List.rotate_mod]; exact hring
  obtain ⟨hset, hget⟩ := set_rotate_succ st.d _ hi x
  rw [hrot] at hset hget
  obtain ⟨v, t, rfl⟩ : ∃ v t, w = v :: t := List.exists_cons_of_length_pos (hlen ▸ hpos)
  simp only [List.head?_cons, List.tail_cons] at hset hget
  have hvs : v ∈ st.s := hperm.symm.subset (List.mem_cons_self)
  have herase : (eraseOld v st.s).Perm t := ((eraseOld_perm hvs).trans hperm).cons_inv
  unfold MF.step
  simp only [hget]
  refine ⟨{ len := ?_, pos := hpos, dlen := ?_, ring := hset, sorted := ?_, perm := ?_ }, ?_⟩
  · simpa using hlen
  · simp [hdlen]
  · exact insertNew_sorted x (hsorted.sublist (eraseOld_sublist v st.s))
  · exact (insertNew_perm x _).trans ((herase.cons x).trans (perm_append_singleton x t).symm)
  · simp

omit [LinearOrder α] in
theorem init_ok {n : Int} {v : α} {st : MF α} [BEq α] (h : MF.init n v = .ok st) :
    3 ≤ n ∧ st = ⟨n.toNat, 0, List.replicate n.toNat v, List.replicate n.toNat v⟩ := by
  obtain ⟨hn, h⟩ := guard_ok.mp h
  exact ⟨by omega, (Except.ok.inj h).symm⟩

/-- the constructor establishes the invariant with the window `init_value^n` (chosen initial history) -/
theorem init_inv {n : Int} {v : α} {st : MF α} (h : MF.init n v = .ok st) :
    Inv st (List.replicate n.toNat v) := by
  obtain ⟨hn, rfl⟩ := init_ok h
  exact ⟨by simp, by simp; omega, by simp, by simp [List.rotate_replicate], by simp [List.pairwise_replicate], .refl _⟩


/-- the output of a step is what `median` (the model of the library's `median`) gives for the new window -/
theorem step_output (avg : α → α → α) {st : MF α} {w : List α} (h : Inv st w) (x : α) :
    (st.step avg x).2 = median avg (w.tail ++ [x]) := by
  obtain ⟨hinv, hn, hout⟩ := step_inv avg h x
  rw [hout, eq_mergeSort_of_sorted_perm hinv.sorted hinv.perm]
  unfold median
  rw [hinv.len, hn]

/-- window `k` (0-based) of a stream `xs` processed after the history `w`: the last `n` samples
up to and including `xs[k]` -/
def window (w xs : List α) (k : Nat) : List α := ((w ++ xs).drop (k + 1)).take w.length

omit [LinearOrder α] in
theorem window_zero (v : α) (u : List α) (x : α) (t : List α) : window (v :: u) (x :: t) 0 = u ++ [x] := by
  rw [window, cons_append, drop_one, tail_cons, append_cons]
  exact take_left' (by simp)

omit [LinearOrder α] in
theorem window_succ (v : α) (u : List α) (x : α) (t : List α) (k : ℕ) :
    window (v :: u) (x :: t) (k + 1) = window (u ++ [x]) t k := by
  simp [window]

/-- `process(x)` from a state with history `w`: output `k` is the median of the last `n` samples up to `x[k]`
(`window w xs k`), and the invariant holds afterwards for the last `n` samples -/
theorem process_spec (avg : α → α → α) (xs : List α) : ∀ {st : MF α} {w : List α}, Inv st w →
    (st.process avg xs).2 = (List.range xs.length).map (fun k => median avg (window w xs k)) ∧
    Inv (st.process avg xs).1 ((w ++ xs).drop xs.length) := by
  induction xs with
  | nil => intro st w h; simpa [MF.process] using h
  | cons x t ih =>
    intro st w h
    obtain ⟨v, u, rfl⟩ : ∃ v u, w = v :: u := List.exists_cons_of_length_pos (h.len ▸ h.pos)
    obtain ⟨ih1, ih2⟩ := ih (step_inv avg h x).1
    constructor
    · simp only [MF.process, length_cons, range_succ_eq_map, map_cons, map_map, ih1, step_output avg h x, window_zero,
        tail_cons, Function.comp_def, window_succ]
    · simpa [MF.process] using ih2


section framing
variable {β : Type} [LT β] [DecidableRel (· < · : β → β → Prop)] [BEq β]

theorem process_append (avg : β → β → β) (a b : List β) (st : MF β) :
    st.process avg (a ++ b) =
      ((((st.process avg a).1).process avg b).1, (st.process avg a).2 ++ (((st.process avg a).1).process avg b).2) := by
  induction a generalizing st with
  | nil => simp [MF.process]
  | cons x t ih => simp [MF.process, ih]

/-- **arbitrary framing**: any sequence of `process` calls (empty frames included) on one filter
object = one call on the concatenated stream — outputs and final state -/
theorem processFrames_eq (avg : β → β → β) (frames : List (List β)) (st : MF β) :
    st.processFrames avg frames = st.process avg frames.flatten := by
  induction frames generalizing st with
  | nil => simp [MF.processFrames, MF.process]
  | cons f fs ih => simp [MF.processFrames, ih, process_append]

end framing

omit [LinearOrder α] in
theorem middle_isSome [LT α] [DecidableRel (· < · : α → α → Prop)] (avg : α → α → α) {n : Nat} {s : List α}
    (hn : 0 < n) (hs : s.length = n) : (middle avg n s).isSome := by
  unfold middle
  have h1 : n / 2 < s.length := by omega
  have h2 : n / 2 - 1 < s.length := by omega
  split
  · rw [List.getElem?_eq_getElem h1]; rfl
  · rw [List.getElem?_eq_getElem h1, List.getElem?_eq_getElem h2]; rfl

/-- the median of a non-empty window exists (no out-of-bounds read) -/
theorem median_isSome (avg : α → α → α) {w : List α} (hw : w ≠ []) : (median avg w).isSome := by
  unfold median
  apply middle_isSome
  · exact List.length_pos_of_ne_nil hw
  · simp

/-- **T16.3, `MedianFilter`**: a filter of any accepted order (`n ≥ 3`, else the constructor throws) and any initial value `v`,
fed the stream in ANY framing (`frames`, empty frames allowed), outputs for sample `k` the median (`Order.median`, the middle
order statistic by `median_odd` / `median_even`) of the last `n` samples of `v^n ++ stream` up to and including sample `k`. -/
theorem medianFilter_spec (avg : α → α → α) {n : Int} {v : α} {st : MF α} (h : MF.init n v = .ok st)
    (frames : List (List α)) :
    (st.processFrames avg frames).2 =
      (List.range frames.flatten.length).map
        (fun k => median avg (window (List.replicate n.toNat v) frames.flatten k)) := by
  rw [processFrames_eq]
  exact (process_spec avg _ (init_inv h)).1

/-- **T16.3, `medfilt`**: for every order `n ≥ 3` and non-empty `x`, output `k` is the median of the `n` samples
`x[k - n/2 .. k + n2]` of the zero-padded input (`n2 = n/2` for odd, `n/2 - 1` for even `n`) -/
theorem medfilt_spec (avg : α → α → α) (zero : α) {n : Int} (hn : 3 ≤ n) {x : List α} (hx : x ≠ []) :
    medfilt avg zero x n = .ok ((List.range x.length).map fun k =>
      median avg (((List.replicate (n.toNat / 2) zero ++ x ++
        List.replicate (if n.toNat % 2 = 1 then n.toNat / 2 else n.toNat / 2 - 1) zero).drop k).take n.toNat)) := by
  obtain ⟨m, rfl⟩ := Int.eq_ofNat_of_zero_le (by omega : 0 ≤ n)
  have hinit : MF.init (m : Int) zero = .ok ⟨m, 0, List.replicate m zero, List.replicate m zero⟩ := by
    rw [MF.init, if_neg (by omega), Int.toNat_natCast]
  have hI := init_inv hinit
  simp only [Int.toNat_natCast] at hI ⊢
  generalize hxp : List.replicate (m / 2) zero ++ x ++ List.replicate (if m % 2 = 1 then m / 2 else m / 2 - 1) zero = xp
  -- the padding adds `m - 1` samples in all
  have hxl := List.length_pos_of_ne_nil hx
  have hl : xp.length = m - 1 + x.length := by
    rw [← hxp]; simp only [List.length_append, List.length_replicate]; split <;> omega
  simp only [medfilt, hinit, bind, Except.bind, Int.toNat_natCast, hxp]
  rw [(process_spec avg xp hI).1, if_neg (by simp only [length_map, length_range, hl]; omega), hl,
    List.range_add, map_append, drop_left' (by simp), map_map]
  congr 1
  apply map_congr_left
  intro k _
  rw [Function.comp, window, length_replicate,
    show m - 1 + k + 1 = (replicate m zero).length + k by rw [length_replicate]; omega, drop_length_add_append]

/-- non-vacuity of the invariant and one `_update_sort` step with a repeated value:
order 4, ring buffer `[4,7,5,5]` with `_i = 1` (window oldest-first `[5,5,4,7]`), new sample 5 -/
example : updateSort [4, 5, 5, 7] (5 : Int) 5 = [4, 5, 5, 7] := by decide
example : updateSort [4, 5, 5, 7] (9 : Int) 4 = [5, 5, 7, 9] := by decide
example : updateSort [4, 5, 5, 7] (1 : Int) 7 = [1, 4, 5, 5] := by decide
example : Inv (⟨4, 1, [4, 7, 5, 5], [4, 5, 5, 7]⟩ : MF Int) [5, 5, 4, 7] :=
  ⟨rfl, by decide, rfl, by decide, by decide, by decide⟩
example : ((⟨4, 1, [4, 7, 5, 5], [4, 5, 5, 7]⟩ : MF Int).step (fun a b => (a + b) / 2) 6).2 = some 5 := by decide
example :
    let st' := ((⟨4, 1, [4, 7, 5, 5], [4, 5, 5, 7]⟩ : MF Int).step (fun a b => (a + b) / 2) 6).1
    st'.i = 2 ∧ st'.d = [4, 7, 6, 5] ∧ st'.s = [4, 5, 6, 7] := by decide

/-! ## T16.4 rank correlation -/

section pairs
variable {β : Type}

/-- number of position pairs `i < j` of `l` with `R l[i] l[j]` -/
def pairsP (R : β → β → Bool) : List β → Nat
  | [] => 0
  | a :: t => t.countP (R a) + pairsP R t

theorem pairsP_perm {R : β → β → Bool} (hsymm : ∀ a b, R a b = R b a) {l l' : List β} (h : l.Perm l') :
    pairsP R l = pairsP R l' := by
  induction h with
  | nil => rfl
  | cons a h ih => simp [pairsP, ih, h.countP_eq]
  | swap a b t =>
    simp only [pairsP, List.countP_cons]
    rw [hsymm a b]; omega
  | trans _ _ ih1 ih2 => exact ih1.trans ih2

theorem pairsP_congr {R S : β → β → Bool} {l : List β} (h : l.Pairwise (fun a b => R a b = S a b)) :
    pairsP R l = pairsP S l := by
  induction l with
  | nil => rfl
  | cons a t ih =>
    obtain ⟨h1, h2⟩ := List.pairwise_cons.1 h
    simp only [pairsP, ih h2]
    congr 1
    apply List.countP_congr
    intro b hb; rw [h1 b hb]

theorem pairCount_fst (lt : β → β → Bool) (l : List β) : (pairCount lt l).1 = pairsP lt l := by
  induction l with
  | nil => rfl
  | cons a t ih => simp [pairCount, pairsP, ih]; omega

theorem pairCount_snd (lt : β → β → Bool) (l : List β) : (pairCount lt l).2 = pairsP (fun a b => !lt a b) l := by
  induction l with
  | nil => rfl
  | cons a t ih =>
    simp only [pairCount, pairsP, ih]
    have := List.length_eq_countP_add_countP (lt a) (l := t)
    have h2 : t.countP (fun b => !lt a b) = t.countP (fun b => decide ¬(lt a b = true)) := by
      apply List.countP_congr; intro b _; simp
    rw [h2]; omega

theorem pairCount_total (lt : β → β → Bool) (l : List β) :
    (pairCount lt l).1 + (pairCount lt l).2 = l.length.choose 2 := by
  induction l with
  | nil => rfl
  | cons a t ih =>
    simp only [pairCount, List.length_cons]
    have := List.countP_le_length (p := lt a) (l := t)
    have hc : (t.length + 1).choose 2 = t.length + t.length.choose 2 := by
      rw [show (2 : Nat) = 1 + 1 from rfl, Nat.choose_succ_succ', Nat.choose_one_right]
    rw [hc]
    omega

theorem pairsP_map {γ : Type} (f : γ → β) (R : β → β → Bool) (l : List γ) :
    pairsP R (l.map f) = pairsP (fun a b => R (f a) (f b)) l := by
  induction l with
  | nil => rfl
  | cons a t ih => simp [pairsP, ih, List.countP_map, Function.comp_def]

end pairs

variable {α : Type} [LinearOrder α]

/-- the two samples are ordered the same way / oppositely at positions carrying `p`, `q` -/
def conc (p q : α × α) : Bool := decide ((p.1 < q.1 ∧ p.2 < q.2) ∨ (q.1 < p.1 ∧ q.2 < p.2))
def disc (p q : α × α) : Bool := decide ((p.1 < q.1 ∧ q.2 < p.2) ∨ (q.1 < p.1 ∧ p.2 < q.2))

theorem conc_symm (p q : α × α) : conc p q = conc q p := by
  unfold conc; congr 1; exact propext (or_comm)
theorem disc_symm (p q : α × α) : disc p q = disc q p := by
  unfold disc; congr 1; exact propext (or_comm)

theorem conc_swap (p q : α × α) : conc p.swap q.swap = conc p q := by
  simp only [conc, Prod.fst_swap, Prod.snd_swap, and_comm]

theorem disc_swap (p q : α × α) : disc p.swap q.swap = disc p q := by
  simp only [disc, Prod.fst_swap, Prod.snd_swap, and_comm, or_comm]

theorem disc_eq_false {p q : α × α} (h1 : p.1 < q.1 → p.2 < q.2) (h2 : q.1 < p.1 → q.2 < p.2) : disc p q = false := by
  simp only [disc, decide_eq_false_iff_not, not_or, not_and, not_lt]
  exact ⟨fun h => (h1 h).le, fun h => (h2 h).le⟩

theorem conc_eq_false {p q : α × α} (h1 : p.1 < q.1 → q.2 < p.2) (h2 : q.1 < p.1 → p.2 < q.2) : conc p q = false := by
  simp only [conc, decide_eq_false_iff_not, not_or, not_and, not_lt]
  exact ⟨fun h => (h1 h).le, fun h => (h2 h).le⟩

theorem conc_of_lt {p q : α × α} (h : p.1 < q.1) : conc p q = decide (p.2 < q.2) := by
  simp [conc, h, h.not_gt]

theorem disc_of_lt {p q : α × α} (h : p.1 < q.1) (hne : p.2 ≠ q.2) : disc p q = !decide (p.2 < q.2) := by
  rw [← decide_not]
  simp only [disc, h, h.not_gt, true_and, false_and, or_false, not_lt, decide_eq_decide]
  exact ⟨le_of_lt, fun hle => lt_of_le_of_ne hle hne.symm⟩

/-- the sample pairs `(x[i], y[i])` -/
def pairsOf (x y : Array α) (h : x.size = y.size) : List (α × α) :=
  (List.finRange x.size).map (fun i => (x[i.val]'i.isLt, y[i.val]'(h ▸ i.isLt)))


/-- the sample pairs in the order of the sort index of `x`; their second components are the `y` reordered by `_kendall_corr` -/
theorem sortedPairs (x y : Array α) (h : x.size = y.size) (hx : x.toList.Nodup) :
    ∃ SP : List (α × α), SP.Perm (pairsOf x y h) ∧ SP.Pairwise (fun p q => p.1 < q.1) ∧
      (sortIdx x true).map (fun i => y[i.val]'(h ▸ i.isLt)) = SP.map (·.2) :=
  ⟨(sortIdx x true).map (fun i => (x[i], y[i.val]'(h ▸ i.isLt))), (sortIdx_perm x true).map _,
    pairwise_map.2 (pairwise_map.1 (sortIdx_strict x hx)), by simp [Function.comp_def]⟩

omit [LinearOrder α] in
theorem pairsOf_snd (x y : Array α) (h : x.size = y.size) : (pairsOf x y h).map (·.2) = y.toList := by
  apply List.ext_getElem
  · simp [pairsOf, h]
  · intro i h1 h2; simp [pairsOf]

/-- the counts of the double loop of `_kendall_corr` are the numbers of concordant / discordant
sample pairs (tie-free data) -/
theorem kendall_counts (x y : Array α) (h : x.size = y.size) (hx : x.toList.Nodup) (hy : y.toList.Nodup) :
    (pairCount (fun a b => decide (a < b)) ((sortIdx x true).map (fun i => y[i.val]'(h ▸ i.isLt)))).1
      = pairsP conc (pairsOf x y h) ∧
    (pairCount (fun a b => decide (a < b)) ((sortIdx x true).map (fun i => y[i.val]'(h ▸ i.isLt)))).2
      = pairsP disc (pairsOf x y h) := by
  obtain ⟨SP, hperm, hfst, hmap⟩ := sortedPairs x y h hx
  rw [hmap]
  have hsnd : SP.Pairwise (fun p q => p.2 ≠ q.2) :=
    pairwise_map.1 ((by simpa only [pairsOf_snd] using hperm.map (·.2) : (SP.map (·.2)).Perm y.toList).nodup_iff.2 hy)
  rw [pairCount_fst, pairCount_snd, pairsP_map, pairsP_map, ← pairsP_perm conc_symm hperm, ← pairsP_perm disc_symm hperm]
  exact ⟨pairsP_congr (hfst.imp fun h => (conc_of_lt h).symm),
    pairsP_congr ((hfst.and hsnd).imp fun h => (disc_of_lt h.1 h.2).symm)⟩

section kendallGeneric
variable [Div α] [Fn α]

/-- **T16.4 Kendall = (concordant − discordant) / C(n,2)** for tie-free samples, any scalar type -/
theorem kendall_eq (x y : Array α) (h : x.size = y.size) (hx : x.toList.Nodup) (hy : y.toList.Nodup) :
    kendall x y h =
      Fn.ofInt ((pairsP conc (pairsOf x y h) : Int) - (pairsP disc (pairsOf x y h) : Int)) /
        Fn.ofInt ((pairsP conc (pairsOf x y h) : Int) + (pairsP disc (pairsOf x y h) : Int)) ∧
    pairsP conc (pairsOf x y h) + pairsP disc (pairsOf x y h) = x.size.choose 2 := by
  obtain ⟨h1, h2⟩ := kendall_counts x y h hx hy
  constructor
  · unfold kendall
    simp only
    rw [h1, h2]
  · rw [← h1, ← h2, pairCount_total]
    simp [(sortIdx_perm x true).length_eq]

omit [LinearOrder α] [Div α] [Fn α] in
theorem pairsOf_swap (x y : Array α) (h : x.size = y.size) :
    pairsOf y x h.symm = (pairsOf x y h).map Prod.swap := by
  apply List.ext_getElem
  · simp [pairsOf, h]
  · intro i h1 h2; simp [pairsOf]

omit [Div α] [Fn α] in
theorem pairsP_swap (x y : Array α) (h : x.size = y.size) :
    pairsP conc (pairsOf y x h.symm) = pairsP conc (pairsOf x y h) ∧
    pairsP disc (pairsOf y x h.symm) = pairsP disc (pairsOf x y h) := by
  simp only [pairsOf_swap x y h, pairsP_map, conc_swap, disc_swap, and_self]

/-- **T16.4 Kendall is symmetric in its arguments** (tie-free samples) -/
theorem kendall_symm (x y : Array α) (h : x.size = y.size) (hx : x.toList.Nodup) (hy : y.toList.Nodup) :
    kendall x y h = kendall y x h.symm := by
  rw [(kendall_eq x y h hx hy).1, (kendall_eq y x h.symm hy hx).1, (pairsP_swap x y h).1, (pairsP_swap x y h).2]

end kendallGeneric


theorem pairsP_eq_zero {β : Type} {R : β → β → Bool} {l : List β} (h : ∀ a ∈ l, ∀ b ∈ l, R a b = false) :
    pairsP R l = 0 := by
  induction l with
  | nil => rfl
  | cons a t ih =>
    simp only [pairsP]
    rw [ih (fun p hp q hq => h p (List.mem_cons_of_mem _ hp) q (List.mem_cons_of_mem _ hq))]
    rw [Nat.add_zero, List.countP_eq_zero]
    intro b hb
    simp [h a List.mem_cons_self b (List.mem_cons_of_mem _ hb)]

section kendallReal

/-- Kendall's τ over ℝ: `(C − D) / C(n,2)` -/
theorem kendall_real (x y : Array ℝ) (h : x.size = y.size) (hx : x.toList.Nodup) (hy : y.toList.Nodup) :
    kendall x y h =
      ((pairsP conc (pairsOf x y h) : ℝ) - (pairsP disc (pairsOf x y h) : ℝ)) / (x.size.choose 2 : ℝ) := by
  obtain ⟨h1, h2⟩ := kendall_eq x y h hx hy
  rw [h1, ← h2]
  simp

/-- **τ ∈ [-1, 1]** -/
theorem kendall_mem_Icc (x y : Array ℝ) (h : x.size = y.size) (hx : x.toList.Nodup) (hy : y.toList.Nodup)
    (hn : 2 ≤ x.size) : -1 ≤ kendall x y h ∧ kendall x y h ≤ 1 := by
  have hpos : (0 : ℝ) < (x.size.choose 2 : ℝ) := Nat.cast_pos.2 (Nat.choose_pos hn)
  have hc : (0 : ℝ) ≤ (pairsP conc (pairsOf x y h) : ℝ) := Nat.cast_nonneg _
  have hd : (0 : ℝ) ≤ (pairsP disc (pairsOf x y h) : ℝ) := Nat.cast_nonneg _
  -- with `C + D` for the number of pairs: `-(C + D) ≤ C − D ≤ C + D`
  rw [kendall_real x y h hx hy, le_div_iff₀ hpos, div_le_iff₀ hpos, ← (kendall_eq x y h hx hy).2, Nat.cast_add]
  constructor
  · linarith
  · linarith

/-- **τ = +1 for a strictly increasing relation** -/
theorem kendall_increasing (x y : Array ℝ) (h : x.size = y.size) (hx : x.toList.Nodup) (hy : y.toList.Nodup)
    (hn : 2 ≤ x.size)
    (hmono : ∀ i j : Fin x.size, x[i] < x[j] → y[i.val]'(h ▸ i.isLt) < y[j.val]'(h ▸ j.isLt)) :
    kendall x y h = 1 := by
  have h2 := (kendall_eq x y h hx hy).2
  have hd : pairsP disc (pairsOf x y h) = 0 := by
    rw [pairsOf, pairsP_map]; exact pairsP_eq_zero fun i _ j _ => disc_eq_false (hmono i j) (hmono j i)
  rw [hd, Nat.add_zero] at h2
  rw [kendall_real x y h hx hy, hd, h2, Nat.cast_zero, sub_zero]
  exact div_self (Nat.cast_ne_zero.2 (Nat.choose_pos hn).ne')

/-- **τ = −1 for a strictly decreasing relation** -/
theorem kendall_decreasing (x y : Array ℝ) (h : x.size = y.size) (hx : x.toList.Nodup) (hy : y.toList.Nodup)
    (hn : 2 ≤ x.size)
    (hmono : ∀ i j : Fin x.size, x[i] < x[j] → y[j.val]'(h ▸ j.isLt) < y[i.val]'(h ▸ i.isLt)) :
    kendall x y h = -1 := by
  have h2 := (kendall_eq x y h hx hy).2
  have hc : pairsP conc (pairsOf x y h) = 0 := by
    rw [pairsOf, pairsP_map]; exact pairsP_eq_zero fun i _ j _ => conc_eq_false (hmono i j) (hmono j i)
  rw [hc, Nat.zero_add] at h2
  rw [kendall_real x y h hx hy, hc, h2, Nat.cast_zero, zero_sub, neg_div,
    div_self (Nat.cast_ne_zero.2 (Nat.choose_pos hn).ne')]

end kendallReal

/-- non-vacuity: `x = [3,1,2,5,4]`, `y = [1..5]`:
7 concordant and 3 discordant pairs, τ = 0.4 in either argument order -/
example : pairsP conc [((3 : Int), (1 : Int)), (1, 2), (2, 3), (5, 4), (4, 5)] = 7 ∧
    pairsP disc [((3 : Int), (1 : Int)), (1, 2), (2, 3), (5, 4), (4, 5)] = 3 := by decide
example : pairCount (fun a b : Int => decide (a < b)) [2, 3, 1, 5, 4] = (7, 3) := by decide

/-! ### Pearson -/

section pearson

/-- `Σ f` over the sample pairs -/
def lsum (P : List (ℝ × ℝ)) (f : ℝ × ℝ → ℝ) : ℝ := (P.map f).sum

@[simp] theorem lsum_nil (f : ℝ × ℝ → ℝ) : lsum [] f = 0 := rfl
@[simp] theorem lsum_cons (p : ℝ × ℝ) (P : List (ℝ × ℝ)) (f : ℝ × ℝ → ℝ) : lsum (p :: P) f = f p + lsum P f := by
  simp [lsum]

theorem sums_foldl (P : List (ℝ × ℝ)) (s : Sums ℝ) :
    P.foldl (fun s p => (⟨s.sx + p.1, s.sy + p.2, s.sxy + p.1 * p.2, s.sxx + p.1 * p.1, s.syy + p.2 * p.2⟩ : Sums ℝ)) s
      = ⟨s.sx + lsum P (·.1), s.sy + lsum P (·.2), s.sxy + lsum P (fun p => p.1 * p.2),
         s.sxx + lsum P (fun p => p.1 * p.1), s.syy + lsum P (fun p => p.2 * p.2)⟩ := by
  induction P generalizing s with
  | nil => simp
  | cons p P ih => simp [ih, add_assoc]

/-- the accumulation loop computes the five moment sums -/
theorem sums_eq (x y : List ℝ) :
    sums x y = ⟨lsum (zip x y) (·.1), lsum (zip x y) (·.2), lsum (zip x y) (fun p => p.1 * p.2),
      lsum (zip x y) (fun p => p.1 * p.1), lsum (zip x y) (fun p => p.2 * p.2)⟩ := by
  unfold sums
  rw [sums_foldl]
  simp

/-- the tail of `_pearson_corr` is the moment formula of the data the sums run over -/
theorem moments_eq (n : ℝ) (x y : List ℝ) :
    moments n x y =
      (n * lsum (zip x y) (fun p => p.1 * p.2) - lsum (zip x y) (·.1) * lsum (zip x y) (·.2)) /
      Real.sqrt ((n * lsum (zip x y) (fun p => p.1 * p.1) - lsum (zip x y) (·.1) ^ 2) *
                 (n * lsum (zip x y) (fun p => p.2 * p.2) - lsum (zip x y) (·.2) ^ 2)) := by
  simp only [moments, sums_eq, fn_sqrt, mul_comm _ n, sq]

/-- the moment formula on the raw samples -/
theorem pearsonM_eq (x y : List ℝ) :
    pearsonM x y =
      ((x.length : ℝ) * lsum (zip x y) (fun p => p.1 * p.2) - lsum (zip x y) (·.1) * lsum (zip x y) (·.2)) /
      Real.sqrt (((x.length : ℝ) * lsum (zip x y) (fun p => p.1 * p.1) - lsum (zip x y) (·.1) ^ 2) *
                 ((x.length : ℝ) * lsum (zip x y) (fun p => p.2 * p.2) - lsum (zip x y) (·.2) ^ 2)) := by
  simp only [pearsonM, moments_eq, fn_ofNat]

theorem lsum_sub_const (P : List (ℝ × ℝ)) (u : ℝ × ℝ → ℝ) (a : ℝ) :
    lsum P (fun p => u p - a) = lsum P u - (P.length : ℝ) * a := by
  induction P with
  | nil => simp
  | cons p P ih => simp only [lsum_cons, ih, List.length_cons, Nat.cast_add, Nat.cast_one]; ring

theorem lsum_shift (P : List (ℝ × ℝ)) (u v : ℝ × ℝ → ℝ) (a b : ℝ) :
    lsum P (fun p => (u p - a) * (v p - b)) =
      lsum P (fun p => u p * v p) - b * lsum P u - a * lsum P v + (P.length : ℝ) * (a * b) := by
  induction P with
  | nil => simp
  | cons p P ih => simp only [lsum_cons, ih, List.length_cons, Nat.cast_add, Nat.cast_one]; ring

theorem lsum_zip_map (x y : List ℝ) (f g : ℝ → ℝ) (F : ℝ × ℝ → ℝ) :
    lsum (zip (x.map f) (y.map g)) F = lsum (zip x y) (fun p => F (f p.1, g p.2)) := by
  unfold lsum
  rw [List.zip_map, List.map_map]
  rfl

/-- **the centring in `_pearson_corr` does not change the value over the reals**: the moment formula is
invariant under translation of either sample (whatever the two subtracted constants are), so the model of the code
equals the moment formula of the raw samples.  (In floating point the centred form is the one that does not cancel.) -/
theorem pearson_eq_pearsonM (x y : List ℝ) (h : x.length = y.length) : pearson x y = pearsonM x y := by
  rw [pearsonM_eq]
  unfold pearson centre
  simp only [fn_ofNat]
  generalize (x.foldl (· + ·) (Nat.cast 0 : ℝ) / (x.length : ℝ)) = a
  generalize (y.foldl (· + ·) (Nat.cast 0 : ℝ) / (x.length : ℝ)) = b
  rw [moments_eq]
  simp only [lsum_zip_map, lsum_sub_const, lsum_shift, show (zip x y).length = x.length by simp [h]]
  congr 1
  · ring
  · congr 1
    ring

/-- **T16.4 Pearson = the moment formula** (of the raw samples; the code evaluates it on the centred ones) -/
theorem pearson_eq (x y : List ℝ) (h : x.length = y.length) :
    pearson x y =
      ((x.length : ℝ) * lsum (zip x y) (fun p => p.1 * p.2) - lsum (zip x y) (·.1) * lsum (zip x y) (·.2)) /
      Real.sqrt (((x.length : ℝ) * lsum (zip x y) (fun p => p.1 * p.1) - lsum (zip x y) (·.1) ^ 2) *
                 ((x.length : ℝ) * lsum (zip x y) (fun p => p.2 * p.2) - lsum (zip x y) (·.2) ^ 2)) := by
  rw [pearson_eq_pearsonM x y h, pearsonM_eq]

theorem lsum_swap (x y : List ℝ) (f : ℝ × ℝ → ℝ) : lsum (zip y x) f = lsum (zip x y) (fun p => f p.swap) := by
  unfold lsum
  rw [← List.zip_swap x y, List.map_map]; rfl

/-- **T16.4 Pearson is symmetric** -/
theorem pearson_symm (x y : List ℝ) (h : x.length = y.length) : pearson x y = pearson y x := by
  rw [pearson_eq x y h, pearson_eq y x h.symm, ← h]
  simp only [lsum_swap x y, Prod.fst_swap, Prod.snd_swap]
  rw [show (fun p : ℝ × ℝ => p.2 * p.1) = (fun p => p.1 * p.2) from funext fun p => mul_comm _ _,
    mul_comm (lsum (zip x y) fun p => p.2)]
  exact congrArg _ (congrArg _ (mul_comm _ _))


/-- Cauchy–Schwarz for list sums (discriminant of `Σ (u t + v)² ≥ 0`) -/
theorem lsum_cauchy_schwarz (P : List (ℝ × ℝ)) (u v : ℝ × ℝ → ℝ) :
    (lsum P (fun p => u p * v p)) ^ 2 ≤ lsum P (fun p => u p * u p) * lsum P (fun p => v p * v p) := by
  have hq : ∀ t : ℝ, lsum P (fun p => (u p * t + v p) * (u p * t + v p)) =
      lsum P (fun p => u p * u p) * (t * t) + (2 * lsum P (fun p => u p * v p)) * t + lsum P (fun p => v p * v p) := by
    intro t
    induction P with
    | nil => simp
    | cons p P ih => simp only [lsum_cons, ih]; ring
  have hnn : ∀ t : ℝ, 0 ≤ lsum P (fun p => u p * u p) * (t * t) + (2 * lsum P (fun p => u p * v p)) * t +
      lsum P (fun p => v p * v p) := by
    intro t
    rw [← hq t]
    exact List.sum_nonneg (List.forall_mem_map.2 fun p _ => mul_self_nonneg _)
  have := discrim_le_zero hnn
  unfold discrim at this
  linarith

/-- centring at the means `S / n`, `T / n` and scaling by `n` turns a raw moment `U` into `n U − S T` -/
theorem centred_moment {n : ℝ} (hn : n ≠ 0) (S T U : ℝ) :
    n * (U - T / n * S - S / n * T + n * (S / n * (T / n))) = n * U - S * T := by
  field_simp; ring

/-- the squared numerator is bounded by the product under the root: Cauchy–Schwarz for the samples centred at their
means, scaled by `n²` -/
theorem pearson_num_sq_le (P : List (ℝ × ℝ)) (hP : P ≠ []) :
    ((P.length : ℝ) * lsum P (fun p => p.1 * p.2) - lsum P (·.1) * lsum P (·.2)) ^ 2 ≤
      ((P.length : ℝ) * lsum P (fun p => p.1 * p.1) - lsum P (·.1) ^ 2) *
      ((P.length : ℝ) * lsum P (fun p => p.2 * p.2) - lsum P (·.2) ^ 2) := by
  have hn : (P.length : ℝ) ≠ 0 := Nat.cast_ne_zero.2 (List.length_pos_iff.2 hP).ne'
  have cs := lsum_cauchy_schwarz P (fun p => p.1 - lsum P (·.1) / P.length) (fun p => p.2 - lsum P (·.2) / P.length)
  rw [lsum_shift P (·.1) (·.2), lsum_shift P (·.1) (·.1), lsum_shift P (·.2) (·.2)] at cs
  rw [sq (lsum P (·.1)), sq (lsum P (·.2)), ← centred_moment hn, ← centred_moment hn _ _ (lsum P fun p => p.1 * p.1),
    ← centred_moment hn _ _ (lsum P fun p => p.2 * p.2), mul_pow, mul_mul_mul_comm, ← sq]
  exact mul_le_mul_of_nonneg_left cs (sq_nonneg _)

/-- **T16.4 |r| ≤ 1** (Cauchy–Schwarz).  The hypothesis excludes the 0/0 of constant samples. -/
theorem pearson_abs_le_one (x y : List ℝ) (h : x.length = y.length)
    (hden : 0 < ((x.length : ℝ) * lsum (zip x y) (fun p => p.1 * p.1) - lsum (zip x y) (·.1) ^ 2) *
                ((x.length : ℝ) * lsum (zip x y) (fun p => p.2 * p.2) - lsum (zip x y) (·.2) ^ 2)) :
    |pearson x y| ≤ 1 := by
  have hP : zip x y ≠ [] := fun e => by simp [e] at hden
  have hlen : ((zip x y).length : ℝ) = (x.length : ℝ) := by simp [h]
  have key := pearson_num_sq_le (zip x y) hP
  rw [hlen] at key
  rw [pearson_eq x y h, abs_div, abs_of_pos (Real.sqrt_pos.2 hden), div_le_one (Real.sqrt_pos.2 hden)]
  exact Real.abs_le_sqrt key

end pearson

/-! ### Spearman -/

theorem countP_lt_strictSorted {s : List α} (hs : s.Pairwise (· < ·)) (k : Nat) (hk : k < s.length) :
    s.countP (fun u => decide (u < s[k])) = k := by
  obtain ⟨h1, h2⟩ := pairwise_split hs k hk
  rw [countP_split _ s k hk, countP_eq_length.2 fun a ha => by simpa using h1 a ha,
    countP_eq_zero.2 fun b hb => by simpa using (h2 b hb).le, length_take_of_le hk.le, if_neg (by simp), add_zero, add_zero]

/-- **T16.4 ranks**: for tie-free `x`, `_get_ranks(x)[j]` = number of samples smaller than `x[j]` -/
theorem ranks_eq (x : Array α) (hx : x.toList.Nodup) :
    ranks x = x.toList.map (fun v => x.toList.countP (fun u => decide (u < v))) := by
  generalize hF : (fun v => x.toList.countP (fun u => decide (u < v))) = F
  rw [ranks, ← gather_finRange x, gather, map_map]
  refine map_congr_left fun J _ => ?_
  have hk := idxOf_lt_length_of_mem ((sortIdx_perm x true).symm.subset (mem_finRange J))
  have := countP_lt_strictSorted (sortIdx_strict x hx) _ (by rwa [gather, length_map] : idxOf J (sortIdx x true) < _)
  rw [(gather_sortIdx_perm x true).countP_eq] at this
  rw [← hF, Function.comp, ← this]
  simp only [gather, getElem_map, getElem_idxOf hk]

/-- rank of every sample of a tie-free array as a real number: how many samples are smaller -/
noncomputable def realRanks (x : Array ℝ) : List ℝ :=
  x.toList.map (fun v => ((x.toList.countP (fun u => decide (u < v)) : ℕ) : ℝ))

/-- **T16.4 Spearman's ρ = Pearson's r of the ranks** (tie-free samples) -/
theorem spearman_eq (x y : Array ℝ) (hx : x.toList.Nodup) (hy : y.toList.Nodup) :
    spearman x y = pearson (realRanks x) (realRanks y) := by
  unfold spearman realRanks
  rw [ranks_eq x hx, ranks_eq y hy]
  simp [Function.comp_def]

/-- **T16.4 Spearman is symmetric** -/
theorem spearman_symm (x y : Array ℝ) (h : x.size = y.size) (hx : x.toList.Nodup) (hy : y.toList.Nodup) :
    spearman x y = spearman y x := by
  rw [spearman_eq x y hx hy, spearman_eq y x hy hx]
  exact pearson_symm _ _ (by simp [realRanks, h])

/-- **|ρ| ≤ 1** (the hypothesis excludes the 0/0 of samples of length < 2) -/
theorem spearman_abs_le_one (x y : Array ℝ) (h : x.size = y.size) (hx : x.toList.Nodup) (hy : y.toList.Nodup)
    (hden : 0 < (((realRanks x).length : ℝ) * lsum (zip (realRanks x) (realRanks y)) (fun p => p.1 * p.1) -
                  lsum (zip (realRanks x) (realRanks y)) (·.1) ^ 2) *
                (((realRanks x).length : ℝ) * lsum (zip (realRanks x) (realRanks y)) (fun p => p.2 * p.2) -
                  lsum (zip (realRanks x) (realRanks y)) (·.2) ^ 2)) :
    |spearman x y| ≤ 1 := by
  rw [spearman_eq x y hx hy]
  exact pearson_abs_le_one _ _ (by simp [realRanks, h]) hden

end Dsp.C16
