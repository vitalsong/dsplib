import DspVerif.Lib.C07Base
import DspVerif.Lib.C07Dft
/-!
# C07 — FIR filtering and correlation equal their defining sums

Theorems about `Model/Fir.lean` (the models of `FirFilter<T>`, `FftFilter`, `xcorr`, `MAFilter<T>`; tied to
`include/dsplib/fir.h`, `lib/fir.cpp`, `lib/xcorr.cpp`, `lib/ma-filter.h` by the correspondence run of `harness/c07.cpp`).

All statements are EXACT (no rounding) and hold for every tap vector, every input, every length:
the scalar-generic ones for every commutative (semi)ring `R` and every function `cj : R → R` standing for `conj`
(so in particular for `ℝ` with `cj = id` and for `Cx ℝ` — a commutative ring with the REGENERATED `cmplx_t` operators,
`Lib/C07Base` — with `cj = Cx.conj`); the instantiations at the end restate them for the real and complex models.
Arrays are read with `getD _ 0`; every index used on the right-hand sides is in range (guarded by the `if`s), and
out-of-range values are never relied upon.

The FFT based kernels (`FftFilter`, `xcorr`) take the transform pair as a parameter; T07.2 / T07.3 are proved for every pair
satisfying the circular convolution / correlation theorem at the one length used (`CircConv`, `CircCorr` — explicit
hypotheses; that the library's `fft`/`ifft` are the DFT and its inverse is the subject of C01/C02).
Rounding accuracy is measured by the ORACLE of `harness/c07.cpp` (long double), not proved.
-/
open Finset Dsp Dsp.Fir

namespace Dsp.C07
variable {R : Type}

section fir
variable [CommSemiring R]

/-- `_conv` with the taps in increasing order (the loop runs through them backwards) -/
theorem conv_getD (cj : R → R) (x h : Array R) (i : ℕ) (hi : i < x.size + 1 - h.size) :
    (conv 0 cj x h).getD i 0 = ∑ k ∈ range h.size, cj (h.getD k 0) * x.getD (i + (h.size - 1 - k)) 0 := by
  unfold conv
  rw [getD_ofFn, dif_pos hi, acc_eq_sum, ← Finset.sum_range_reflect]
  refine Finset.sum_congr rfl fun k hk => ?_
  have e : h.size - (h.size - 1 - k) - 1 = k := by have := mem_range.mp hk; omega
  rw [e, mul_comm]

/-- `s.d` holds the last `nh-1` samples of the stream `X` consumed so far (zeros before its start): cell `j` is the
sample `b + 1` places before the end when `j + b + 1` is the length of `s.d` -/
def Hist (s : State R) (X : Array R) : Prop :=
  s.d.size = s.h.size - 1 ∧ ∀ j b, j + b + 1 = s.d.size → s.d.getD j 0 = past X b

theorem hist_init (h : Array R) : Hist (init 0 h) #[] := by
  refine ⟨Array.size_replicate, fun j b _ => ?_⟩
  show (Array.replicate (h.size - 1) 0).getD j 0 = past #[] b
  rw [getD_replicate, past_empty]

/-- the buffer `_d | x` that `process` convolves holds the end of the stream `X ++ x` in the same way -/
theorem hist_window (s : State R) (X x : Array R) (hs : Hist s X) (j b : ℕ) (hjb : j + b + 1 = s.d.size + x.size) :
    (s.d ++ x).getD j 0 = past (X ++ x) b := by
  rw [getD_append, past_append]
  by_cases h : j < s.d.size
  · rw [if_pos h, if_neg (by omega), hs.2 j (b - x.size) (by omega)]
  · rw [if_neg h, if_pos (by omega)]
    congr 1; omega

/-- the sample `k` places before sample `i` of the frame `x` that follows the stream `X` (`r` samples of `x` come after `i`) -/
theorem past_append_lag (X x : Array R) (i r k : ℕ) (hi : i + 1 + r = x.size) :
    past (X ++ x) (r + k) = if k ≤ i then x.getD (i - k) 0 else past X (k - i - 1) := by
  rw [past_append]
  by_cases h : k ≤ i
  · rw [if_pos h, if_pos (by omega)]; congr 1; omega
  · rw [if_neg h, if_neg (by omega)]; congr 1; omega

/-- **T07.1 (call sequence / state hand-over).** If `_d` holds the last `nh-1` samples of everything consumed so far
(`X`), one more `process(x)` returns, for EVERY tap vector (`nh ≥ 1`), every frame `x` and every `conj`,
`y[i] = Σ_{k<nh} conj(h[k]) · s(i-k)` where `s(i-k)` is the sample of the stream `X ++ x` that lies `k` places before `x[i]`
(zero before the start of the stream; it is named by its distance `r + k` from the end, `r` samples of `x` coming after
`x[i]`) — and `_d` again holds the last `nh-1` samples of `X ++ x`. -/
theorem fir_step (cj : R → R) (s : State R) (X x : Array R) (hs : Hist s X) (hh : 1 ≤ s.h.size) :
    (process 0 cj s x).1.h = s.h ∧ Hist (process 0 cj s x).1 (X ++ x) ∧ (process 0 cj s x).2.size = x.size ∧
    ∀ i r, i + 1 + r = x.size → (process 0 cj s x).2.getD i 0 =
      ∑ k ∈ range s.h.size, cj (s.h.getD k 0) * past (X ++ x) (r + k) := by
  have hd := hs.1
  have hsz : (s.d ++ x).size = s.d.size + x.size := Array.size_append
  have hle : s.h.size - 1 ≤ (s.d ++ x).size := by rw [hsz, hd]; exact Nat.le_add_right _ _
  refine ⟨rfl, ⟨size_extract_tail _ _ hle, fun j b hjb => ?_⟩, ?_, fun i r hi => ?_⟩
  · replace hjb : j + b + 1 = s.h.size - 1 := hjb.trans (size_extract_tail _ _ hle)
    show ((s.d ++ x).extract ((s.d ++ x).size - (s.h.size - 1)) (s.d ++ x).size).getD j 0 = past (X ++ x) b
    rw [getD_extract _ _ _ _ _ (le_refl _), Nat.sub_sub_self hle, if_pos (by omega), hist_window s X x hs _ b (by omega)]
  · show (conv 0 cj (s.d ++ x) s.h).size = x.size
    rw [conv, Array.size_ofFn, hsz]; omega
  · show (conv 0 cj (s.d ++ x) s.h).getD i 0 = _
    rw [conv_getD _ _ _ _ (by rw [hsz, hd]; omega)]
    refine Finset.sum_congr rfl fun k hk => ?_
    have hk' := mem_range.mp hk
    rw [hist_window s X x hs _ (r + k) (by omega)]


/-- **T07.1** Started from rest, `FirFilter<T>::process` outputs `y[i] = Σ_{k<nh, k≤i} conj(h[k])·x[i-k]`
(all `getD` indices are in range: `k < nh`, `i-k < len x`), for every tap vector with `nh ≥ 1`, every input and every `conj`
(identity for `real_t`, `Cx.conj` for `cmplx_t`); the output has the length of the input. -/
theorem fir_eq (cj : R → R) (h x : Array R) (hh : 1 ≤ h.size) :
    (process 0 cj (init 0 h) x).2.size = x.size ∧
    ∀ i, i < x.size → (process 0 cj (init 0 h) x).2.getD i 0 =
      ∑ k ∈ range h.size, if k ≤ i then cj (h.getD k 0) * x.getD (i - k) 0 else 0 := by
  obtain ⟨_, _, h3, h4⟩ := fir_step cj (init 0 h) #[] x (hist_init h) hh
  refine ⟨h3, fun i hi => (h4 i _ (Nat.add_sub_cancel' hi)).trans (Finset.sum_congr rfl fun k _ => ?_)⟩
  show cj (h.getD k 0) * _ = _
  rw [past_append_lag #[] x i _ k (Nat.add_sub_cancel' hi), past_empty, mul_ite, mul_zero]

/-- **T07.1 (framing).** Feeding `a` then `b` gives the outputs of feeding `a ++ b` at once, from any state that is the
history of a stream: the hand-over through `_d` loses nothing. -/
theorem fir_append (cj : R → R) (s : State R) (X a b : Array R) (hs : Hist s X) (hh : 1 ≤ s.h.size) :
    (process 0 cj s (a ++ b)).2 = (process 0 cj s a).2 ++ (process 0 cj (process 0 cj s a).1 b).2 := by
  obtain ⟨a1, a2, a3, a4⟩ := fir_step cj s X a hs hh
  obtain ⟨-, -, b3, b4⟩ := fir_step cj (process 0 cj s a).1 (X ++ a) b a2 (by rw [a1]; exact hh)
  obtain ⟨-, -, c3, c4⟩ := fir_step cj s X (a ++ b) hs hh
  have hab : (a ++ b).size = a.size + b.size := Array.size_append
  apply ext_getD 0
  · rw [c3, hab, Array.size_append, a3, b3]
  · intro i hi
    rw [c3, hab] at hi
    -- `r` samples of `a ++ b` come after sample `i`: all of `b` and the rest of `a`, or the rest of `b`
    obtain ⟨r, hr⟩ : ∃ r, i + 1 + r = a.size + b.size := ⟨a.size + b.size - 1 - i, by omega⟩
    rw [c4 i r (hr.trans hab.symm), getD_append, a3, ← Array.append_assoc]
    by_cases hia : i < a.size
    · obtain ⟨r', rfl⟩ : ∃ r', r = r' + b.size := ⟨r - b.size, by omega⟩
      rw [if_pos hia, a4 i r' (by omega)]
      refine Finset.sum_congr rfl fun k _ => ?_
      rw [past_append, if_neg (by omega), Nat.add_right_comm, Nat.add_sub_cancel]
    · rw [if_neg hia, b4 _ r (by omega), a1]

end fir


section ma
variable [AddCommGroup R]

/-- prepend a new most-recent sample to a "past" function -/
def shift (x : R) (P : ℕ → R) : ℕ → R := fun b => if b = 0 then x else P (b - 1)

/-- invariant of `MAFilter`: `_accum = Σ _buf`, which is the sum of the last `n` samples, and `_buf` is their ring buffer
(`P b` = the sample `b` steps before the most recent one; zeros before the start): cell `j` holds the sample of age `b`
when `j + b + 1` is the write position modulo `n` -/
def MaInv (s : MaState R) (P : ℕ → R) (n : ℕ) : Prop :=
  s.n = n ∧ s.buf.size = n ∧ s.pos < n ∧ s.accum = ∑ j ∈ range n, s.buf.getD j 0 ∧ s.accum = ∑ b ∈ range n, P b ∧
    ∀ j b, j < n → b < n → (j + b + 1 = s.pos ∨ j + b + 1 = s.pos + n) → s.buf.getD j 0 = P b

/-- the buffer is full: `_pos` wraps and `_accum` is recomputed -/
theorem maStep_wrap (divn : R → ℕ → R) (s : MaState R) (x : R) (hw : s.pos + 1 = s.n) :
    maStep 0 divn s x = (⟨s.buf.setIfInBounds s.pos x, s.n, 0, sumv 0 (s.buf.setIfInBounds s.pos x)⟩,
      divn (sumv 0 (s.buf.setIfInBounds s.pos x)) s.n) :=
  if_pos hw

theorem maStep_next (divn : R → ℕ → R) (s : MaState R) (x : R) (hw : s.pos + 1 ≠ s.n) :
    maStep 0 divn s x = (⟨s.buf.setIfInBounds s.pos x, s.n, s.pos + 1, s.accum - s.buf.getD s.pos 0 + x⟩,
      divn (s.accum - s.buf.getD s.pos 0 + x) s.n) :=
  if_neg hw

theorem ma_step (divn : R → ℕ → R) (s : MaState R) (P : ℕ → R) (n : ℕ) (x : R) (hs : MaInv s P n) :
    MaInv (maStep 0 divn s x).1 (shift x P) n ∧
    (maStep 0 divn s x).2 = divn (∑ b ∈ range n, shift x P b) n := by
  obtain ⟨hn, hb, hpos, hacc, hP, hcell⟩ := hs
  have hbuf : ∀ j, (s.buf.setIfInBounds s.pos x).getD j 0 = if j = s.pos then x else s.buf.getD j 0 :=
    fun j => getD_setIfInBounds_lt _ _ _ _ _ (hb ▸ hpos)
  have hsz : (s.buf.setIfInBounds s.pos x).size = n := by rw [Array.size_setIfInBounds, hb]
  -- the running update of `_accum` is the sum of the buffer after the write: the two sums differ in cell `_pos` only
  have hsum : ∑ j ∈ range n, (s.buf.setIfInBounds s.pos x).getD j 0 = s.accum - s.buf.getD s.pos 0 + x := by
    have hmem := mem_range.mpr hpos
    rw [hacc, ← Finset.sum_erase_add _ _ hmem, ← Finset.sum_erase_add _ (fun j => s.buf.getD j 0) hmem,
      add_sub_cancel_right, hbuf, if_pos rfl]
    exact congrArg (· + x) (Finset.sum_congr rfl fun j hj => by rw [hbuf, if_neg (Finset.ne_of_mem_erase hj)])
  -- and the sum of the window after the step: the sample that leaves it is the oldest one, in cell `_pos`
  have hwin : ∑ b ∈ range n, shift x P b = s.accum - s.buf.getD s.pos 0 + x := by
    obtain ⟨m, rfl⟩ : ∃ m, n = m + 1 := ⟨n - 1, by omega⟩
    rw [Finset.sum_range_succ', hP, Finset.sum_range_succ, hcell s.pos m hpos (Nat.lt_succ_self m) (Or.inr rfl),
      add_sub_cancel_right]
    rfl
  -- whichever way `_pos` moves on, the cells keep their samples and these age by one step
  have hinv : ∀ (pos' : ℕ) (A : R), pos' < n → (pos' = s.pos + 1 ∨ pos' + n = s.pos + 1) →
      A = ∑ j ∈ range n, (s.buf.setIfInBounds s.pos x).getD j 0 →
      MaInv ⟨s.buf.setIfInBounds s.pos x, s.n, pos', A⟩ (shift x P) n ∧
        divn A s.n = divn (∑ b ∈ range n, shift x P b) n := by
    refine fun pos' A hp' hpp hA => ⟨⟨hn, hsz, hp', hA, hA.trans (hsum.trans hwin.symm), fun j b hj hb' hjb => ?_⟩,
      by rw [hA, hsum, hwin, hn]⟩
    replace hjb : j + b + 1 = pos' ∨ j + b + 1 = pos' + n := hjb
    show (s.buf.setIfInBounds s.pos x).getD j 0 = _
    rw [hbuf]
    cases b with
    | zero => rw [if_pos (by omega)]; rfl
    | succ b =>
      obtain ⟨h1, h2, h3⟩ : j ≠ s.pos ∧ b < n ∧ (j + b + 1 = s.pos ∨ j + b + 1 = s.pos + n) := by omega
      rw [if_neg h1]; exact hcell j b hj h2 h3
  by_cases hw : s.pos + 1 = s.n
  · rw [maStep_wrap divn s x hw]
    exact hinv 0 _ (Nat.zero_lt_of_lt hpos) (Or.inr ((Nat.zero_add n).trans (hn.symm.trans hw.symm)))
      (by rw [sumv, acc_eq_sum, hsz])
  · rw [maStep_next divn s x hw]
    exact hinv (s.pos + 1) _ (lt_of_le_of_ne hpos fun e => hw (e.trans hn.symm)) (Or.inl rfl) hsum.symm


/-- the "past" function, from rest, after the first `i` samples of `xs` -/
def pastOf (xs : Array R) (i : ℕ) : ℕ → R := fun b => if b < i then xs.getD (i - 1 - b) 0 else 0

theorem pastOf_succ (xs : Array R) (i : ℕ) : pastOf xs (i + 1) = shift (xs.getD i 0) (pastOf xs i) := by
  funext b
  cases b with
  | zero => exact if_pos (Nat.succ_pos i)
  | succ b =>
    show (if b + 1 < i + 1 then xs.getD (i + 1 - 1 - (b + 1)) 0 else 0) = if b < i then xs.getD (i - 1 - b) 0 else 0
    rw [Nat.add_sub_cancel, Nat.sub_sub, Nat.add_comm 1 b]
    exact if_congr Nat.add_lt_add_iff_right rfl rfl

theorem ma_init_inv (n : ℕ) (hn : 0 < n) (P : ℕ → R) (hP : ∀ b, P b = 0) : MaInv (maInit (0 : R) n) P n := by
  refine ⟨rfl, Array.size_replicate, hn, ?_, (Finset.sum_eq_zero fun b _ => hP b).symm, fun j b _ _ _ => ?_⟩
  · show (0 : R) = ∑ j ∈ range n, (Array.replicate n (0 : R)).getD j 0
    simp only [getD_replicate, Finset.sum_const_zero]
  · show (Array.replicate n (0 : R)).getD j 0 = P b
    rw [getD_replicate, hP]

/-- **T07.4 (window-sum form).** Started from rest, `MAFilter(n)` outputs `(Σ_{b<n, b≤t} x[t-b]) / n`, for
every `n ≥ 1`, every input and whatever `T / int` is (`divn`). -/
theorem ma_eq_window (divn : R → ℕ → R) (n : ℕ) (hn : 0 < n) (xs : Array R) :
    (maProcess 0 divn (maInit 0 n) xs).2.size = xs.size ∧
    ∀ t, t < xs.size → (maProcess 0 divn (maInit 0 n) xs).2.getD t 0 =
      divn (∑ b ∈ range n, if b ≤ t then xs.getD (t - b) 0 else 0) n := by
  have e : ∀ t, (∑ b ∈ range n, if b ≤ t then xs.getD (t - b) 0 else 0) = ∑ b ∈ range n, pastOf xs (t + 1) b :=
    fun t => Finset.sum_congr rfl fun b _ => if_congr Nat.lt_succ_iff.symm rfl rfl
  simp only [e]
  refine (foldl_getD_induction 0 xs _ _
    (fun i (so : MaState R × Array R) => MaInv so.1 (pastOf xs i) n ∧ so.2.size = i ∧
      ∀ t, t < i → so.2.getD t 0 = divn (∑ b ∈ range n, pastOf xs (t + 1) b) n)
    ⟨ma_init_inv n hn _ fun b => if_neg (Nat.not_lt_zero b), rfl, fun t ht => absurd ht (Nat.not_lt_zero t)⟩
    fun i _ so ⟨hinv, hsz, hout⟩ => ?_).2
  obtain ⟨h1, h2⟩ := ma_step divn so.1 _ n (xs.getD i 0) hinv
  rw [← pastOf_succ] at h1 h2
  refine ⟨h1, by rw [Array.size_push, hsz], fun t ht => ?_⟩
  rw [getD_push, hsz]
  by_cases h : t = i
  · rw [if_pos h, h, h2]
  · rw [if_neg h]; exact hout t (by omega)

end ma


section xcorr
variable [CommSemiring R]

/-- what `xcorr` needs from the transform pair at length `M`: the circular cross-correlation theorem
`conj(ifft(conj(fft a) · fft b))[t] = Σ_n a[n]·conj(b[(n+t) mod M])` -/
def CircCorr (cj : R → R) (fft ifft : Array R → Array R) (M : ℕ) : Prop :=
  ∀ a b : Array R, a.size = M → b.size = M →
    ((ifft (mulv 0 ((fft a).map cj) (fft b))).map cj).size = M ∧
    ∀ t, t < M → ((ifft (mulv 0 ((fft a).map cj) (fft b))).map cj).getD t 0 =
      ∑ n ∈ range M, a.getD n 0 * cj (b.getD ((n + t) % M) 0)

/-- the circular correlation of `a` zero-padded at the end with `b` (`p + 1` samples) zero-padded at the front, at lag
`M - 1 - j`: nothing wraps around, `a[n]` meets `b[n + p - j]` or a zero -/
theorem corr_zeropad (cj : R → R) (hcj0 : cj 0 = 0) (a b : Array R) (M j t p : ℕ) (hp : b.size = p + 1)
    (hM : a.size + p ≤ M) (ht : t + j + 1 = M) :
    ∑ n ∈ range M, (a ++ Array.replicate (M - a.size) (0 : R)).getD n 0 *
        cj ((Array.replicate (M - b.size) (0 : R) ++ b).getD ((n + t) % M) 0) =
      ∑ n ∈ range b.size, if p ≤ j + n ∧ j + n - p < a.size then a.getD (j + n - p) 0 * cj (b.getD n 0) else 0 := by
  refine (Finset.sum_congr rfl fun n _ => show _ = if n < a.size ∧ n ≤ j ∧ j ≤ n + p then
      a.getD n 0 * cj (b.getD (n + p - j) 0) else 0 from ?_).trans
    (sum_range_ite_bij (fun n => n + p - j) (fun m => j + m - p) (fun n hn hq => ?_) fun m hm hq => by omega)
  · -- term `n` of the circular sum: `a[n]` meets `b[n + p - j]`, or padding
    rw [getD_append, getD_append (Array.replicate _ _), Array.size_replicate, getD_replicate, getD_replicate,
      apply_ite cj, hcj0, mul_ite, mul_zero]
    by_cases hna : n < a.size
    · rw [if_pos hna]
      by_cases hnj : n ≤ j
      · -- no wrap-around: `b` is met at `n + t - pad`, when that is not in the padding
        rw [Nat.mod_eq_of_lt (by omega)]
        exact (if_congr (by omega) rfl (by congr 3; omega)).trans (ite_not _ _ _)
      · rw [Nat.mod_eq_sub_mod (by omega), Nat.mod_eq_of_lt (by omega), if_pos (by omega), if_neg fun c => hnj c.2.1]
    · rw [if_neg hna, zero_mul, ite_self, if_neg fun c => hna c.1]
  · -- the surviving terms, summed over the index `n + p - j` of `b` instead
    have key : n + p - j < b.size ∧ (p ≤ j + (n + p - j) ∧ j + (n + p - j) - p < a.size) ∧ j + (n + p - j) - p = n := by
      omega
    exact ⟨key.1, key.2.1, key.2.2, by rw [key.2.2]⟩

theorem xcorr_eq (cj : R → R) (hcj0 : cj 0 = 0) (fft ifft : Array R → Array R) (a b : Array R)
    (ha : 1 ≤ a.size) (hb : 1 ≤ b.size)
    (H : CircCorr cj fft ifft (2 ^ nextpow2 (a.size + b.size - 1))) :
    (xcorr 0 cj fft ifft a b).size = a.size + b.size - 1 ∧
    ∀ j, j < a.size + b.size - 1 → (xcorr 0 cj fft ifft a b).getD j 0 =
      ∑ n ∈ range b.size,
        if b.size - 1 ≤ j + n ∧ j + n - (b.size - 1) < a.size then a.getD (j + n - (b.size - 1)) 0 * cj (b.getD n 0) else 0 := by
  have hM := le_two_pow_nextpow2 (a.size + b.size - 1)
  simp only [xcorr]
  generalize 2 ^ nextpow2 (a.size + b.size - 1) = M at H hM ⊢
  have hs : M + 1 - a.size - b.size = M - (a.size + b.size - 1) := by omega
  have ht : ∀ j, j < a.size + b.size - 1 → M - 1 - j < M ∧ M - 1 - j + j + 1 = M := fun j hj => by omega
  obtain ⟨hzs, hz⟩ := H (a ++ Array.replicate (M - a.size) 0) (Array.replicate (M - b.size) 0 ++ b)
    (by rw [Array.size_append, Array.size_replicate]; omega) (by rw [Array.size_append, Array.size_replicate]; omega)
  generalize ((ifft (mulv 0 ((fft (a ++ Array.replicate (M - a.size) (0 : R))).map cj)
        (fft (Array.replicate (M - b.size) (0 : R) ++ b)))).map cj) = z at hzs hz ⊢
  have hK : a.size + b.size - 1 ≤ z.size := le_of_le_of_eq hM hzs.symm
  rw [hs, ← hzs]
  refine ⟨by rw [Array.size_reverse, size_extract_tail z _ hK], fun j hj => ?_⟩
  rw [getD_reverse_extract_tail z _ hK j 0 hj, hzs, hz _ (ht j hj).1]
  exact corr_zeropad cj hcj0 a b M j (M - 1 - j) (b.size - 1) (Nat.sub_add_cancel hb).symm (Nat.add_sub_assoc hb _ ▸ hM)
    (ht j hj).2

end xcorr


section fftfilter
variable [CommSemiring R]

/-- what `FftFilter` needs from the transform pair at length `L`: the circular convolution theorem
`ifft(fft a · fft b)[t] = Σ_n a[n]·b[(t-n) mod L]` -/
def CircConv (fft ifft : Array R → Array R) (L : ℕ) : Prop :=
  ∀ a b : Array R, a.size = L → b.size = L →
    (ifft (mulv 0 (fft a) (fft b))).size = L ∧
    ∀ t, t < L → (ifft (mulv 0 (fft a) (fft b))).getD t 0 = ∑ n ∈ range L, a.getD n 0 * b.getD ((t + L - n) % L) 0

/-- zero padding is invisible to `getD _ 0`, and so is conjugation of the padding as `conj 0 = 0` -/
theorem getD_zeropad_map (cj : R → R) (hcj0 : cj 0 = 0) (h : Array R) (L k : ℕ) :
    (zeropad 0 (h.map cj) L).getD k 0 = cj (h.getD k 0) := by
  unfold zeropad
  rw [getD_append_replicate, getD_map' _ _ _ _ _ hcj0]

/-- the defining sum, from rest, at absolute stream index `i`: `Σ_{k<m, k≤i} conj(h[k])·S(i-k)` -/
def specF (cj : R → R) (h : Array R) (S : ℕ → R) (i : ℕ) : R :=
  ∑ k ∈ range h.size, if k ≤ i then cj (h.getD k 0) * S (i - k) else 0

/-- one block: no wrap-around — the circular convolution of a block that is zero from `n` on with the `m` taps,
`L = n + m - 1`, is the linear convolution -/
theorem block_conv (cj : R → R) (hcj0 : cj 0 = 0) (fft ifft : Array R → Array R) (h : Array R) (L n : ℕ)
    (hL : L + 1 = n + h.size) (hn1 : 1 ≤ n) (H : CircConv fft ifft L)
    (xb : Array R) (hxs : xb.size = L) (hx0 : ∀ j, n ≤ j → xb.getD j 0 = 0) :
    (ifft (mulv 0 (fft xb) (fft (zeropad 0 (h.map cj) L)))).size = L ∧
    ∀ t, t < L → (ifft (mulv 0 (fft xb) (fft (zeropad 0 (h.map cj) L)))).getD t 0 = specF cj h (xb.getD · 0) t := by
  have hcs : (zeropad 0 (h.map cj) L).size = L := by
    rw [zeropad, Array.size_append, Array.size_map, Array.size_replicate]; omega
  obtain ⟨h1, h2⟩ := H xb _ hxs hcs
  refine ⟨h1, fun t ht => ?_⟩
  rw [h2 t ht]
  unfold specF
  refine (Finset.sum_congr rfl fun n' hn' => show _ = if n' ≤ t ∧ t - n' < h.size then
      cj (h.getD (t - n') 0) * xb.getD n' 0 else 0 from ?_).trans
    (sum_range_ite_bij (t - ·) (t - ·) (fun n' _ hp => ⟨hp.2, Nat.sub_le _ _, Nat.sub_sub_self hp.1, ?_⟩)
      fun k hk hq => ⟨lt_of_le_of_lt (Nat.sub_le _ _) ht, ⟨Nat.sub_le _ _, ?_⟩, Nat.sub_sub_self hq⟩)
  · -- term `n'` of the circular sum survives only without wrap-around (`n' ≤ t`) and inside the taps
    have hn := mem_range.mp hn'
    rw [getD_zeropad_map cj hcj0, mul_comm]
    by_cases hle : n' ≤ t
    · rw [Nat.add_comm t L, Nat.add_sub_assoc hle, Nat.add_mod_left, Nat.mod_eq_of_lt (lt_of_le_of_lt (Nat.sub_le _ _) ht)]
      by_cases hk : t - n' < h.size
      · rw [if_pos ⟨hle, hk⟩]
      · rw [if_neg fun c => hk c.2, getD_of_ge _ _ _ (not_lt.mp hk), hcj0, zero_mul]
    · rw [Nat.mod_eq_of_lt (by omega), if_neg fun c => hle c.1]
      by_cases hk : t + L - n' < h.size
      · rw [hx0 n' (by omega), mul_zero]
      · rw [getD_of_ge _ _ _ (not_lt.mp hk), hcj0, zero_mul]
  · -- `n' ↦ t - n'` turns the surviving terms into those of the defining sum, and back
    show _ = cj (h.getD (t - n') 0) * xb.getD (t - (t - n')) 0
    rw [Nat.sub_sub_self hp.1]
  · show t - (t - k) < h.size
    rw [Nat.sub_sub_self hq]; exact hk


/-- the part of output `base+i` that comes from samples before `base` (what `_olap[i]` must hold) -/
def tailF (cj : R → R) (h : Array R) (S : ℕ → R) (base i : ℕ) : R :=
  ∑ k ∈ range h.size, if i < k ∧ k ≤ base + i then cj (h.getD k 0) * S (base + i - k) else 0

theorem tailF_zero (cj : R → R) (h : Array R) (S : ℕ → R) (base i : ℕ) (hi : h.size - 1 ≤ i) :
    tailF cj h S base i = 0 :=
  Finset.sum_eq_zero fun k hk => if_neg fun c => by have := mem_range.mp hk; omega

/-- overlap-add: output `base + i` is the block's own contribution (the block `X` holds the stream from `base` on) plus
the tail left by the earlier blocks -/
theorem block_out (cj : R → R) (h : Array R) (S X : ℕ → R) (base i : ℕ) (hX : ∀ j, j ≤ i → X j = S (base + j)) :
    specF cj h X i + tailF cj h S base i = specF cj h S (base + i) := by
  unfold tailF specF
  rw [← Finset.sum_add_distrib]
  refine Finset.sum_congr rfl fun k _ => ?_
  by_cases h1 : k ≤ i
  · rw [if_pos h1, if_neg fun c => absurd h1 (not_le.mpr c.1), add_zero, if_pos (le_trans h1 (Nat.le_add_left _ _)),
      hX _ (Nat.sub_le _ _), Nat.add_sub_assoc h1]
  · rw [if_neg h1, zero_add]
    by_cases h2 : k ≤ base + i
    · rw [if_pos ⟨not_le.mp h1, h2⟩, if_pos h2]
    · rw [if_neg fun c => h2 c.2, if_neg h2]

/-- the part of the block's convolution beyond its `n` samples is the tail for the next block -/
theorem block_tail (cj : R → R) (h : Array R) (S X : ℕ → R) (base n i : ℕ) (hmn : h.size ≤ n)
    (hX : ∀ j, j < n → X j = S (base + j)) (hX0 : ∀ j, n ≤ j → X j = 0) :
    specF cj h X (i + n) = tailF cj h S (base + n) i := by
  unfold tailF specF
  refine Finset.sum_congr rfl fun k hk => ?_
  have hk' := mem_range.mp hk
  rw [if_pos (by omega)]
  by_cases h1 : i < k
  · rw [if_pos ⟨h1, by omega⟩, hX _ (by omega)]
    congr 2; omega
  · rw [if_neg fun c => h1 c.1, hX0 _ (by omega), mul_zero]

/-- invariant of the sample loop of `FftFilter::process` after `len` samples of the stream `S`; `out` is what the
current call has emitted so far, `off` what earlier calls emitted -/
def FInv (cj : R → R) (fft : Array R → Array R) (h : Array R) (L n : ℕ) (S : ℕ → R) (len off : ℕ)
    (s : FftState R) (out : Array R) : Prop :=
  s.m = h.size ∧ s.n = n ∧ s.H = fft (zeropad 0 (h.map cj) L) ∧ s.x.size = L ∧ (∀ j, n ≤ j → s.x.getD j 0 = 0) ∧ s.nx < n ∧
  ∃ q, len = q * n + s.nx ∧ off + out.size = q * n ∧ (∀ i, i < out.size → out.getD i 0 = specF cj h S (off + i)) ∧
    (∀ j, j < s.nx → s.x.getD j 0 = S (q * n + j)) ∧ (∀ i, i < h.size - 1 → s.olap.getD i 0 = tailF cj h S (q * n) i)

/-- the sample completes a block: transform, emit `_n` samples, keep the tail -/
theorem fftStep_block (fft ifft : Array R → Array R) (s : FftState R) (out : Array R) (v : R) (hw : s.nx + 1 = s.n) :
    fftStep 0 fft ifft (s, out) v =
      ({ s with x := s.x.setIfInBounds s.nx v, nx := 0,
                olap := fftTail 0 s.n s.m (ifft (mulv 0 (fft (s.x.setIfInBounds s.nx v)) s.H)) },
        out ++ fftBlock 0 s.n s.m (ifft (mulv 0 (fft (s.x.setIfInBounds s.nx v)) s.H)) s.olap) :=
  if_pos hw

theorem fftStep_fill (fft ifft : Array R → Array R) (s : FftState R) (out : Array R) (v : R) (hw : s.nx + 1 ≠ s.n) :
    fftStep 0 fft ifft (s, out) v = ({ s with x := s.x.setIfInBounds s.nx v, nx := s.nx + 1 }, out) :=
  if_neg hw

theorem fft_step_inv (cj : R → R) (hcj0 : cj 0 = 0) (fft ifft : Array R → Array R) (h : Array R) (L n : ℕ)
    (hL : L + 1 = n + h.size) (hm : 1 ≤ h.size) (hnm : h.size ≤ n) (H : CircConv fft ifft L)
    (S : ℕ → R) (len off : ℕ) (s : FftState R) (out : Array R) (v : R) (hv : v = S len)
    (hinv : FInv cj fft h L n S len off s out) :
    FInv cj fft h L n S (len + 1) off (fftStep 0 fft ifft (s, out) v).1 (fftStep 0 fft ifft (s, out) v).2 := by
  have hLn : ∀ i, i < h.size - 1 → i + n < L := fun i hi => by omega
  have hnL : n ≤ L := by omega
  obtain ⟨im, inn, iH, ixs, ix0, inx, q, ilen, ioff, iout, icell, itail⟩ := hinv
  have hset : ∀ j, (s.x.setIfInBounds s.nx v).getD j 0 = if j = s.nx then v else s.x.getD j 0 :=
    fun j => getD_setIfInBounds_lt _ _ _ _ _ (ixs ▸ lt_of_lt_of_le inx hnL)
  have hxs : (s.x.setIfInBounds s.nx v).size = L := by rw [Array.size_setIfInBounds, ixs]
  have hx0 : ∀ j, n ≤ j → (s.x.setIfInBounds s.nx v).getD j 0 = 0 := fun j hj => by
    rw [hset, if_neg (ne_of_gt (lt_of_lt_of_le inx hj))]; exact ix0 j hj
  have hcell : ∀ j, j < s.nx + 1 → (s.x.setIfInBounds s.nx v).getD j 0 = S (q * n + j) := fun j hj => by
    rw [hset]
    by_cases e : j = s.nx
    · rw [if_pos e, hv, ilen, e]
    · rw [if_neg e]; exact icell j (lt_of_le_of_ne (Nat.le_of_lt_succ hj) e)
  by_cases hw : s.nx + 1 = s.n
  · -- a block is complete
    rw [fftStep_block fft ifft s out v hw, im, inn]
    rw [inn] at hw
    rw [hw] at hcell
    obtain ⟨-, hry⟩ := block_conv cj hcj0 fft ifft h L n hL (le_trans hm hnm) H _ hxs hx0
    rw [← iH] at hry
    generalize ifft (mulv 0 (fft (s.x.setIfInBounds s.nx v)) s.H) = ry at hry ⊢
    generalize s.x.setIfInBounds s.nx v = xb at hxs hx0 hcell hry ⊢
    have hbs : (fftBlock 0 n h.size ry s.olap).size = n := Array.size_ofFn
    have hlen : len + 1 = (q + 1) * n + 0 := by rw [Nat.succ_mul]; omega
    have hoff : off + (out ++ fftBlock 0 n h.size ry s.olap).size = (q + 1) * n := by
      rw [Array.size_append, hbs, Nat.succ_mul]; omega
    refine ⟨rfl, rfl, iH, hxs, hx0, lt_of_lt_of_le hm hnm, q + 1, hlen, hoff, fun i hi => ?_,
      fun j hj => absurd hj (Nat.not_lt_zero j), fun i hi => ?_⟩
    · show (out ++ fftBlock 0 n h.size ry s.olap).getD i 0 = _
      rw [getD_append]
      by_cases hio : i < out.size
      · rw [if_pos hio]; exact iout i hio
      · rw [Array.size_append, hbs] at hi
        obtain ⟨i', rfl⟩ : ∃ i', i = out.size + i' := ⟨i - out.size, (Nat.add_sub_cancel' (not_lt.mp hio)).symm⟩
        have hi' : i' < n := Nat.lt_of_add_lt_add_left hi
        rw [if_neg hio, Nat.add_sub_cancel_left, ← Nat.add_assoc, ioff,
          ← block_out cj h S (xb.getD · 0) (q * n) i' fun j hj => hcell j (lt_of_le_of_lt hj hi'),
          ← hry i' (lt_of_lt_of_le hi' hnL), fftBlock, getD_ofFn, dif_pos hi']
        by_cases hlt : i' < h.size - 1
        · rw [if_pos hlt, itail i' hlt]
        · rw [if_neg hlt, tailF_zero _ _ _ _ _ (not_lt.mp hlt), add_zero]
    · show (fftTail 0 n h.size ry).getD i 0 = _
      rw [fftTail, getD_ofFn, dif_pos hi, hry _ (hLn i hi), Nat.succ_mul]
      exact block_tail cj h S (xb.getD · 0) (q * n) n i hnm hcell hx0
  · rw [fftStep_fill fft ifft s out v hw]
    exact ⟨im, inn, iH, hxs, hx0, lt_of_le_of_ne inx fun e => hw (e.trans inn.symm), q, by rw [ilen]; rfl,
      ioff, iout, hcell, itail⟩


/-- `fft_len = 2^nextpow2(2m)` leaves blocks of `_n = fft_len + 1 - m ≥ m` samples -/
theorem fftLen_spec (m : ℕ) :
    2 ^ nextpow2 (2 * m) + 1 = 2 ^ nextpow2 (2 * m) + 1 - m + m ∧ m ≤ 2 ^ nextpow2 (2 * m) + 1 - m := by
  have := le_two_pow_nextpow2 (2 * m)
  omega

theorem fft_init_inv (cj : R → R) (fft : Array R → Array R) (h : Array R) (hm : 1 ≤ h.size) (S : ℕ → R) :
    FInv cj fft h (2 ^ nextpow2 (2 * h.size)) (2 ^ nextpow2 (2 * h.size) + 1 - h.size) S 0 0 (fftInit 0 cj fft h) #[] := by
  refine ⟨rfl, rfl, rfl, Array.size_replicate, fun j _ => ?_, lt_of_lt_of_le hm (fftLen_spec _).2, 0,
    (Nat.zero_mul _).symm, (Nat.zero_mul _).symm, fun i hi => absurd hi (Nat.not_lt_zero i),
    fun j hj => absurd hj (Nat.not_lt_zero j), fun i _ => ?_⟩
  · show (Array.replicate _ (0 : R)).getD j 0 = 0
    rw [getD_replicate]
  · show (Array.replicate _ (0 : R)).getD i 0 = _
    rw [getD_replicate]
    exact (Finset.sum_eq_zero fun k _ => if_neg fun c => absurd c.2 (by rw [Nat.zero_mul, Nat.zero_add]; exact not_le.mpr c.1)).symm

/-- one call on the next frame of the stream `S`: it emits the defining sums up to the last complete block and hands the
invariant on (the output array goes to the caller: the next call starts with an empty one) -/
theorem fft_call (cj : R → R) (hcj0 : cj 0 = 0) (fft ifft : Array R → Array R) (h : Array R) (L n : ℕ)
    (hL : L + 1 = n + h.size) (hm : 1 ≤ h.size) (hnm : h.size ≤ n) (H : CircConv fft ifft L)
    (S : ℕ → R) (len off : ℕ) (s : FftState R) (xs : Array R) (hxs : ∀ i, i < xs.size → xs.getD i 0 = S (len + i))
    (hinv : FInv cj fft h L n S len off s #[]) :
    (off + (fftProcess 0 fft ifft s xs).2.size = (len + xs.size) / n * n ∧
      ∀ i, i < (fftProcess 0 fft ifft s xs).2.size → (fftProcess 0 fft ifft s xs).2.getD i 0 = specF cj h S (off + i)) ∧
    FInv cj fft h L n S (len + xs.size) (off + (fftProcess 0 fft ifft s xs).2.size) (fftProcess 0 fft ifft s xs).1 #[] := by
  obtain ⟨im, inn, iH, ixs, ix0, inx, q, ilen, ioff, iout, icell, itail⟩ :
      FInv cj fft h L n S (len + xs.size) off (fftProcess 0 fft ifft s xs).1 (fftProcess 0 fft ifft s xs).2 :=
    foldl_getD_induction 0 xs _ _ (fun i (so : FftState R × Array R) => FInv cj fft h L n S (len + i) off so.1 so.2) hinv
      fun i hi so hso => fft_step_inv cj hcj0 fft ifft h L n hL hm hnm H S (len + i) off so.1 so.2 _ (hxs i hi) hso
  have hq : (len + xs.size) / n = q :=
    Nat.div_eq_of_lt_le (ilen ▸ Nat.le_add_right _ _) (by rw [ilen, Nat.succ_mul]; exact Nat.add_lt_add_left inx _)
  exact ⟨⟨by rw [hq]; exact ioff, iout⟩, im, inn, iH, ixs, ix0, inx, q, ilen, ioff,
    fun i hi => absurd hi (Nat.not_lt_zero i), icell, itail⟩

/-- **T07.2** Started from rest, for every tap vector (`m ≥ 1`) and every input: `FftFilter::process` emits
`⌊len/_n⌋·_n` samples, and sample `i` is the defining sum `Σ_{k<m, k≤i} conj(h[k])·x[i-k]`
— PROVIDED the transform pair satisfies the circular convolution theorem at `fft_len`. -/
theorem fftfilter_eq_sum (cj : R → R) (hcj0 : cj 0 = 0) (fft ifft : Array R → Array R) (h : Array R) (hm : 1 ≤ h.size)
    (H : CircConv fft ifft (2 ^ nextpow2 (2 * h.size))) (xs : Array R) :
    (fftProcess 0 fft ifft (fftInit 0 cj fft h) xs).2.size = xs.size / (fftInit 0 cj fft h).n * (fftInit 0 cj fft h).n ∧
    ∀ i, i < (fftProcess 0 fft ifft (fftInit 0 cj fft h) xs).2.size →
      (fftProcess 0 fft ifft (fftInit 0 cj fft h) xs).2.getD i 0 =
        ∑ k ∈ range h.size, if k ≤ i then cj (h.getD k 0) * xs.getD (i - k) 0 else 0 := by
  obtain ⟨⟨h2, h3⟩, -⟩ := fft_call cj hcj0 fft ifft h _ _ (fftLen_spec _).1 hm (fftLen_spec _).2 H (fun i => xs.getD i 0) 0 0 _ xs
    (fun i _ => by rw [Nat.zero_add]) (fft_init_inv cj fft h hm _)
  simp only [Nat.zero_add] at h2 h3
  exact ⟨h2, h3⟩

end fftfilter

/-! ## Consequences and the real / complex instantiations of the models -/
section inst

/-- **T07.2 (same sequence as the direct filter).** Under the same hypothesis, every sample `FftFilter` emits equals the
sample `FirFilter` produces at the same position of the same input. -/
theorem fftfilter_eq_fir [CommSemiring R] (cj : R → R) (hcj0 : cj 0 = 0) (fft ifft : Array R → Array R) (h : Array R)
    (hm : 1 ≤ h.size) (H : CircConv fft ifft (2 ^ nextpow2 (2 * h.size))) (xs : Array R) :
    (fftProcess 0 fft ifft (fftInit 0 cj fft h) xs).2.size ≤ xs.size ∧
    ∀ i, i < (fftProcess 0 fft ifft (fftInit 0 cj fft h) xs).2.size →
      (fftProcess 0 fft ifft (fftInit 0 cj fft h) xs).2.getD i 0 = (process 0 cj (init 0 h) xs).2.getD i 0 := by
  obtain ⟨h1, h2⟩ := fftfilter_eq_sum cj hcj0 fft ifft h hm H xs
  obtain ⟨_, h4⟩ := fir_eq cj h xs hm
  have hle : (fftProcess 0 fft ifft (fftInit 0 cj fft h) xs).2.size ≤ xs.size := by
    rw [h1]; exact Nat.div_mul_le_self _ _
  exact ⟨hle, fun i hi => by rw [h2 i hi, h4 i (by omega)]⟩

/-- **T07.2 (state hand-over).**  Two consecutive `process` calls on one `FftFilter` (from rest; frames `xs` then `ys` of ANY
lengths, so blocks straddle the call boundary): together they emit `⌊(len xs + len ys)/_n⌋·_n` samples, and sample `i` of the
SECOND call is the sample `FirFilter` produces at position `(number emitted by the first call) + i` of the concatenated
input — `_x`, `_nx`, `_olap` lose nothing. -/
theorem fftfilter_two_calls [CommSemiring R] (cj : R → R) (hcj0 : cj 0 = 0) (fft ifft : Array R → Array R) (h : Array R)
    (hm : 1 ≤ h.size) (H : CircConv fft ifft (2 ^ nextpow2 (2 * h.size))) (xs ys : Array R) :
    (fftProcess 0 fft ifft (fftInit 0 cj fft h) xs).2.size +
      (fftProcess 0 fft ifft (fftProcess 0 fft ifft (fftInit 0 cj fft h) xs).1 ys).2.size =
      (xs.size + ys.size) / (2 ^ nextpow2 (2 * h.size) + 1 - h.size) * (2 ^ nextpow2 (2 * h.size) + 1 - h.size) ∧
    ∀ i, i < (fftProcess 0 fft ifft (fftProcess 0 fft ifft (fftInit 0 cj fft h) xs).1 ys).2.size →
      (fftProcess 0 fft ifft (fftProcess 0 fft ifft (fftInit 0 cj fft h) xs).1 ys).2.getD i 0 =
        (process 0 cj (init 0 h) (xs ++ ys)).2.getD ((fftProcess 0 fft ifft (fftInit 0 cj fft h) xs).2.size + i) 0 := by
  have call := fft_call cj hcj0 fft ifft h _ _ (fftLen_spec _).1 hm (fftLen_spec _).2 H fun i => (xs ++ ys).getD i 0
  obtain ⟨-, h1⟩ := call 0 0 _ xs
    (fun i hi => by show _ = (xs ++ ys).getD (0 + i) 0; rw [getD_append, Nat.zero_add, if_pos hi])
    (fft_init_inv cj fft h hm _)
  obtain ⟨⟨e1, e2⟩, -⟩ := call _ _ _ ys
    (fun i hi => by
      show _ = (xs ++ ys).getD (0 + xs.size + i) 0
      rw [getD_append, Nat.zero_add, if_neg (Nat.not_lt.mpr (Nat.le_add_right _ _)), Nat.add_sub_cancel_left])
    h1
  rw [Nat.zero_add] at e1 e2
  refine ⟨by rw [e1, Nat.zero_add], fun i hi => ?_⟩
  have hle : (fftProcess 0 fft ifft (fftInit 0 cj fft h) xs).2.size + i < (xs ++ ys).size := by
    have := Nat.div_mul_le_self (0 + xs.size + ys.size) (2 ^ nextpow2 (2 * h.size) + 1 - h.size)
    rw [Array.size_append]
    omega
  rw [e2 i hi, (fir_eq cj h (xs ++ ys) hm).2 _ hle]
  rfl

theorem conj_zero : Cx.conj (0 : Cx ℝ) = 0 := by apply Cx.ext' <;> simp [Cx.conj]

/-- **T07.1, `FirFilter<real_t>`** (model `firProcessR` at `ℝ`): `y[i] = Σ_{k≤i} h[k]·x[i-k]`. -/
theorem fir_eq_real (h x : Array ℝ) (hh : 1 ≤ h.size) :
    (firProcessR (firInitR h) x).2.size = x.size ∧
    ∀ i, i < x.size → (firProcessR (firInitR h) x).2.getD i 0 =
      ∑ k ∈ range h.size, if k ≤ i then h.getD k 0 * x.getD (i - k) 0 else 0 := by
  unfold firProcessR firInitR
  rw [Cx.zeroR_eq]
  exact fir_eq id h x hh

/-- **T07.1, `FirFilter<cmplx_t>`** (model `firProcessC` at `Cx ℝ`, read in `ℂ` through `toC`):
`y[i] = Σ_{k≤i} conj(h[k])·x[i-k]` — the coefficients enter conjugated, the library's convention. -/
theorem fir_eq_cmplx (h x : Array (Cx ℝ)) (hh : 1 ≤ h.size) :
    (firProcessC (firInitC h) x).2.size = x.size ∧
    ∀ i, i < x.size → Cx.toC ((firProcessC (firInitC h) x).2.getD i 0) =
      ∑ k ∈ range h.size, if k ≤ i then (starRingEnd ℂ) (Cx.toC (h.getD k 0)) * Cx.toC (x.getD (i - k) 0) else 0 := by
  unfold firProcessC firInitC
  rw [Cx.zeroC_eq]
  obtain ⟨h1, h2⟩ := fir_eq Cx.conj h x hh
  refine ⟨h1, fun i hi => ?_⟩
  rw [h2 i hi, ← Cx.toCHom_apply, map_sum]
  refine Finset.sum_congr rfl fun k _ => ?_
  rw [apply_ite Cx.toCHom, map_zero, Cx.toCHom_apply, Cx.toC_mul, Cx.toC_conj]

/-- **T07.4** in any commutative ring in which `T / int` is the multiplication by a tap `c` that is its own conjugate:
the moving average is the FIR filter with `n` taps `c`. -/
theorem ma_eq_fir [CommRing R] (cj : R → R) (divn : R → ℕ → R) (n : ℕ) (hn : 1 ≤ n) (c : R) (hc : cj c = c)
    (hdiv : ∀ a, divn a n = c * a) (xs : Array R) :
    (maProcess 0 divn (maInit 0 n) xs).2 = (process 0 cj (init 0 (Array.replicate n c)) xs).2 := by
  obtain ⟨f1, f2⟩ := fir_eq cj (Array.replicate n c) xs (by rw [Array.size_replicate]; exact hn)
  obtain ⟨m1, m2⟩ := ma_eq_window divn n hn xs
  apply ext_getD 0 _ _ (by rw [m1, f1])
  intro t ht
  rw [m1] at ht
  rw [m2 t ht, f2 t ht, Array.size_replicate, hdiv, Finset.mul_sum]
  refine Finset.sum_congr rfl fun k hk => ?_
  rw [getD_replicate', if_pos (mem_range.mp hk), hc, mul_ite, mul_zero]

/-- **T07.4, `MAFilter<real_t>`**: for every `n ≥ 1` and every input, the moving-average filter started from rest
produces exactly the output of `FirFilter` with `n` equal taps `1/n` (`n ≥ 1` is the explicit division hypothesis). -/
theorem ma_eq_fir_real (n : ℕ) (hn : 1 ≤ n) (xs : Array ℝ) :
    (maProcessR (maInitR n) xs).2 = (firProcessR (firInitR (Array.replicate n (1 / (n : ℝ)))) xs).2 := by
  unfold maProcessR maInitR firProcessR firInitR
  rw [Cx.zeroR_eq]
  exact ma_eq_fir id divnR n hn _ rfl (fun a => by
    show a / ((n : ℕ) : ℝ) = _
    rw [div_eq_mul_inv, one_div, mul_comm]) xs

theorem divnC_eq_mul (a : Cx ℝ) (n : ℕ) : divnC a n = (⟨1 / (n : ℝ), 0⟩ : Cx ℝ) * a := by
  apply Cx.ext' <;> simp [divnC, Cx.divr] <;> ring

/-- **T07.4, `MAFilter<cmplx_t>`**: the same with the real taps `1/n` embedded in `cmplx_t`. -/
theorem ma_eq_fir_cmplx (n : ℕ) (hn : 1 ≤ n) (xs : Array (Cx ℝ)) :
    (maProcessC (maInitC n) xs).2 = (firProcessC (firInitC (Array.replicate n (⟨1 / (n : ℝ), 0⟩ : Cx ℝ))) xs).2 := by
  unfold maProcessC maInitC firProcessC firInitC
  rw [Cx.zeroC_eq]
  exact ma_eq_fir Cx.conj divnC n hn _ (by apply Cx.ext' <;> simp [Cx.conj]) (fun a => divnC_eq_mul a n) xs

/-- **T07.3, `xcorr(arr_cmplx, arr_cmplx)`** (model `xcorrC` at `Cx ℝ`, read in `ℂ`): output `j` is
`Σ_n a[n+lag]·conj(b[n])` with `lag = j-(len b-1)`, for every lag `-(len b-1) … len a-1`. -/
theorem xcorr_eq_cmplx (fft ifft : Array (Cx ℝ) → Array (Cx ℝ)) (a b : Array (Cx ℝ)) (ha : 1 ≤ a.size) (hb : 1 ≤ b.size)
    (H : CircCorr Cx.conj fft ifft (2 ^ nextpow2 (a.size + b.size - 1))) :
    (xcorrC fft ifft a b).size = a.size + b.size - 1 ∧
    ∀ j, j < a.size + b.size - 1 → Cx.toC ((xcorrC fft ifft a b).getD j 0) =
      ∑ n ∈ range b.size,
        if b.size - 1 ≤ j + n ∧ j + n - (b.size - 1) < a.size then
          Cx.toC (a.getD (j + n - (b.size - 1)) 0) * (starRingEnd ℂ) (Cx.toC (b.getD n 0)) else 0 := by
  unfold xcorrC
  rw [Cx.zeroC_eq]
  obtain ⟨h1, h2⟩ := xcorr_eq Cx.conj conj_zero fft ifft a b ha hb H
  refine ⟨h1, fun j hj => ?_⟩
  rw [h2 j hj, ← Cx.toCHom_apply, map_sum]
  refine Finset.sum_congr rfl fun k _ => ?_
  rw [apply_ite Cx.toCHom, map_zero, Cx.toCHom_apply, Cx.toC_mul, Cx.toC_conj]

/-- **T07.2, `FftFilter(arr_cmplx)`** (model `fftInitC` / `fftProcessC` at `Cx ℝ`): the emitted samples are those of
`FirFilter<cmplx_t>` on the same input, `⌊len/_n⌋·_n` of them. -/
theorem fftfilter_eq_fir_cmplx (fft ifft : Array (Cx ℝ) → Array (Cx ℝ)) (h : Array (Cx ℝ)) (hm : 1 ≤ h.size)
    (H : CircConv fft ifft (2 ^ nextpow2 (2 * h.size))) (xs : Array (Cx ℝ)) :
    (fftProcessC fft ifft (fftInitC fft h) xs).2.size = xs.size / (fftInitC fft h).n * (fftInitC fft h).n ∧
    ∀ i, i < (fftProcessC fft ifft (fftInitC fft h) xs).2.size →
      (fftProcessC fft ifft (fftInitC fft h) xs).2.getD i 0 = (firProcessC (firInitC h) xs).2.getD i 0 := by
  unfold fftProcessC fftInitC firProcessC firInitC
  rw [Cx.zeroC_eq]
  exact ⟨(fftfilter_eq_sum Cx.conj conj_zero fft ifft h hm H xs).1,
    (fftfilter_eq_fir Cx.conj conj_zero fft ifft h hm H xs).2⟩

/-! ### the real entry points of the FFT based kernels (`real(process(complex(x)))`, `real(xcorr(complex(a), complex(b)))`) -/

def reHom : Cx ℝ →+ ℝ where
  toFun := Cx.re
  map_zero' := rfl
  map_add' := Cx.add_re

theorem getD_ofRealV (x : Array ℝ) (i : ℕ) : (ofRealV x).getD i 0 = (⟨x.getD i 0, 0⟩ : Cx ℝ) := by
  unfold ofRealV
  rw [getD_map' _ _ _ (0 : ℝ) (0 : Cx ℝ) (by apply Cx.ext' <;> simp)]
  apply Cx.ext' <;> simp

theorem getD_reV (y : Array (Cx ℝ)) (i : ℕ) : (reV y).getD i 0 = (y.getD i 0).re := by
  unfold reV
  rw [getD_map' _ _ _ (0 : Cx ℝ) (0 : ℝ) rfl]

theorem size_ofRealV (x : Array ℝ) : (ofRealV x).size = x.size := Array.size_map

theorem size_reV (y : Array (Cx ℝ)) : (reV y).size = y.size := Array.size_map

theorem re_mul_conj_ofReal (u v : ℝ) : ((⟨u, 0⟩ : Cx ℝ) * Cx.conj ⟨v, 0⟩).re = u * v := by simp [Cx.conj]

/-- **T07.2, `FftFilter(arr_real)` / `process(arr_real)`**: emits `⌊len/_n⌋·_n` samples, each equal to the sample of
`FirFilter<real_t>` at the same position. -/
theorem fftfilter_eq_fir_real (fft ifft : Array (Cx ℝ) → Array (Cx ℝ)) (h : Array ℝ) (hm : 1 ≤ h.size)
    (H : CircConv fft ifft (2 ^ nextpow2 (2 * h.size))) (xs : Array ℝ) :
    (fftProcessR fft ifft (fftInitR fft h) xs).2.size = xs.size / (fftInitR fft h).n * (fftInitR fft h).n ∧
    ∀ i, i < (fftProcessR fft ifft (fftInitR fft h) xs).2.size →
      (fftProcessR fft ifft (fftInitR fft h) xs).2.getD i 0 = (firProcessR (firInitR h) xs).2.getD i 0 := by
  have hsz := size_ofRealV h
  have hxz := size_ofRealV xs
  obtain ⟨c1, c2⟩ := fftfilter_eq_sum Cx.conj conj_zero fft ifft (ofRealV h) (hsz.symm ▸ hm) (hsz.symm ▸ H) (ofRealV xs)
  obtain ⟨_, f2⟩ := fir_eq_real h xs hm
  unfold fftProcessR fftInitR fftProcessC fftInitC
  rw [Cx.zeroC_eq]
  have hs := size_reV (fftProcess 0 fft ifft (fftInit 0 Cx.conj fft (ofRealV h)) (ofRealV xs)).2
  refine ⟨by rw [hs, c1, hxz], fun i hi => ?_⟩
  rw [hs] at hi
  have hle : i < xs.size := by
    have := Nat.div_mul_le_self (ofRealV xs).size (fftInit 0 Cx.conj fft (ofRealV h)).n
    omega
  show (reV _).getD i 0 = _
  rw [getD_reV, c2 i hi, f2 i hle, hsz]
  show reHom _ = _
  rw [map_sum]
  refine Finset.sum_congr rfl fun k _ => ?_
  rw [apply_ite reHom, map_zero, getD_ofRealV, getD_ofRealV]
  exact if_congr Iff.rfl (by rw [mul_comm]; exact (re_mul_conj_ofReal _ _).trans (mul_comm _ _)) rfl

/-- **T07.3, `xcorr(arr_real, arr_real)`**: output `j` is `Σ_n a[n+lag]·b[n]`, `lag = j-(len b-1)`. -/
theorem xcorr_eq_real (fft ifft : Array (Cx ℝ) → Array (Cx ℝ)) (a b : Array ℝ) (ha : 1 ≤ a.size) (hb : 1 ≤ b.size)
    (H : CircCorr Cx.conj fft ifft (2 ^ nextpow2 (a.size + b.size - 1))) :
    (xcorrR fft ifft a b).size = a.size + b.size - 1 ∧
    ∀ j, j < a.size + b.size - 1 → (xcorrR fft ifft a b).getD j 0 =
      ∑ n ∈ range b.size,
        if b.size - 1 ≤ j + n ∧ j + n - (b.size - 1) < a.size then a.getD (j + n - (b.size - 1)) 0 * b.getD n 0 else 0 := by
  have hsa := size_ofRealV a
  have hsb := size_ofRealV b
  obtain ⟨c1, c2⟩ := xcorr_eq Cx.conj conj_zero fft ifft (ofRealV a) (ofRealV b) (hsa.symm ▸ ha) (hsb.symm ▸ hb)
    (hsa.symm ▸ hsb.symm ▸ H)
  unfold xcorrR xcorrC
  rw [Cx.zeroC_eq]
  rw [hsa, hsb] at c1 c2
  refine ⟨(size_reV _).trans c1, fun j hj => ?_⟩
  rw [getD_reV, c2 j hj]
  show reHom _ = _
  rw [map_sum]
  refine Finset.sum_congr rfl fun n _ => ?_
  rw [apply_ite reHom, map_zero, getD_ofRealV, getD_ofRealV]
  exact if_congr Iff.rfl (re_mul_conj_ofReal _ _) rfl

end inst

/-! ## The hypotheses `CircConv` / `CircCorr` hold for every pair that is the DFT and its inverse through an embedding into `ℂ`

so T07.2 / T07.3 are unconditional for the scalar-generic models run at `ℂ` with the exact DFT pair (`Lib/Dft.lean`,
`Lib/C07Dft.lean`); that the library's transforms compute these is C01/C02. -/
section dft

noncomputable def dftArr (a : Array ℂ) : Array ℂ :=
  Array.ofFn (n := a.size) fun k => dft a.size (fun m => a.getD m 0) k.val
noncomputable def idftArr (A : Array ℂ) : Array ℂ :=
  Array.ofFn (n := A.size) fun t => idft A.size (fun k => A.getD k 0) t.val

theorem getD_mulv [Zero R] [Mul R] (A B : Array R) (k : ℕ) (hk : k < A.size) :
    (mulv 0 A B).getD k 0 = A.getD k 0 * B.getD k 0 := by
  rw [mulv, getD_ofFn, dif_pos hk]

section embedded
variable [CommSemiring R] (φ : R →+* ℂ) (hφ : Function.Injective φ) (fft ifft : Array R → Array R) (L : ℕ) (hL : 0 < L)
  (hf : ∀ a : Array R, a.size = L →
    (fft a).size = L ∧ ∀ k, k < L → φ ((fft a).getD k 0) = dft L (fun m => φ (a.getD m 0)) k)
  (hi : ∀ X : Array R, X.size = L →
    (ifft X).size = L ∧ ∀ t, t < L → φ ((ifft X).getD t 0) = idft L (fun k => φ (X.getD k 0)) t)
include hφ hL hf hi

/-- a transform pair that reads as the DFT and its inverse through an embedding `φ` into `ℂ` satisfies the circular
convolution theorem -/
theorem circConv_of_dft : CircConv fft ifft L := by
  intro a b ha hb
  obtain ⟨fa, ga⟩ := hf a ha
  obtain ⟨-, gb⟩ := hf b hb
  obtain ⟨si, gi⟩ := hi (mulv 0 (fft a) (fft b)) (by rw [mulv, Array.size_ofFn, fa])
  refine ⟨si, fun t ht => hφ ?_⟩
  rw [gi t ht, idft_congr L _ (fun k => dft L (fun m => φ (a.getD m 0)) k * dft L (fun m => φ (b.getD m 0)) k) ?_ t,
    circ_conv_dft L hL _ _ t ht, map_sum]
  · exact Finset.sum_congr rfl fun n _ => (map_mul φ _ _).symm
  · intro k hk
    rw [getD_mulv _ _ _ (fa ▸ hk), map_mul, ga k hk, gb k hk]

/-- … and, for a `conj` that `φ` takes to the complex conjugation, the circular correlation theorem -/
theorem circCorr_of_dft (cj : R → R) (hcj : ∀ x, φ (cj x) = (starRingEnd ℂ) (φ x)) : CircCorr cj fft ifft L := by
  have hcj0 : cj 0 = 0 := hφ (by rw [hcj, map_zero, map_zero])
  intro a b ha hb
  obtain ⟨fa, ga⟩ := hf a ha
  obtain ⟨-, gb⟩ := hf b hb
  obtain ⟨si, gi⟩ := hi (mulv 0 ((fft a).map cj) (fft b)) (by rw [mulv, Array.size_ofFn, Array.size_map, fa])
  refine ⟨by rw [Array.size_map, si], fun t ht => hφ ?_⟩
  rw [getD_map' _ _ _ _ _ hcj0, hcj, gi t ht,
    idft_congr L _
      (fun k => (starRingEnd ℂ) (dft L (fun m => φ (a.getD m 0)) k) * dft L (fun m => φ (b.getD m 0)) k) ?_ t,
    circ_corr_dft L hL _ _ t ht, map_sum]
  · exact Finset.sum_congr rfl fun n _ => by rw [map_mul, hcj]
  · intro k hk
    rw [getD_mulv _ _ _ (by rw [Array.size_map, fa]; exact hk), map_mul, getD_map' _ _ _ _ _ hcj0, hcj, ga k hk, gb k hk]

end embedded

theorem dftArr_spec (L : ℕ) (a : Array ℂ) (ha : a.size = L) :
    (dftArr a).size = L ∧ ∀ k, k < L → (dftArr a).getD k 0 = dft L (fun m => a.getD m 0) k := by
  subst ha
  exact ⟨Array.size_ofFn, fun k hk => by rw [dftArr, getD_ofFn, dif_pos hk]⟩

theorem idftArr_spec (L : ℕ) (A : Array ℂ) (hA : A.size = L) :
    (idftArr A).size = L ∧ ∀ t, t < L → (idftArr A).getD t 0 = idft L (fun k => A.getD k 0) t := by
  subst hA
  exact ⟨Array.size_ofFn, fun t ht => by rw [idftArr, getD_ofFn, dif_pos ht]⟩

theorem circConv_dft (L : ℕ) (hL : 0 < L) : CircConv dftArr idftArr L :=
  circConv_of_dft (RingHom.id ℂ) Function.injective_id _ _ L hL (dftArr_spec L) (idftArr_spec L)

theorem circCorr_dft (M : ℕ) (hM : 0 < M) : CircCorr (starRingEnd ℂ) dftArr idftArr M :=
  circCorr_of_dft (RingHom.id ℂ) Function.injective_id _ _ M hM (dftArr_spec M) (idftArr_spec M) _ fun _ => rfl

/-- **T07.2, unconditional at `ℂ`.** With the exact DFT pair, the overlap-add filter emits `⌊len/_n⌋·_n` samples and
each equals the direct filter's sample `Σ_{k≤i} conj(h[k])·x[i-k]` — every tap count `m ≥ 1`, every input. -/
theorem fftfilter_eq_fir_dft (h xs : Array ℂ) (hm : 1 ≤ h.size) :
    (fftProcess 0 dftArr idftArr (fftInit 0 (starRingEnd ℂ) dftArr h) xs).2.size =
      xs.size / (fftInit 0 (starRingEnd ℂ) dftArr h).n * (fftInit 0 (starRingEnd ℂ) dftArr h).n ∧
    ∀ i, i < (fftProcess 0 dftArr idftArr (fftInit 0 (starRingEnd ℂ) dftArr h) xs).2.size →
      (fftProcess 0 dftArr idftArr (fftInit 0 (starRingEnd ℂ) dftArr h) xs).2.getD i 0 =
        (process 0 (starRingEnd ℂ) (init 0 h) xs).2.getD i 0 ∧
      (fftProcess 0 dftArr idftArr (fftInit 0 (starRingEnd ℂ) dftArr h) xs).2.getD i 0 =
        ∑ k ∈ range h.size, if k ≤ i then (starRingEnd ℂ) (h.getD k 0) * xs.getD (i - k) 0 else 0 := by
  have H := circConv_dft (2 ^ nextpow2 (2 * h.size)) (Nat.two_pow_pos _)
  obtain ⟨h1, h2⟩ := fftfilter_eq_sum (starRingEnd ℂ) (map_zero _) dftArr idftArr h hm H xs
  obtain ⟨_, h3⟩ := fftfilter_eq_fir (starRingEnd ℂ) (map_zero _) dftArr idftArr h hm H xs
  exact ⟨h1, fun i hi => ⟨h3 i hi, h2 i hi⟩⟩

/-- **T07.3, unconditional at `ℂ`.** With the exact DFT pair, `xcorr(a,b)[j] = Σ_n a[n+lag]·conj(b[n])`, `lag = j-(len b-1)`,
for all lengths `≥ 1` and all `len a + len b - 1` lags. -/
theorem xcorr_eq_dft (a b : Array ℂ) (ha : 1 ≤ a.size) (hb : 1 ≤ b.size) :
    (xcorr 0 (starRingEnd ℂ) dftArr idftArr a b).size = a.size + b.size - 1 ∧
    ∀ j, j < a.size + b.size - 1 → (xcorr 0 (starRingEnd ℂ) dftArr idftArr a b).getD j 0 =
      ∑ n ∈ range b.size,
        if b.size - 1 ≤ j + n ∧ j + n - (b.size - 1) < a.size then
          a.getD (j + n - (b.size - 1)) 0 * (starRingEnd ℂ) (b.getD n 0) else 0 :=
  xcorr_eq (starRingEnd ℂ) (map_zero _) dftArr idftArr a b ha hb
    (circCorr_dft _ (Nat.two_pow_pos _))

end dft

/-! ## Non-vacuity: the models and the hypotheses at concrete inputs -/
section examples

/-- `FirFilter` with taps `[1,2]` (over `ℤ`, `conj = id`), fed `[3,4]` then `[5]`: outputs `[3,10]`, `[13]` -/
example : (process (0 : ℤ) id (init 0 #[1, 2]) #[3, 4]).2 = #[3, 10] ∧
    (process (0 : ℤ) id (process (0 : ℤ) id (init 0 #[1, 2]) #[3, 4]).1 #[5]).2 = #[13] ∧
    (process (0 : ℤ) id (init 0 #[1, 2]) #[3, 4, 5]).2 = #[3, 10, 13] := by decide

example : Hist (process (0 : ℤ) id (init 0 #[1, 2]) #[3, 4]).1 (#[] ++ #[3, 4]) :=
  (fir_step id (init 0 #[1, 2]) #[] #[3, 4] (hist_init _) (by decide)).2.1

/-- one complex tap `i` (Gaussian integers as pairs, `cj` = conjugation): the model runs; only the output length is stated -/
example : (process ((0, 0) : ℤ × ℤ) (fun z => (z.1, -z.2)) ⟨#[(0, 1)], #[]⟩ #[(1, 0)]).2.size = 1 := by decide

/-- `MAFilter(2)` over `ℤ` (`T / int` = integer division), fed `[2,4,6]`: `[1,3,5]`; invariant instance -/
example : (maProcess (0 : ℤ) (fun a n => a / n) (maInit 0 2) #[2, 4, 6]).2 = #[1, 3, 5] := by decide

example : MaInv (maInit (0 : ℤ) 3) (fun _ => 0) 3 := ma_init_inv 3 (by decide) _ fun _ => rfl

/-- `nextpow2` at the sizes the kernels use -/
example : nextpow2 0 = 0 ∧ nextpow2 1 = 0 ∧ nextpow2 2 = 1 ∧ nextpow2 3 = 2 ∧ nextpow2 4 = 2 ∧ nextpow2 5 = 3 ∧
    nextpow2 2048 = 11 ∧ nextpow2 2049 = 12 := by decide

/-- block-size arithmetic of `FftFilter` for 3 taps: `fft_len = 8`, `_n = 6`; the invariant holds initially -/
example : (fftInit (0 : ℤ) id id #[1, 2, 3]).n = 6 ∧ (fftInit (0 : ℤ) id id #[1, 2, 3]).x.size = 8 := by decide

example (S : ℕ → ℤ) : FInv id id #[1, 2, 3] (2 ^ nextpow2 (2 * 3)) (2 ^ nextpow2 (2 * 3) + 1 - 3) S 0 0 (fftInit 0 id id #[1, 2, 3]) #[] :=
  fft_init_inv id id #[1, 2, 3] (by decide) S

end examples

end Dsp.C07
