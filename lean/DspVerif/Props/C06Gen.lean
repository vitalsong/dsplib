import DspVerif.Props.C04
import DspVerif.Props.C06
import DspVerif.Props.C07Gen
import DspVerif.Gen.StepsDelay
import DspVerif.Gen.CtorDelay
import DspVerif.Lib.RealFn
import DspVerif.Lib.GenBridge
/-!
# C06 — bridge: the hand-written `Delay<T>` / `HilbertFilter` models ARE the regenerated code

`Gen/StepsDelay.lean` is written by `tools/cxx2lean.py` on every check run:
* `Delay<T>::process` (include/dsplib/delay.h, `T = real_t`, `cmplx_t`) as `Gen.delay?Process`: `tmp = _buffer | x` (`arrConcat`),
  the slice-to-slice hand-over `_buffer.slice(0, nd) = tmp.slice(tmp.size() - nd, tmp.size())` (`arrSliceAssign`) and the
  returned slice `tmp.slice(0, x.size())` (`arrSlice`); whether each of the three slices is accepted is decided by the
  REGENERATED slice constructor `Gen.BaseSlice.ctor` (unit `Slice`), so the generated function is `Except`-valued;
* `HilbertFilter::process` (lib/hilbert.cpp) as `Gen.hilbertProcess`: `_d.process(s)` and `_fir.process(s)` are calls of the
  generated `Gen.delayRProcess` / `Gen.firRProcess` (unit `StepsFir`), the two loops that store `r[i].re`, `r[i].im` are
  `Gen.hilbertProcess_loop1/2`; members `_fir : FirFilter<real_t>`, `_d : DelayReal` (C++ types checked).

Proved here: for a buffer of length ≥ 1 the generated `Delay<T>::process` does not throw and is `Framing.delayProcess`
(a `Delay` of length 0 throws on every call); the generated `HilbertFilter::process` is `Framing.Hilbert.process` over ℝ; the
split laws of T06 transported to the generated code.  That the three slices are accepted is read off `C04.ctor_spec`
(`Lib/GenSlice.lean`), not off the generated constructor's text.
-/
namespace Dsp.C06Gen
open Dsp Dsp.Framing Dsp.GenBridge

set_option linter.unusedSectionVars false
set_option linter.unusedSimpArgs false

theorem ext_getD' {β : Type} (a b : Array β) (h1 : a.size = b.size)
    (h2 : ∀ j (h : j < a.size), a[j] = b[j]'(h1 ▸ h)) : a = b :=
  Array.ext h1 (fun j hj1 _ => h2 j hj1)

/-- the hand-over of `Delay::process`: `_buffer.slice(0, nd) = tmp.slice(n - nd, n)` with `1 ≤ nd = _buffer.size() ≤ n = tmp.size()`:
neither slice is rejected, the counts agree, and the whole buffer becomes the last `nd` elements of `tmp` -/
theorem arrSliceAssign_tail {β : Type} (dst src : Array β) (hd : 1 ≤ dst.size) (hle : dst.size ≤ src.size) :
    Gen.arrSliceAssign dst (0 : Int) (dst.size : Int) src ((src.size : Int) - (dst.size : Int)) (src.size : Int) =
      .ok (src.extract (src.size - dst.size) src.size) := by
  have hd' : (0 : Int) < dst.size := Int.natCast_pos.2 hd
  unfold Gen.arrSliceAssign
  simp only [Gen.arrSize, Int.ofNat_eq_natCast]
  rw [ctor_range _ _ _ (Int.sub_nonneg.2 (Int.ofNat_le.2 hle)) (Int.sub_le_self _ hd'.le) le_rfl (Int.sub_lt_self _ hd'),
    ctor_range _ 0 _ le_rfl hd'.le le_rfl hd']
  simp only
  rw [if_neg (by omega)]
  congr 1
  apply Array.ext
  · simp only [Array.size_ofFn, Array.size_extract]; omega
  · intro j hj1 hj2
    simp only [Array.size_ofFn] at hj1
    simp only [Array.getElem_ofFn, Array.getElem_extract]
    rw [if_pos (by omega), Array.getD_eq_getD_getElem?, Array.getElem?_eq_getElem (by omega), Option.getD_some]
    congr 1
    omega

/-! ## `Delay<T>::process` -/

/-- the two slice statements of `Delay<T>::process` on `tmp = _buffer | x`, `nd = _buffer.size() ≥ 1`: both are accepted, and they
are the two components of the model's `delayProcess` -/
theorem delay_slices {β : Type} (buf x : Array β) (hb : 1 ≤ buf.size) :
    Gen.arrSliceAssign buf (0 : Int) (buf.size : Int) (buf ++ x) (((buf ++ x).size : Int) - (buf.size : Int)) ((buf ++ x).size : Int) =
      .ok (delayProcess buf x).1 ∧
    Gen.arrSlice (buf ++ x) (0 : Int) (x.size : Int) = .ok (delayProcess buf x).2 :=
  ⟨arrSliceAssign_tail buf (buf ++ x) hb (Array.size_append ▸ Nat.le_add_right _ _),
    arrSlice_range (buf ++ x) 0 x.size 0 x.size rfl rfl (Nat.zero_le _) (Array.size_append ▸ Nat.le_add_left _ _)
      (Array.size_append ▸ Nat.le_add_right_of_le hb)⟩

/-- **bridge, `Delay<real_t>::process`, one call.**  For every buffer of length `nd ≥ 1` and every frame (the empty one
included) the generated `process` — `_buffer | x`, the slice-to-slice hand-over, the returned slice; acceptance of all three
slices decided by the REGENERATED slice constructor — does not throw and is the model's `delayProcess`. -/
theorem delayRProcess_eq {α : Type} [Add α] [Sub α] [Mul α] [Div α] [Neg α] [LT α] [LE α] [Fn α]
    [DecidableRel (· < · : α → α → Prop)] [DecidableRel (· ≤ · : α → α → Prop)]
    (buf x : Array α) (hb : 1 ≤ buf.size) :
    Gen.delayRProcess ⟨buf⟩ x = .ok (⟨(delayProcess buf x).1⟩, (delayProcess buf x).2) := by
  simp only [Gen.delayRProcess, Gen.arrConcat, Gen.arrSize, Int.ofNat_eq_natCast, delay_slices buf x hb]

theorem delayCProcess_eq {α : Type} [Add α] [Sub α] [Mul α] [Div α] [Neg α] [LT α] [LE α] [Fn α]
    [DecidableRel (· < · : α → α → Prop)] [DecidableRel (· ≤ · : α → α → Prop)]
    (buf x : Array (Cx α)) (hb : 1 ≤ buf.size) :
    Gen.delayCProcess ⟨buf⟩ x = .ok (⟨(delayProcess buf x).1⟩, (delayProcess buf x).2) := by
  simp only [Gen.delayCProcess, Gen.arrConcat, Gen.arrSize, Int.ofNat_eq_natCast, delay_slices buf x hb]

/-- a `Delay` of length 0 cannot be used: the first slice constructed, `tmp.slice(tmp.size(), tmp.size())`, is rejected on
every call -/
theorem delayRProcess_zero {α : Type} [Add α] [Sub α] [Mul α] [Div α] [Neg α] [LT α] [LE α] [Fn α]
    [DecidableRel (· < · : α → α → Prop)] [DecidableRel (· ≤ · : α → α → Prop)] (x : Array α) :
    ∃ e, Gen.delayRProcess ⟨#[]⟩ x = .error e := by
  obtain ⟨e, he⟩ := arrSliceAssign_src_reject (#[] : Array α) (Gen.arrConcat #[] x) 0 (Gen.arrSize (#[] : Array α))
    (Gen.arrSize (Gen.arrConcat #[] x) - Gen.arrSize (#[] : Array α)) (Gen.arrSize (Gen.arrConcat #[] x))
    (by simp [Gen.arrSize]) (by simp [Gen.arrSize])
  exact ⟨e, by simp only [Gen.delayRProcess, he]⟩

/-! ## `HilbertFilter::process` -/

noncomputable section

/-- the generated state of the model's `HilbertFilter` state -/
def toGenH (s : Hilbert ℝ) : Gen.HilbertFilterState ℝ := ⟨⟨s.fir.h, s.fir.d⟩, ⟨s.d⟩⟩

theorem fill_re_im (re im : Array ℝ) (n : ℕ) (hre : re.size = n) (him : im.size = n) :
    (List.range n).foldl (Gen.hilbertProcess_loop2 im)
        ((List.range n).foldl (Gen.hilbertProcess_loop1 re) (Gen.arrNew Gen.zeroC (n : Int))) =
      Array.zipWith (fun a b => (⟨a, b⟩ : Cx ℝ)) re im := by
  rw [foldl_loop_eq_ofFn Gen.zeroC (fun v i => { v with re := re.getD i 0 }) (Gen.hilbertProcess_loop1 re)
      (fun r i => by simp only [Gen.hilbertProcess_loop1, Int.ofNat_eq_natCast, arrGet_natCast, arrSet_natCast, Gen.zeroR,
        fn_ofInt, Int.cast_zero]) n _ (by simp [Gen.arrNew]),
    foldl_loop_eq_ofFn Gen.zeroC (fun v i => { v with im := im.getD i 0 }) (Gen.hilbertProcess_loop2 im)
      (fun r i => by simp only [Gen.hilbertProcess_loop2, Int.ofNat_eq_natCast, arrGet_natCast, arrSet_natCast, Gen.zeroR,
        fn_ofInt, Int.cast_zero]) n _ (by simp)]
  apply Array.ext
  · simp [hre, him]
  · intro j hj1 hj2
    simp [Array.getD_eq_getD_getElem?, hre, him]

/-- **bridge, `HilbertFilter::process`, one call.**  For every filter state with at least one tap (history of `nh - 1`
samples) and a delay buffer of at least one sample, and every frame: the generated `process` — the generated
`Delay<real_t>::process` for the real parts, the generated `FirFilter<real_t>::process` for the imaginary parts, the two
loops that fill `r[i].re`, `r[i].im` — does not throw and is the model's `Hilbert.process`. -/
theorem hilbertProcess_eq (s : Hilbert ℝ) (x : Array ℝ) (hf : 1 ≤ s.fir.h.size) (hd : s.fir.d.size = s.fir.h.size - 1)
    (hb : 1 ≤ s.d.size) :
    Gen.hilbertProcess (toGenH s) x = .ok (toGenH (s.process x).1, (s.process x).2) := by
  unfold Gen.hilbertProcess toGenH
  simp only
  rw [delayRProcess_eq s.d x hb]
  simp only
  have hfir := C07Gen.firRProcess_eq s.fir x hd
  unfold C07Gen.toGenR at hfir
  rw [hfir]
  simp only [Gen.arrSize, Int.ofNat_eq_natCast, Int.toNat_natCast]
  rw [fill_re_im _ _ x.size (C06.delay_out_size s.d x) (C06.fir_out_size 0 id s.fir x ⟨hf, hd⟩)]
  simp only [Hilbert.process, Fir.firProcessR, Cx.zeroR_eq]

/-- **T06 (Delay, split law) transported to the regenerated code:** two successive generated calls give the state and the
concatenated outputs of one generated call on the concatenated frame -/
theorem gen_delay_split (buf a b : Array ℝ) (hb : 1 ≤ buf.size) :
    (Gen.delayRProcess ⟨buf⟩ a).bind (fun r => (Gen.delayRProcess r.1 b).map (fun q => (q.1, r.2 ++ q.2))) =
      Gen.delayRProcess ⟨buf⟩ (a ++ b) := by
  rw [delayRProcess_eq buf a hb, delayRProcess_eq buf (a ++ b) hb]
  simp only [Except.bind]
  rw [delayRProcess_eq _ b (by rw [C06.delay_state_size]; exact hb), C06.delay_split]
  rfl

/-- the output of the generated `Delay<real_t>::process` is the input delayed by `nd` samples: `y[i] = (buffer | x)[i]` -/
theorem gen_delay_out (buf x : Array ℝ) (hb : 1 ≤ buf.size) :
    ∃ st y, Gen.delayRProcess ⟨buf⟩ x = .ok (st, y) ∧ y.size = x.size ∧ ∀ i, i < x.size → y[i]? = (buf ++ x)[i]? := by
  refine ⟨_, _, delayRProcess_eq buf x hb, C06.delay_out_size buf x, fun i hi => ?_⟩
  rw [C06.delay_out_getElem?, if_pos hi]

/-- **T06 (HilbertFilter, split law) transported** -/
theorem gen_hilbert_split (s : Hilbert ℝ) (a b : Array ℝ) (hf : 1 ≤ s.fir.h.size) (hd : s.fir.d.size = s.fir.h.size - 1)
    (hb : 1 ≤ s.d.size) :
    (Gen.hilbertProcess (toGenH s) a).bind (fun r => (Gen.hilbertProcess r.1 b).map (fun q => (q.1, r.2 ++ q.2))) =
      Gen.hilbertProcess (toGenH s) (a ++ b) := by
  obtain ⟨hf', hd'⟩ := C06.hilbert_inv_step s a ⟨hf, hd⟩
  have hb' : 1 ≤ (s.process a).1.d.size := (C06.delay_state_size s.d a).symm ▸ hb
  rw [hilbertProcess_eq s a hf hd hb, hilbertProcess_eq s (a ++ b) hf hd hb]
  simp only [Except.bind]
  rw [hilbertProcess_eq _ b hf' hd' hb', C06.hilbert_split s a b ⟨hf, hd⟩]
  rfl

/-- non-vacuity: the state `HilbertFilter(h)` constructs for 51 taps satisfies the hypotheses (`_d{h.size() / 2}`) -/
example (h : Array ℝ) (hh : h.size = 51) :
    1 ≤ (Hilbert.init h).fir.h.size ∧ (Hilbert.init h).fir.d.size = (Hilbert.init h).fir.h.size - 1 ∧ 1 ≤ (Hilbert.init h).d.size := by
  simp [Hilbert.init, Fir.firInitR, Fir.init, hh]

end

/-! ## Constructors (regenerated: `Gen/CtorDelay.lean`, `Gen/CtorFir.lean`): the states the framing theorems start from -/

noncomputable section

/-- `Delay<real_t>(int length)`, `length ≥ 0`: the zero-filled buffer of `length` cells (`Model/Framing` keeps a delay as its buffer) -/
theorem delayRCtorLen_buf (n : ℕ) : (Gen.delayRCtorLen (n : Int) : Gen.DelayRState ℝ).buffer = Array.replicate n 0 := by
  simp [Gen.delayRCtorLen, Gen.arrNew, Gen.zeroR]

/-- `Delay<real_t>(const arr_real& initial)`: the given contents -/
theorem delayRCtorInit_buf (a : Array ℝ) : (Gen.delayRCtorInit a : Gen.DelayRState ℝ).buffer = a := rfl

theorem delayCCtorLen_buf (n : ℕ) : (Gen.delayCCtorLen (n : Int) : Gen.DelayCState ℝ).buffer = Array.replicate n 0 := by
  simp [Gen.delayCCtorLen, Gen.arrNew, C07Gen.gzeroC_eq]

theorem delayCCtorInit_buf (a : Array (Cx ℝ)) : (Gen.delayCCtorInit a : Gen.DelayCState ℝ).buffer = a := rfl

/-- **bridge, `HilbertFilter(const arr_real& h)`, whatever `firtype` is:** an accepted tap vector leaves the model's `Hilbert.init h` -/
theorem hilbertCtorTaps_ok (firtype : Array ℝ → Int) (h : Array ℝ) (o : Gen.HilbertFilterState ℝ)
    (ho : Gen.hilbertCtorTaps firtype h = .ok o) : o = toGenH (Hilbert.init h) := by
  unfold Gen.hilbertCtorTaps at ho
  split_ifs at ho
  injection ho with ho
  rw [← ho]
  have hd : (Int.tdiv (h.size : Int) 2) = ((h.size / 2 : ℕ) : Int) := tdiv_eq _ _ 2 rfl
  simp only [toGenH, Hilbert.init, C07Gen.firRCtor_eq, C07Gen.toGenR, Gen.arrSize, Int.ofNat_eq_natCast, hd, Gen.delayRCtorLen,
    Gen.arrNew, Int.toNat_natCast]
  simp [Fir.firInitR, Cx.zeroR_eq, Gen.zeroR]

/-- framing from the GENERATED constructor: for an accepted tap vector with at least 3 taps, two successive generated `process`
calls on frames `a`, `b` give the same outputs as one call on `a ++ b` -/
theorem gen_hilbert_split_from_ctor (firtype : Array ℝ → Int) (h : Array ℝ) (hh : 3 ≤ h.size) (o : Gen.HilbertFilterState ℝ)
    (ho : Gen.hilbertCtorTaps firtype h = .ok o) (a b : Array ℝ) :
    (Gen.hilbertProcess o a).bind (fun r => (Gen.hilbertProcess r.1 b).map (fun q => (q.1, r.2 ++ q.2))) =
      Gen.hilbertProcess o (a ++ b) := by
  rw [hilbertCtorTaps_ok firtype h o ho]
  obtain ⟨hf, hd⟩ := C06.fir_init_inv Fir.zeroR h (by omega)
  exact gen_hilbert_split (Hilbert.init h) a b hf hd (by rw [Hilbert.init, Array.size_replicate]; omega)

end

end Dsp.C06Gen
