import DspVerif.Lib.C06Array
import DspVerif.Model.Framing
import DspVerif.Model.Resample
import DspVerif.Model.Dynamics
import DspVerif.Props.C08
import DspVerif.Props.C12
import DspVerif.Props.C16
/-!
# C06 — Streaming processors are invariant to how the stream is framed

Theorems about the executable models of the stateful block processors (`Model/Fir.lean`, `Model/Resample.lean`,
`Model/Dynamics.lean`, `Model/Adaptive.lean`, `Model/Order.lean`, `Model/Framing.lean`), tied to the C++ by the
correspondence run of `harness/c06.cpp` against `Driver/H06.lean`, which executes exactly `Framing.runFrames` /
`runFramesE` — the function the theorems below speak about.

* **T06.all** `framing_invariant` / `framing_invariant_except`: stated ONCE, abstractly.  If `process` satisfies the split
  law `process s (a ++ b) = (s₂, y₁ ++ y₂)` where `(s₁, y₁) = process s a`, `(s₂, y₂) = process s₁ b` (for frames of the
  documented granularity, from reachable states), then for EVERY partition of EVERY stream into frames — empty frames
  included — running the frames one call after the other gives the final state and the concatenated output of ONE call
  on the whole stream (induction on the partition).
* **T06.k** the split law itself, per processor (`*_split`), and T06.all instantiated from the constructor's state
  (`*_framing`).  Every split law is STRUCTURAL: it holds for every sample type with whatever `+ * …` it carries — no
  algebraic law is used, only data movement is rearranged — hence also for `Float` itself (no rounding caveat).  Sample
  loops are literal folds that only append to their output: `fold_split`.  The four FIR-like filters are one argument,
  `C06A.tabF_read_split`: the outputs are a table computed from the work buffer `d_ ++ x`, the new history is
  `hand d_ x`; per filter it remains to say which cells output `i` reads and that a later output is an earlier one of the
  buffer advanced by the first frame.  MedianFilter, LMS / NLMS and RLS come from the owners' theorems in C16 / C12.
* `instances_independent`: in the (pure) model two objects used interleaved produce what each produces alone; on the
  C++ side this clause is the ORACLE's interleaving runs (no shared mutable statics).

`FftFilter`'s transform pair is a parameter (any functions).
-/
open Dsp Dsp.Framing Dsp.C06A

namespace Dsp.C06
set_option linter.unusedSectionVars false

/-! ## T06.all — the generic theorem -/
section generic
variable {σ I O ε : Type} [Append I] [Append O]

theorem concat_al (eI : I) (Al : I → Prop) (hAl0 : Al eI) (hAlapp : ∀ a b, Al a → Al b → Al (a ++ b)) :
    ∀ frames : List I, (∀ f ∈ frames, Al f) → Al (concat eI frames)
  | [], _ => hAl0
  | f :: fs, h => hAlapp _ _ (h f (by simp)) (concat_al eI Al hAl0 hAlapp fs (fun g hg => h g (by simp [hg])))

/-- **T06.all (framing_invariant).**  `process` total.  Hypotheses: `Inv` holds for the start state and is preserved;
`Al` ("frame of the documented granularity") holds for the empty frame and is closed under `++`; an empty call does
nothing; the split law.  Conclusion, for EVERY list of admissible frames: calling `process` frame by frame and
concatenating = ONE call on the concatenation — final state and output. -/
theorem framing_invariant (eI : I) (eO : O) (process : σ → I → σ × O) (Inv : σ → Prop) (Al : I → Prop)
    (hnil : ∀ s, Inv s → process s eI = (s, eO))
    (hAl0 : Al eI) (hAlapp : ∀ a b, Al a → Al b → Al (a ++ b))
    (hInv : ∀ s a, Inv s → Al a → Inv (process s a).1)
    (hsplit : ∀ s a b, Inv s → Al a → Al b →
      process s (a ++ b) = ((process (process s a).1 b).1, (process s a).2 ++ (process (process s a).1 b).2))
    (s : σ) (hs : Inv s) (frames : List I) (hfr : ∀ f ∈ frames, Al f) :
    runFrames eO process s frames = process s (concat eI frames) ∧ Al (concat eI frames) := by
  refine ⟨?_, concat_al eI Al hAl0 hAlapp frames hfr⟩
  induction frames generalizing s with
  | nil => simp [runFrames, concat, hnil s hs]
  | cons f fs ih =>
    have hf : Al f := hfr f (by simp)
    have hfs : ∀ g ∈ fs, Al g := fun g hg => hfr g (by simp [hg])
    simp only [runFrames, concat]
    rw [ih _ (hInv s f hs hf) hfs, hsplit s f _ hs hf (concat_al eI Al hAl0 hAlapp fs hfs)]

/-- **T06.all, "no gap, repeat or transient at frame boundaries".**  Two partitions of the same stream give the same
final state and the same concatenated output. -/
theorem framing_partition_irrelevant (eI : I) (eO : O) (process : σ → I → σ × O) (Inv : σ → Prop) (Al : I → Prop)
    (hnil : ∀ s, Inv s → process s eI = (s, eO))
    (hAl0 : Al eI) (hAlapp : ∀ a b, Al a → Al b → Al (a ++ b))
    (hInv : ∀ s a, Inv s → Al a → Inv (process s a).1)
    (hsplit : ∀ s a b, Inv s → Al a → Al b →
      process s (a ++ b) = ((process (process s a).1 b).1, (process s a).2 ++ (process (process s a).1 b).2))
    (s : σ) (hs : Inv s) (fr1 fr2 : List I) (h1 : ∀ f ∈ fr1, Al f) (h2 : ∀ f ∈ fr2, Al f)
    (hsame : concat eI fr1 = concat eI fr2) :
    runFrames eO process s fr1 = runFrames eO process s fr2 := by
  rw [(framing_invariant eI eO process Inv Al hnil hAl0 hAlapp hInv hsplit s hs fr1 h1).1,
    (framing_invariant eI eO process Inv Al hnil hAl0 hAlapp hInv hsplit s hs fr2 h2).1, hsame]

/-- the split law of a total `process`: one call on `a ++ b` is a call on `a`, then one on `b` from the state `a` left -/
def Splits (process : σ → I → σ × O) : Prop :=
  ∀ s a b, process s (a ++ b) = ((process (process s a).1 b).1, (process s a).2 ++ (process (process s a).1 b).2)

/-- `framing_invariant` for a processor that takes frames of any length -/
theorem framing_of_split_inv (eI : I) (eO : O) (process : σ → I → σ × O) (Inv : σ → Prop)
    (hnil : ∀ s, Inv s → process s eI = (s, eO)) (hInv : ∀ s a, Inv s → Inv (process s a).1)
    (hsplit : ∀ s a b, Inv s →
      process s (a ++ b) = ((process (process s a).1 b).1, (process s a).2 ++ (process (process s a).1 b).2))
    (s : σ) (hs : Inv s) (frames : List I) : runFrames eO process s frames = process s (concat eI frames) :=
  (framing_invariant eI eO process Inv (fun _ => True) hnil trivial (fun _ _ _ _ => trivial) (fun s a h _ => hInv s a h)
    (fun s a b h _ _ => hsplit s a b h) s hs frames (fun _ _ => trivial)).1

theorem framing_of_split (eI : I) (eO : O) (process : σ → I → σ × O) (hnil : ∀ s, process s eI = (s, eO))
    (hsplit : Splits process) (s : σ) (frames : List I) : runFrames eO process s frames = process s (concat eI frames) :=
  framing_of_split_inv eI eO process (fun _ => True) (fun s _ => hnil s) (fun _ _ _ => trivial)
    (fun s a b _ => hsplit s a b) s trivial frames

/-- **T06.all for a `process` that can throw** (the granularity check of the decimating converters, the length check of
the adaptive filters).  With admissible frames nothing throws differently: frame-by-frame = one call, including the
`Except` status. -/
theorem framing_invariant_except (eI : I) (eO : O) (process : σ → I → Except ε (σ × O)) (Inv : σ → Prop) (Al : I → Prop)
    (hnil : ∀ s, Inv s → process s eI = .ok (s, eO))
    (hAl0 : Al eI) (hAlapp : ∀ a b, Al a → Al b → Al (a ++ b))
    (hInv : ∀ s a r, Inv s → Al a → process s a = .ok r → Inv r.1)
    (hsplit : ∀ s a b, Inv s → Al a → Al b →
      process s (a ++ b) = (process s a).bind fun r => (process r.1 b).map fun q => (q.1, r.2 ++ q.2))
    (s : σ) (hs : Inv s) (frames : List I) (hfr : ∀ f ∈ frames, Al f) :
    runFramesE eO process s frames = process s (concat eI frames) := by
  induction frames generalizing s with
  | nil => simp [runFramesE, concat, hnil s hs]
  | cons f fs ih =>
    have hf : Al f := hfr f (by simp)
    have hrest : Al (concat eI fs) := concat_al eI Al hAl0 hAlapp fs (fun g hg => hfr g (by simp [hg]))
    simp only [runFramesE, concat]
    rw [hsplit s f _ hs hf hrest]
    cases h : process s f with
    | error e => rfl
    | ok r =>
      have h1 := ih r.1 (hInv s f r hs hf h) (fun g hg => hfr g (by simp [hg]))
      simp only [h1, Except.bind]
      cases process r.1 (concat eI fs) <;> rfl

theorem size_append_mod {β : Type} {M : Nat} {a b : Array β} (ha : a.size % M = 0) (hb : b.size % M = 0) :
    (a ++ b).size % M = 0 := by
  rw [Array.size_append, Nat.add_mod, ha, hb, Nat.add_zero, Nat.zero_mod]

/-- `framing_invariant_except` for a converter of arrays whose granularity `gran s` (frames of `k · gran s` samples) is
kept by every call -/
theorem framing_granular {β γ : Type} (process : σ → Array β → Except ε (σ × Array γ)) (Inv : σ → Prop) (gran : σ → Nat)
    (hnil : ∀ s, Inv s → process s #[] = .ok (s, #[]))
    (hInv : ∀ s a r, Inv s → a.size % gran s = 0 → process s a = .ok r → Inv r.1 ∧ gran r.1 = gran s)
    (hsplit : ∀ s a b, Inv s → a.size % gran s = 0 → b.size % gran s = 0 →
      process s (a ++ b) = (process s a).bind fun r => (process r.1 b).map fun q => (q.1, r.2 ++ q.2))
    (s : σ) (hs : Inv s) (frames : List (Array β)) (hfr : ∀ f ∈ frames, f.size % gran s = 0) :
    runFramesE #[] process s frames = process s (concat #[] frames) := by
  refine framing_invariant_except #[] #[] process (fun t => Inv t ∧ gran t = gran s) (fun x => x.size % gran s = 0)
    (fun t ht => hnil t ht.1) (Nat.zero_mod _)
    (fun _ _ => size_append_mod) ?_ ?_ s ⟨hs, rfl⟩ frames hfr
  · rintro t a r ⟨ht, hm⟩ ha hr
    obtain ⟨h1, h2⟩ := hInv t a r ht (hm ▸ ha) hr
    exact ⟨h1, h2.trans hm⟩
  · rintro t a b ⟨ht, hm⟩ ha hb
    exact hsplit t a b ht (hm ▸ ha) (hm ▸ hb)

theorem concat_eq_flatten {β : Type} (frames : List (Array β)) : concat #[] frames = frames.toArray.flatten := by
  induction frames with
  | nil => simp [concat]
  | cons f fs ih => simp [concat, ih, Array.flatten_toArray]

end generic

/-! ## instance independence (pure model) -/
section independence
variable {σ₁ σ₂ I₁ I₂ O₁ O₂ : Type} [Append O₁] [Append O₂]

/-- two separately constructed objects, calls arriving in any interleaving (`inl` = a frame for the first object) -/
def runMixed (e₁ : O₁) (e₂ : O₂) (p₁ : σ₁ → I₁ → σ₁ × O₁) (p₂ : σ₂ → I₂ → σ₂ × O₂) (s₁ : σ₁) (s₂ : σ₂) :
    List (I₁ ⊕ I₂) → (σ₁ × O₁) × (σ₂ × O₂)
  | [] => ((s₁, e₁), (s₂, e₂))
  | .inl f :: t =>
    let r := p₁ s₁ f
    let q := runMixed e₁ e₂ p₁ p₂ r.1 s₂ t
    ((q.1.1, r.2 ++ q.1.2), q.2)
  | .inr f :: t =>
    let r := p₂ s₂ f
    let q := runMixed e₁ e₂ p₁ p₂ s₁ r.1 t
    (q.1, (q.2.1, r.2 ++ q.2.2))

/-- **"Separately constructed instances never influence one another" (model side).**  Whatever the interleaving, each
object ends in the state and has produced the output of being fed its own frames alone. -/
theorem instances_independent (e₁ : O₁) (e₂ : O₂) (p₁ : σ₁ → I₁ → σ₁ × O₁) (p₂ : σ₂ → I₂ → σ₂ × O₂) (s₁ : σ₁) (s₂ : σ₂)
    (calls : List (I₁ ⊕ I₂)) :
    (runMixed e₁ e₂ p₁ p₂ s₁ s₂ calls).1 = runFrames e₁ p₁ s₁ (calls.filterMap Sum.getLeft?) ∧
    (runMixed e₁ e₂ p₁ p₂ s₁ s₂ calls).2 = runFrames e₂ p₂ s₂ (calls.filterMap Sum.getRight?) := by
  induction calls generalizing s₁ s₂ with
  | nil => simp [runMixed, runFrames]
  | cons c t ih => cases c <;> simp [runMixed, runFrames, ih, List.filterMap_cons]

end independence

/-! ## T06.k — sample loops (literal folds) -/
section folds
variable {α : Type} [Add α] [Sub α] [Mul α] [Div α] [Neg α] [LT α] [LE α] [Fn α]
  [DecidableRel (· < · : α → α → Prop)] [DecidableRel (· ≤ · : α → α → Prop)]
open Dsp.Fir Dsp.Dynamics

/-- **T06 MAFilter (split law)**, every sample type (`real_t`, `cmplx_t`), every `T / int`. -/
theorem ma_split {β : Type} [Add β] [Sub β] (zero : β) (divn : β → Nat → β) : Splits (maProcess zero divn) :=
  fold_split_array _ (by intro s acc x; simp)

/-- **T06 FftFilter (split law)**: arbitrary frame lengths; the (block-wise) outputs are compared as concatenations.
The block buffer `_x`, the fill count `_nx` and the overlap `_olap` are all in the state that is handed over.
Every transform pair `fft`, `ifft` (any functions), every sample type. -/
theorem fft_split {β : Type} [Add β] [Mul β] (zero : β) (fft ifft : Array β → Array β) :
    Splits (fftProcess zero fft ifft) := by
  refine fold_split_array _ ?_
  intro s acc x
  simp only [fftStep]
  split <;> simp

/-- the real entry point `FftFilter::process(const arr_real&)` = `real(process(complex(x)))` -/
theorem fftR_split (fft ifft : Array (Cx α) → Array (Cx α)) (s : FftState (Cx α)) (a b : Array α) :
    fftProcessR fft ifft s (a ++ b) =
      ((fftProcessR fft ifft (fftProcessR fft ifft s a).1 b).1,
        (fftProcessR fft ifft s a).2 ++ (fftProcessR fft ifft (fftProcessR fft ifft s a).1 b).2) := by
  simp only [fftProcessR, fftProcessC, ofRealV, reV, Array.map_append, fft_split _ _ _ _ _ _]

/-- **T06 Tuner (split law)**; state `_phase`, including its wrap at `fs` for an integer number of cycles. -/
theorem tuner_split (p : Tuner α) : Splits p.process :=
  fold_split_array _ (by intro s acc x; simp)

end folds

/-! ## T06.k — history hand-over: FirFilter, Delay, HilbertFilter -/

theorem ofFn_eq_tabF {γ : Type} (n m : Nat) (h : n = m) (F : Nat → γ) :
    Array.ofFn (n := n) (fun i => F i.val) = tabF m F := by
  subst h; rfl

section fir
open Dsp.Fir
variable {β : Type} [Add β] [Mul β]

theorem acc_congr (z : β) (n : Nat) (f g : Nat → β) (h : ∀ k, k < n → f k = g k) : acc z n f = acc z n g := by
  induction n with
  | zero => rfl
  | succ n ih =>
    simp only [acc]
    rw [ih (fun k hk => h k (by omega)), h n (by omega)]

/-- the states a `FirFilter` object can be in: at least one tap, `_d` holds `nh - 1` samples -/
def FirInv (s : State β) : Prop := 1 ≤ s.h.size ∧ s.d.size = s.h.size - 1

theorem fir_init_inv (zero : β) (h : Array β) (hh : 1 ≤ h.size) : FirInv (init zero h) := by
  simp [FirInv, init, hh]

/-- output `i` of `conv` when the work buffer is read through `r`: it looks at the cells `i .. i + nh - 1` -/
def firAt (zero : β) (cj : β → β) (h : Array β) (r : Nat → β) (i : Nat) : β :=
  acc zero h.size fun k => r (i + k) * cj (h.getD (h.size - k - 1) zero)

/-- one call: the new `_d` is the hand-over of the work buffer, output `i` reads the work buffer at `i .. i + nh - 1` -/
theorem fir_process_eq (zero : β) (cj : β → β) (s : State β) (x : Array β) (hs : FirInv s) :
    process zero cj s x =
      (⟨s.h, hand s.d x⟩, tabF x.size (firAt zero cj s.h fun t => (s.d ++ x).getD t zero)) := by
  obtain ⟨h1, h2⟩ := hs
  refine Prod.ext (congrArg (State.mk s.h) ?_)
    (ofFn_eq_tabF _ _ (by simp only [Array.size_append]; omega) (firAt zero cj s.h fun t => (s.d ++ x).getD t zero))
  show (s.d ++ x).extract ((s.d ++ x).size - (s.h.size - 1)) (s.d ++ x).size = hand s.d x
  rw [← h2, extract_tail]

theorem fir_inv_step (zero : β) (cj : β → β) (s : State β) (x : Array β) (hs : FirInv s) :
    FirInv (process zero cj s x).1 := by
  rw [fir_process_eq zero cj s x hs]
  exact ⟨hs.1, (size_hand _ _).trans hs.2⟩

theorem fir_out_size (zero : β) (cj : β → β) (s : State β) (x : Array β) (hs : FirInv s) :
    (process zero cj s x).2.size = x.size := by
  rw [fir_process_eq zero cj s x hs]; exact size_tabF _ _

/-- **T06 FirFilter (split law).**  For EVERY sample type (`real_t`, `cmplx_t`, `Float`, …: only `+` and `*` exist, no law
is used), every `conj`, every tap vector with at least one tap, every state whose `_d` holds `nh - 1` samples, every pair
of frames — including frames shorter than the history: feeding `a` then `b` = feeding `a ++ b`, final `_d` included. -/
theorem fir_split (zero : β) (cj : β → β) (s : State β) (a b : Array β) (hs : FirInv s) :
    process zero cj s (a ++ b) =
      ((process zero cj (process zero cj s a).1 b).1,
        (process zero cj s a).2 ++ (process zero cj (process zero cj s a).1 b).2) := by
  rw [fir_process_eq zero cj _ b (fir_inv_step zero cj s a hs), fir_process_eq zero cj s a hs,
    fir_process_eq zero cj s (a ++ b) hs, hand_hand, Array.size_append]
  exact congrArg (Prod.mk _) <| tabF_read_split zero (firAt zero cj s.h) s.d a b a.size b.size
    (fun r r' i hi hr => acc_congr _ _ _ _ fun k hk => by rw [hr (i + k) (by have := hs.2; omega)])
    (fun r i _ => by simp only [firAt, Nat.add_assoc])

theorem fir_nil (zero : β) (cj : β → β) (s : State β) (hs : FirInv s) : process zero cj s #[] = (s, #[]) := by
  rw [fir_process_eq zero cj s #[] hs]
  simp [hand_empty, tabF_zero]

/-- **T06 FirFilter, every framing**: from the constructor's state, any list of frames (any lengths, empty included). -/
theorem fir_framing (zero : β) (cj : β → β) (h : Array β) (hh : 1 ≤ h.size) (frames : List (Array β)) :
    runFrames #[] (process zero cj) (init zero h) frames = process zero cj (init zero h) (concat #[] frames) :=
  framing_of_split_inv #[] #[] (process zero cj) FirInv (fir_nil zero cj) (fir_inv_step zero cj)
    (fun s a b => fir_split zero cj s a b) (init zero h) (fir_init_inv zero h hh) frames

end fir

section delay
variable {β : Type}

theorem delay_state (buf x : Array β) : (delayProcess buf x).1 = hand buf x := extract_tail buf x

theorem delay_state_size (buf x : Array β) : (delayProcess buf x).1.size = buf.size := by
  rw [delay_state, size_hand]

theorem delay_out_getElem? (buf x : Array β) (i : Nat) :
    (delayProcess buf x).2[i]? = if i < x.size then (buf ++ x)[i]? else none := by
  simp only [delayProcess, Array.getElem?_extract, Array.size_append]
  by_cases h : i < x.size
  · rw [if_pos (by omega), if_pos h, Nat.zero_add]
  · rw [if_neg (by omega), if_neg h]

theorem delay_out_size (buf x : Array β) : (delayProcess buf x).2.size = x.size := by
  simp only [delayProcess, Array.size_extract, Array.size_append]; omega

/-- **T06 Delay (split law)**: every element type, every buffer length, every pair of frames (shorter or longer than
the delay). -/
theorem delay_split (buf a b : Array β) :
    delayProcess buf (a ++ b) =
      ((delayProcess (delayProcess buf a).1 b).1, (delayProcess buf a).2 ++ (delayProcess (delayProcess buf a).1 b).2) := by
  refine Prod.ext ?_ ?_
  · simp only [delay_state, hand_hand]
  · simp only [delay_state]
    apply Array.ext_getElem?
    intro i
    rw [delay_out_getElem?, Array.getElem?_append (xs := (delayProcess buf a).2), delay_out_size, delay_out_getElem?,
      delay_out_getElem?, Array.size_append]
    by_cases h1 : i < a.size
    · rw [if_pos (by omega), if_pos h1, if_pos h1, getElem?_prefix _ _ _ _ (by omega)]
    · rw [if_neg h1]
      by_cases h2 : i < a.size + b.size
      · rw [if_pos h2, if_pos (by omega), ← getElem?_shift]
        congr 1; omega
      · rw [if_neg h2, if_neg (by omega)]

theorem delay_nil (buf : Array β) : delayProcess buf #[] = (buf, #[]) :=
  Prod.ext ((delay_state buf #[]).trans (hand_empty buf)) (Array.eq_empty_of_size_eq_zero (delay_out_size buf #[]))

/-- **T06 Delay, every framing.** -/
theorem delay_framing (buf : Array β) (frames : List (Array β)) :
    runFrames #[] delayProcess buf frames = delayProcess buf (concat #[] frames) :=
  framing_of_split #[] #[] delayProcess delay_nil delay_split buf frames

end delay

section hilbert
variable {α : Type} [Add α] [Sub α] [Mul α] [Div α] [Neg α] [LT α] [LE α] [Fn α]
  [DecidableRel (· < · : α → α → Prop)] [DecidableRel (· ≤ · : α → α → Prop)]
open Dsp.Fir

/-- **T06 HilbertFilter (split law)**: the delay line of the real part and the FIR of the imaginary part hand their
histories over independently; the two outputs are zipped sample by sample. -/
theorem hilbert_split (s : Hilbert α) (a b : Array α) (hs : FirInv s.fir) :
    s.process (a ++ b) = (((s.process a).1.process b).1, (s.process a).2 ++ ((s.process a).1.process b).2) := by
  simp only [Hilbert.process, firProcessR]
  rw [fir_split zeroR id s.fir a b hs, delay_split]
  refine Prod.ext rfl ?_
  simp only
  rw [Array.zipWith_append]
  rw [delay_out_size, fir_out_size zeroR id s.fir a hs]

theorem hilbert_nil (s : Hilbert α) (hs : FirInv s.fir) : s.process #[] = (s, #[]) := by
  simp only [Hilbert.process, firProcessR, fir_nil zeroR id s.fir hs, delay_nil]
  simp

theorem hilbert_inv_step (s : Hilbert α) (x : Array α) (hs : FirInv s.fir) : FirInv (s.process x).1.fir :=
  fir_inv_step zeroR id s.fir x hs

/-- **T06 HilbertFilter, every framing** (taps `h` with at least one tap; the constructor's type-3 check is not needed). -/
theorem hilbert_framing (h : Array α) (hh : 1 ≤ h.size) (frames : List (Array α)) :
    runFrames #[] Hilbert.process (Hilbert.init h) frames = (Hilbert.init h).process (concat #[] frames) :=
  framing_of_split_inv #[] #[] Hilbert.process (fun s => FirInv s.fir) hilbert_nil hilbert_inv_step hilbert_split
    (Hilbert.init h) (fir_init_inv zeroR h hh) frames

end hilbert

/-! ## T06.k — polyphase converters -/
section resample
open Dsp.Resample
variable {α : Type} [Add α] [Mul α] [Div α] [Fn α]

theorem tab_eq_tabF {γ : Type} (n : Nat) (f : Nat → γ) : tab n f = tabF n f := rfl

theorem loopN_congr {σ : Type} (n : Nat) (f g : Nat → σ → σ) (h : ∀ k, k < n → ∀ s, f k s = g k s) (s : σ) :
    loopN f n s = loopN g n s := by
  induction n with
  | zero => rfl
  | succ n ih =>
    simp only [loopN]
    rw [ih (fun k hk => h k (by omega)), h n (by omega)]

theorem accN_congr (n : Nat) (f g : Nat → α) (h : ∀ j, j < n → f j = g j) (a : α) : accN f n a = accN g n a :=
  loopN_congr n _ _ (fun k hk s => by rw [h k hk]) a

theorem mul_add_div_right {L : Nat} (hL : 0 < L) (q o : Nat) : (q * L + o) / L = q + o / L := by
  rw [Nat.mul_comm, Nat.mul_add_div hL]

/-- output `i < q` of the decimator (branch `k`, tap `j`) reads below `M·(sub - 1) + q·M` -/
theorem decim_reach (M sub : Nat) {i q k j : Nat} (hi : i < q) (hk : k < M) (hj : j < sub) :
    i * M + k + j * M < M * (sub - 1) + q * M := by
  have h1 := Nat.mul_le_mul_right M hi
  have h2 := Nat.mul_le_mul_right M (Nat.le_sub_one_of_lt hj)
  rw [Nat.succ_mul] at h1
  rw [Nat.mul_comm M]
  omega

/-- an output of input block `p < q` of the rate converter, offset `x < M`, reads below `sub - 1 + q·M` -/
theorem rate_reach (M sub : Nat) {p q x : Nat} (hp : p < q) (hx : x < M) : p * M + x + sub ≤ sub - 1 + q * M := by
  have := Nat.mul_le_mul_right M hp
  rw [Nat.succ_mul] at this
  omega

/-- output `o` of a polyphase filter with `L` branches when the work buffer is read through `r`: branch `o % L` applied to
the `sub` cells from `off o` on (interpolator: `off o = o / L`; rate converter: `(o / L)·M + xidxs_[o % L]`) -/
def polyAt (L sub : Nat) (h : Array (Array α)) (off : Nat → Nat) (r : Nat → α) (o : Nat) : α :=
  accN (fun j => r (off o + j) * elem (row h (o % L)) j) sub zero

theorem polyAt_congr (L sub : Nat) (h : Array (Array α)) (off : Nat → Nat) (r r' : Nat → α) (o : Nat)
    (hr : ∀ t, t < off o + sub → r t = r' t) : polyAt L sub h off r o = polyAt L sub h off r' o :=
  accN_congr _ _ _ (fun j hj => by rw [hr _ (by omega)]) _

/-- `q` input blocks later the same branch is applied, `A` cells further on -/
theorem polyAt_shift (L sub : Nat) (h : Array (Array α)) (off : Nat → Nat) (r : Nat → α) (q o A : Nat)
    (hoff : off (q * L + o) = A + off o) :
    polyAt L sub h off r (q * L + o) = polyAt L sub h off (fun t => r (A + t)) o := by
  simp only [polyAt, hoff, Nat.mul_add_mod_self_right, Nat.add_assoc]

/-! ### FIRInterpolator -/

/-- `d_` holds `sublen - 1` samples -/
def InterpInv (s : Interp α) : Prop := s.d.size = s.sub - 1

theorem interp_init_inv (L : Nat) (h : Array α) : InterpInv (Interp.init L h) := by
  simp [InterpInv, Interp.init, zeros, tab]

theorem interp_process_eq (s : Interp α) (x : Array α) :
    s.process x =
      ({ s with d := hand s.d x },
        tabF (x.size * s.L) (polyAt s.L s.sub s.h (· / s.L) fun t => (s.d ++ x).getD t zero)) := rfl

theorem interp_inv_step (s : Interp α) (x : Array α) (hs : InterpInv s) : InterpInv (s.process x).1 :=
  (size_hand s.d x).trans hs

/-- **T06 FIRInterpolator (split law)**: every `L`, every coefficient table, every scalar type. -/
theorem interp_split (s : Interp α) (a b : Array α) (hs : InterpInv s) :
    s.process (a ++ b) = (((s.process a).1.process b).1, (s.process a).2 ++ ((s.process a).1.process b).2) := by
  simp only [interp_process_eq, hand_hand, Array.size_append, Nat.add_mul]
  exact congrArg (Prod.mk _) <| tabF_read_split zero (polyAt s.L s.sub s.h (· / s.L)) s.d a b _ _
    (fun r r' o ho hr => polyAt_congr _ _ _ _ r r' o fun t ht => hr t (by
      have := Nat.div_lt_of_lt_mul (Nat.mul_comm _ _ ▸ ho); have := hs; unfold InterpInv at this; omega))
    (fun r o ho => polyAt_shift _ _ _ _ r a.size o _ (mul_add_div_right (Nat.pos_of_lt_mul_left ho) _ _))

theorem interp_nil (s : Interp α) : s.process #[] = (s, #[]) := by
  simp [interp_process_eq, hand_empty, tabF_zero]

/-- **T06 FIRInterpolator, every framing.** -/
theorem interp_framing (L : Nat) (h : Array α) (frames : List (Array α)) :
    runFrames #[] Interp.process (Interp.init L h) frames = (Interp.init L h).process (concat #[] frames) :=
  framing_of_split_inv #[] #[] Interp.process InterpInv (fun s _ => interp_nil s) interp_inv_step interp_split
    (Interp.init L h) (interp_init_inv L h) frames

/-! ### FIRDecimator -/

/-- `decim ≥ 1`, `d_` holds `decim·(sublen - 1)` samples -/
def DecimInv (s : Decim α) : Prop := 0 < s.M ∧ s.d.size = s.M * (s.sub - 1)

theorem decim_init_inv (M : Nat) (h : Array α) (hM : 0 < M) : DecimInv (Decim.init M h) := by
  simp [DecimInv, Decim.init, zeros, tab, hM]

/-- output `i` of the decimator when the work buffer is read through `r`: cells `i·M .. (i + sublen)·M - 1` -/
def decimAt (M sub : Nat) (h : Array (Array α)) (r : Nat → α) (i : Nat) : α :=
  loopN (fun k a => accN (fun j => r (i * M + k + j * M) * elem (row h k) j) sub a) M zero

theorem decim_process_ok (s : Decim α) (x : Array α) (hx : x.size % s.M = 0) :
    s.process x = .ok ({ s with d := hand s.d x },
      tabF (x.size / s.M) (decimAt s.M s.sub s.h fun t => (s.d ++ x).getD t zero)) := by
  unfold Decim.process
  rw [if_neg (by simpa using hx)]
  rfl

/-- **T06 FIRDecimator (split law)**: frames whose lengths are multiples of `decim` (the documented granularity; any other
length throws). -/
theorem decim_split (s : Decim α) (a b : Array α) (hs : DecimInv s) (ha : a.size % s.M = 0) (hb : b.size % s.M = 0) :
    s.process (a ++ b) =
      (s.process a).bind fun r => (r.1.process b).map fun q => (q.1, r.2 ++ q.2) := by
  have hda := Nat.div_mul_cancel (Nat.dvd_of_mod_eq_zero ha)
  rw [decim_process_ok s a ha, decim_process_ok s (a ++ b) (size_append_mod ha hb)]
  simp only [Except.bind]
  rw [decim_process_ok { s with d := hand s.d a } b hb]
  simp only [Except.map, hand_hand, Array.size_append, Nat.add_div_of_dvd_right (Nat.dvd_of_mod_eq_zero ha)]
  exact congrArg (fun y => Except.ok (_, y)) <| tabF_read_split zero (decimAt s.M s.sub s.h) s.d a b _ _
    (fun r r' i hi hr => loopN_congr _ _ _ (fun k hk acc => accN_congr _ _ _ (fun j hj => by
      rw [hr _ (by rw [hs.2, ← hda]; exact decim_reach s.M s.sub hi hk hj)]) acc) _)
    (fun r i _ => by simp only [decimAt, Nat.add_mul, hda, Nat.add_assoc])

theorem decim_nil (s : Decim α) : s.process #[] = .ok (s, #[]) := by
  rw [decim_process_ok s #[] (Nat.zero_mod _)]
  simp [hand_empty, tabF_zero]

theorem decim_inv_step (s : Decim α) (a : Array α) (r : Decim α × Array α) (hs : DecimInv s) (ha : a.size % s.M = 0)
    (hr : s.process a = .ok r) : DecimInv r.1 ∧ r.1.M = s.M := by
  rw [decim_process_ok s a ha] at hr
  cases hr
  exact ⟨⟨hs.1, (size_hand _ _).trans hs.2⟩, rfl⟩

/-- **T06 FIRDecimator, every framing** into frames of `k·M` samples. -/
theorem decim_framing (M : Nat) (h : Array α) (hM : 0 < M) (frames : List (Array α)) (hfr : ∀ f ∈ frames, f.size % M = 0) :
    runFramesE #[] Decim.process (Decim.init M h) frames = (Decim.init M h).process (concat #[] frames) :=
  framing_granular Decim.process DecimInv (·.M) (fun s _ => decim_nil s) decim_inv_step decim_split _
    (decim_init_inv M h hM) frames hfr

/-! ### FIRRateConverter -/

/-- `decim ≥ 1`, `d_` holds `sublen - 1` samples, every input offset `xidxs_[k]` is below `decim` -/
def RateInv (s : RateConv α) : Prop :=
  0 < s.M ∧ s.d.size = s.sub - 1 ∧ ∀ r, r < s.L → s.xi.getD r 0 < s.M

/-- the constructor establishes it: the schedule offsets are `((r+1)·M - 1) / L < M` (`C08.rateconv_schedule`) -/
theorem rate_init_inv (L M : Nat) (h : Array α) (hM : 0 < M) : RateInv (RateConv.init L M h) := by
  refine ⟨hM, by simp [RateConv.init, zeros, tab], ?_⟩
  intro r hr
  have hr' : r < L := hr
  have hL : 0 < L := by omega
  show ((schedule L M).map fun p => p.2).toArray.getD r 0 < M
  rw [C08.rateconv_schedule L M hL hM]
  simp [hr']
  exact (C08.phasePair_lt L M r hL hM hr').2

def rateOff (L M : Nat) (xi : Array Nat) (o : Nat) : Nat := o / L * M + xi.getD (o % L) 0

theorem rateOff_shift (L M : Nat) (xi : Array Nat) (q o A : Nat) (hL : 0 < L) (hA : q * M = A) :
    rateOff L M xi (q * L + o) = A + rateOff L M xi o := by
  simp only [rateOff, ← hA, mul_add_div_right hL, Nat.mul_add_mod_self_right, Nat.add_mul, Nat.add_assoc]

theorem rate_process_ok (s : RateConv α) (x : Array α) (hx : x.size % s.M = 0) :
    s.process x = .ok ({ s with d := hand s.d x },
      tabF (x.size / s.M * s.L) (polyAt s.L s.sub s.h (rateOff s.L s.M s.xi) fun t => (s.d ++ x).getD t zero)) := by
  unfold RateConv.process
  rw [if_neg (by simpa using hx)]
  rfl

/-- **T06 FIRRateConverter (split law)**: frames whose lengths are multiples of `decim`; every `L`, `M ≥ 1` (reduced or
not), every coefficient table, every scalar type. -/
theorem rate_split (s : RateConv α) (a b : Array α) (hs : RateInv s) (ha : a.size % s.M = 0) (hb : b.size % s.M = 0) :
    s.process (a ++ b) =
      (s.process a).bind fun r => (r.1.process b).map fun q => (q.1, r.2 ++ q.2) := by
  have hda := Nat.div_mul_cancel (Nat.dvd_of_mod_eq_zero ha)
  rw [rate_process_ok s a ha, rate_process_ok s (a ++ b) (size_append_mod ha hb)]
  simp only [Except.bind]
  rw [rate_process_ok { s with d := hand s.d a } b hb]
  simp only [Except.map, hand_hand, Array.size_append, Nat.add_div_of_dvd_right (Nat.dvd_of_mod_eq_zero ha), Nat.add_mul]
  exact congrArg (fun y => Except.ok (_, y)) <|
    tabF_read_split zero (polyAt s.L s.sub s.h (rateOff s.L s.M s.xi)) s.d a b _ _
    (fun r r' o ho hr => polyAt_congr _ _ _ _ r r' o fun t ht => hr t (by
      have := rate_reach s.M s.sub (Nat.div_lt_of_lt_mul (Nat.mul_comm _ _ ▸ ho))
        (hs.2.2 (o % s.L) (Nat.mod_lt _ (Nat.pos_of_lt_mul_left ho)))
      have := hs.2.1; unfold rateOff at ht; omega))
    (fun r o ho => polyAt_shift _ _ _ _ r _ o _ (rateOff_shift _ _ _ _ o _ (Nat.pos_of_lt_mul_left ho) hda))

theorem rate_nil (s : RateConv α) : s.process #[] = .ok (s, #[]) := by
  rw [rate_process_ok s #[] (Nat.zero_mod _)]
  simp [hand_empty, tabF_zero]

theorem rate_inv_step (s : RateConv α) (a : Array α) (r : RateConv α × Array α) (hs : RateInv s) (ha : a.size % s.M = 0)
    (hr : s.process a = .ok r) : RateInv r.1 ∧ r.1.M = s.M := by
  rw [rate_process_ok s a ha] at hr
  cases hr
  exact ⟨⟨hs.1, (size_hand _ _).trans hs.2.1, hs.2.2⟩, rfl⟩

/-- **T06 FIRRateConverter, every framing** into frames of `k·M` samples. -/
theorem rate_framing (L M : Nat) (h : Array α) (hM : 0 < M) (frames : List (Array α)) (hfr : ∀ f ∈ frames, f.size % M = 0) :
    runFramesE #[] RateConv.process (RateConv.init L M h) frames = (RateConv.init L M h).process (concat #[] frames) :=
  framing_granular RateConv.process RateInv (·.M) (fun s _ => rate_nil s) rate_inv_step rate_split _
    (rate_init_inv L M h hM) frames hfr

/-! ### FIRResampler (wrapper) -/

/-- the wrapped converter is in a reachable state -/
def RsInv : Rs α → Prop
  | .bypass => True
  | .dec s => DecimInv s
  | .int s => InterpInv s
  | .rc s => RateInv s

/-- **T06 FIRResampler (split law)**: frames whose lengths are multiples of `decim_rate()`. -/
theorem rs_split (c : Rs α) (a b : Array α) (hc : RsInv c) (ha : a.size % c.decimRate = 0) (hb : b.size % c.decimRate = 0) :
    c.process (a ++ b) = (c.process a).bind fun r => (r.1.process b).map fun q => (q.1, r.2 ++ q.2) := by
  cases c with
  | bypass => rfl
  | dec s =>
    have h := decim_split s a b hc ha hb
    simp only [Rs.process, h, decim_process_ok s a ha, Except.bind, Except.map,
      decim_process_ok { s with d := hand s.d a } b hb]
  | int s =>
    have h := interp_split s a b hc
    simp only [Rs.process, Except.bind, Except.map, h]
  | rc s =>
    have h := rate_split s a b hc ha hb
    simp only [Rs.process, h, rate_process_ok s a ha, Except.bind, Except.map,
      rate_process_ok { s with d := hand s.d a } b hb]

theorem rs_inv_step (c : Rs α) (a : Array α) (r : Rs α × Array α) (hc : RsInv c) (ha : a.size % c.decimRate = 0)
    (hr : c.process a = .ok r) : RsInv r.1 ∧ r.1.decimRate = c.decimRate := by
  cases c with
  | bypass => simp only [Rs.process] at hr; cases hr; exact ⟨trivial, rfl⟩
  | dec s =>
    simp only [Rs.process, decim_process_ok s a ha, Except.map] at hr
    cases hr
    exact decim_inv_step s a _ hc ha (decim_process_ok s a ha)
  | int s =>
    simp only [Rs.process] at hr
    cases hr
    exact ⟨interp_inv_step s a hc, rfl⟩
  | rc s =>
    simp only [Rs.process, rate_process_ok s a ha, Except.map] at hr
    cases hr
    exact rate_inv_step s a _ hc ha (rate_process_ok s a ha)

theorem rs_nil (c : Rs α) (hc : RsInv c) : c.process #[] = .ok (c, #[]) := by
  cases c with
  | bypass => rfl
  | dec s => simp only [Rs.process, decim_nil, Except.map]
  | int s => simp only [Rs.process, interp_nil]
  | rc s => simp only [Rs.process, rate_nil, Except.map]

/-- the constructor `FIRResampler(out_fs, in_fs, h)` yields a reachable state (`in_fs ≥ 1`) -/
theorem rs_init_inv (outFs inFs : Nat) (h : Array α) (hq : 0 < inFs) : RsInv (Rs.init outFs inFs h) := by
  unfold Rs.init
  simp only []
  split
  · trivial
  · split
    · rename_i h2
      exact decim_init_inv _ h (by omega)
    · split
      · exact interp_init_inv _ h
      · refine rate_init_inv _ _ h ?_
        show 0 < (simplify outFs inFs).2
        unfold simplify
        exact Nat.div_pos (Nat.le_of_dvd hq (Nat.gcd_dvd_right _ _)) (Nat.gcd_pos_of_pos_right _ hq)

/-- **T06 FIRResampler, every framing** into frames of `k · decim_rate()` samples (bypass, decimator, interpolator or
rate converter, whichever the constructor selected). -/
theorem rs_framing (c : Rs α) (hc : RsInv c) (frames : List (Array α)) (hfr : ∀ f ∈ frames, f.size % c.decimRate = 0) :
    runFramesE #[] Rs.process c frames = c.process (concat #[] frames) :=
  framing_granular Rs.process RsInv Rs.decimRate rs_nil rs_inv_step rs_split c hc frames hfr

end resample

/-! ## T06.k — MedianFilter, LMS / NLMS, RLS (from the owners' theorems) -/
section median
open Dsp.Order
variable {β : Type} [LT β] [DecidableRel (· < · : β → β → Prop)] [BEq β]

/-- **T06 MedianFilter (split law)** = `C16.process_append`: every order, every `avg`, every ordered sample type. -/
theorem median_split (avg : β → β → β) : Splits (MF.process avg) :=
  fun st a b => C16.process_append avg a b st

/-- **T06 MedianFilter, every framing** (T06.all instantiated; cf. `C16.processFrames_eq`). -/
theorem median_framing (avg : β → β → β) (st : MF β) (frames : List (List β)) :
    runFrames [] (MF.process avg) st frames = st.process avg (concat [] frames) :=
  framing_of_split [] [] (MF.process avg) (fun _ => rfl) (median_split avg) st frames

end median

section adaptive
open Dsp.Adaptive Dsp.Adaptive.Mixed
variable {ρ τ : Type} [Add ρ] [Div ρ] [Fn ρ] [Add τ] [Sub τ] [Mul τ] [Div τ] [Mixed ρ τ]

/-- a frame of an adaptive filter: input `x` and desired signal `d` (also used for the result: `y`, `e`) -/
structure Pair (τ : Type) where
  x : Array τ
  d : Array τ

instance : Append (Pair τ) := ⟨fun a b => ⟨a.x ++ b.x, a.d ++ b.d⟩⟩
@[simp] theorem pair_append_x (a b : Pair τ) : (a ++ b).x = a.x ++ b.x := rfl
@[simp] theorem pair_append_d (a b : Pair τ) : (a ++ b).d = a.d ++ b.d := rfl

/-- `LmsFilter::process` on a frame `(x, d)`, result `(y, e)` -/
def lmsP (p : LmsP ρ) (s : LmsState τ) (f : Pair τ) : Except String (LmsState τ × Pair τ) :=
  (lmsProcess p s f.x f.d).map fun r => (r.1, ⟨r.2.1, r.2.2⟩)

/-- `len ≥ 1`, `_u` holds `len - 1` samples, `_w` holds `len` coefficients -/
def LmsInv (p : LmsP ρ) (s : LmsState τ) : Prop := 1 ≤ p.len ∧ s.u.size = p.len - 1 ∧ s.w.size = p.len

/-- **T06 LMS / NLMS (split law)** from `C12.lms_framing`: outputs, errors, coefficients and history; locked or not. -/
theorem lms_split (p : LmsP ρ) (s : LmsState τ) (a b : Pair τ) (hs : LmsInv p s)
    (ha : a.x.size = a.d.size) (hb : b.x.size = b.d.size) :
    lmsP p s (a ++ b) = (lmsP p s a).bind fun r => (lmsP p r.1 b).map fun q => (q.1, r.2 ++ q.2) := by
  obtain ⟨h1, h2, h3⟩ := hs
  obtain ⟨s1, y1, e1, r1, _, w1, u1, _⟩ := C12.lms_refines p s a.x a.d h1 h2 h3 ha
  obtain ⟨s2, y2, e2, r2, _⟩ := C12.lms_refines p s1 b.x b.d h1 u1 w1 hb
  have := C12.lms_framing p s s1 s2 a.x a.d y1 e1 b.x b.d y2 e2 h1 h2 h3 r1 r2
  simp only [lmsP, pair_append_x, pair_append_d, this, r1, Except.map, Except.bind, r2]
  rfl

theorem lms_nil (p : LmsP ρ) (s : LmsState τ) (hs : LmsInv p s) : lmsP p s ⟨#[], #[]⟩ = .ok (s, ⟨#[], #[]⟩) := by
  have hu : (s.u ++ #[]).extract 0 (0 + p.len - 1) = s.u := by
    rw [Array.append_empty, Nat.zero_add, ← hs.2.1, Array.extract_size]
  simp only [lmsP, lmsProcess, ne_eq, not_true_eq_false, if_false, Array.size_empty, List.range_zero, List.foldl_nil,
    Except.map, hu]

/-- **T06 LMS / NLMS, every framing** of a stream of `(x, d)` pairs (each frame with `len x = len d`). -/
theorem lms_framing_all (p : LmsP ρ) (s : LmsState τ) (hs : LmsInv p s) (frames : List (Pair τ))
    (hfr : ∀ f ∈ frames, f.x.size = f.d.size) :
    runFramesE ⟨#[], #[]⟩ (lmsP p) s frames = lmsP p s (concat ⟨#[], #[]⟩ frames) := by
  refine framing_invariant_except ⟨#[], #[]⟩ ⟨#[], #[]⟩ (lmsP p) (LmsInv p) (fun f => f.x.size = f.d.size)
    (lms_nil p) rfl ?_ ?_ ?_ s hs frames hfr
  · intro a b ha hb; simp [ha, hb]
  · rintro s a r ⟨h1, h2, h3⟩ ha hr
    obtain ⟨s1, y1, e1, r1, _, w1, u1, _⟩ := C12.lms_refines p s a.x a.d h1 h2 h3 ha
    simp only [lmsP, r1, Except.map] at hr
    cases hr
    exact ⟨h1, u1, w1⟩
  · intro s a b hs ha hb; exact lms_split p s a b hs ha hb

/-- `RlsFilter::process` on a frame `(x, d)`, result `(y, e)` -/
def rlsP (P : RlsP ρ) (s : RlsState τ) (f : Pair τ) : Except String (RlsState τ × Pair τ) :=
  (rlsProcess P s f.x f.d).map fun r => (r.1, ⟨r.2.1, r.2.2⟩)

/-- **T06 RLS (split law)** from `C12.rls_refines` + `C12.runR_append`: every order, every state (`_u`, `_w`, `_p`). -/
theorem rls_split (P : RlsP ρ) (s : RlsState τ) (a b : Pair τ)
    (ha : a.x.size = a.d.size) (hb : b.x.size = b.d.size) :
    rlsP P s (a ++ b) = (rlsP P s a).bind fun r => (rlsP P r.1 b).map fun q => (q.1, r.2 ++ q.2) := by
  obtain ⟨s1, y1, e1, r1, rfl, hy1, he1⟩ := C12.rls_refines P s a.x a.d ha
  obtain ⟨s2, y2, e2, r2, rfl, hy2, he2⟩ := C12.rls_refines P _ b.x b.d hb
  obtain ⟨s3, y3, e3, r3, rfl, hy3, he3⟩ := C12.rls_refines P s (a.x ++ b.x) (a.d ++ b.d) (by simp [ha, hb])
  have hzip : (a.x ++ b.x).toList.zip (a.d ++ b.d).toList = a.x.toList.zip a.d.toList ++ b.x.toList.zip b.d.toList := by
    simp only [Array.toList_append]
    exact List.zip_append (by simpa using ha)
  rw [hzip, C12.runR_append] at hy3 he3 r3
  obtain rfl : y3 = y1 ++ y2 := Array.toList_inj.mp (by rw [hy3, Array.toList_append, hy1, hy2])
  obtain rfl : e3 = e1 ++ e2 := Array.toList_inj.mp (by rw [he3, Array.toList_append, he1, he2])
  simp only [rlsP, pair_append_x, pair_append_d, r3, r1, Except.map, Except.bind, r2]
  rfl

theorem rls_nil (P : RlsP ρ) (s : RlsState τ) : rlsP P s ⟨#[], #[]⟩ = .ok (s, ⟨#[], #[]⟩) := by
  simp [rlsP, rlsProcess, Except.map]

/-- **T06 RLS, every framing.** -/
theorem rls_framing_all (P : RlsP ρ) (s : RlsState τ) (frames : List (Pair τ)) (hfr : ∀ f ∈ frames, f.x.size = f.d.size) :
    runFramesE ⟨#[], #[]⟩ (rlsP P) s frames = rlsP P s (concat ⟨#[], #[]⟩ frames) :=
  framing_invariant_except ⟨#[], #[]⟩ ⟨#[], #[]⟩ (rlsP P) (fun _ => True) (fun f => f.x.size = f.d.size)
    (fun s _ => rls_nil P s) rfl (fun a b ha hb => by simp [ha, hb]) (fun _ _ _ _ _ _ => trivial)
    (fun s a b _ ha hb => rls_split P s a b ha hb) s trivial frames hfr

end adaptive

/-! ## every framing — the fold processors -/
section foldframings
variable {α : Type} [Add α] [Sub α] [Mul α] [Div α] [Neg α] [LT α] [LE α] [Fn α]
  [DecidableRel (· < · : α → α → Prop)] [DecidableRel (· ≤ · : α → α → Prop)]
open Dsp.Fir Dsp.Dynamics

/-- **T06 FftFilter, every framing** (any frame lengths, also across block boundaries; from ANY state). -/
theorem fft_framing {β : Type} [Add β] [Mul β] (zero : β) (fft ifft : Array β → Array β) (s : FftState β)
    (frames : List (Array β)) :
    runFrames #[] (fftProcess zero fft ifft) s frames = fftProcess zero fft ifft s (concat #[] frames) :=
  framing_of_split #[] #[] (fftProcess zero fft ifft) (fun _ => rfl) (fft_split zero fft ifft) s frames

/-- **T06 MAFilter, every framing.** -/
theorem ma_framing {β : Type} [Add β] [Sub β] (zero : β) (divn : β → Nat → β) (s : MaState β) (frames : List (Array β)) :
    runFrames #[] (maProcess zero divn) s frames = maProcess zero divn s (concat #[] frames) :=
  framing_of_split #[] #[] (maProcess zero divn) (fun _ => rfl) (ma_split zero divn) s frames

/-- **T06 Tuner, every framing.** -/
theorem tuner_framing (p : Tuner α) (ph : Nat) (frames : List (Array (Cx α))) :
    runFrames #[] p.process ph frames = p.process ph (concat #[] frames) :=
  framing_of_split #[] #[] p.process (fun _ => rfl) (tuner_split p) ph frames

/-- the two output arrays (`gain`, `out`) of the dynamics processors, concatenated component-wise -/
scoped instance instAppendArrayPair {A B : Type} : Append (Array A × Array B) := ⟨fun p q => (p.1 ++ q.1, p.2 ++ q.2)⟩

/-- **T06 Compressor / Limiter (split law)**: `processWith` is the sample loop of both; state `gs_`. -/
theorem processWith_split (stp : α → α → Step α) : Splits (processWith stp) :=
  fold_split_pair _ (by intros; simp)

/-- **T06 NoiseGate (split law)**; state `cA_` (hold counter), `lg_`. -/
theorem gate_split (p : Gate α) : Splits (Gate.process p) :=
  fold_split_pair _ (by intros; simp)

/-- **T06 Agc (split law)**, real and complex signals; state = log-gain and the moving-average filter of the power. -/
theorem agcR_split (p : Agc α) : Splits (Agc.processR p) :=
  fold_split_pair _ (by intros; simp)

theorem agcC_split (p : Agc α) : Splits (Agc.processC p) :=
  fold_split_pair _ (by intros; simp)

/-- **T06 Compressor / Limiter, every framing.** -/
theorem processWith_framing (stp : α → α → Step α) (gs : α) (frames : List (Array α)) :
    runFrames (#[], #[]) (processWith stp) gs frames = processWith stp gs (concat #[] frames) :=
  framing_of_split #[] (#[], #[]) (processWith stp) (fun _ => rfl) (processWith_split stp) gs frames

/-- **T06 NoiseGate, every framing.** -/
theorem gate_framing (p : Gate α) (s : GateState α) (frames : List (Array α)) :
    runFrames (#[], #[]) (Gate.process p) s frames = Gate.process p s (concat #[] frames) :=
  framing_of_split #[] (#[], #[]) (Gate.process p) (fun _ => rfl) (gate_split p) s frames

/-- **T06 Agc (real), every framing.** -/
theorem agcR_framing (p : Agc α) (s : AgcState α) (frames : List (Array α)) :
    runFrames (#[], #[]) (Agc.processR p) s frames = Agc.processR p s (concat #[] frames) :=
  framing_of_split #[] (#[], #[]) (Agc.processR p) (fun _ => rfl) (agcR_split p) s frames

/-- **T06 Agc (complex), every framing.** -/
theorem agcC_framing (p : Agc α) (s : AgcState α) (frames : List (Array (Cx α))) :
    runFrames (#[], #[]) (Agc.processC p) s frames = Agc.processC p s (concat #[] frames) :=
  framing_of_split #[] (#[], #[]) (Agc.processC p) (fun _ => rfl) (agcC_split p) s frames

end foldframings

/-! ## non-vacuity: the hypotheses are met by concrete, non-trivial objects -/
section examples
open Dsp.Fir Dsp.Resample

/-- a 3-tap FIR over `Int`, stream `1..5` cut as `[1] [2,3] [] [4,5]`: same as one call -/
example : (runFrames #[] (process (0 : Int) id) (init 0 #[1, 2, 3]) [#[1], #[2, 3], #[], #[4, 5]]).2
    = (process (0 : Int) id (init 0 #[1, 2, 3]) #[1, 2, 3, 4, 5]).2 := by decide +kernel

example : (process (0 : Int) id (init 0 #[1, 2, 3]) #[1, 2, 3, 4, 5]).2 = #[1, 4, 10, 16, 22] := by decide +kernel

example : FirInv (init (0 : Int) #[1, 2, 3]) := fir_init_inv 0 _ (by decide)

/-- a delay line of 2 cells fed `[7] [8, 9]` -/
example : (runFrames #[] delayProcess (#[0, 0] : Array Nat) [#[7], #[8, 9]]).2 = #[0, 0, 7] := by decide +kernel

/-- the rate converter's invariant is not vacuous: for `L = 3, M = 5` the offsets are `1, 3, 4`, all `< 5` -/
example : (schedule 3 5).map (·.2) = [1, 3, 4] := by decide +kernel

end examples

end Dsp.C06
