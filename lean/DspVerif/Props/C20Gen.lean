import DspVerif.Props.C20
import DspVerif.Gen.StepsDyn
import DspVerif.Gen.CtorDyn
import DspVerif.Lib.GenBridge
/-!
# C20 — bridge: the hand-written sample-loop models ARE the regenerated loop bodies

`Gen/StepsDyn.lean` is written by `tools/cxx2lean.py` on every check run from the C++ AST of

* the `for (int i = 0; i < n; ++i) { … }` bodies of `Compressor::process`, `Limiter::process`, `NoiseGate::process`
  (with `NoiseGate::_smooth_gain`),
* the loop body of `_process<T>` of `lib/agc.cpp` (`T = real_t` and `T = cmplx_t`),
* `MAFilter<real_t>::process(const real_t&)` of `lib/ma-filter.h`

(the translator also checks that each `process` is nothing but that loop over the whole input, and the C++ types of the
data members).  This file proves that every step function of `Model/Dynamics.lean` — about which all theorems of
`Props/C20.lean` are stated — equals the generated step function, for EVERY parameter set, state and sample, and
transports one headline theorem per processor to the generated step folded over a whole signal.  A change of the
C++ loop body changes the generated term; these proofs then fail (PROOF obligation), whatever the sampled
correspondence run happens to exercise.

Shape of the statements.  The generated structures hold the C++ members with their C++ types (`int` → `Int`);
the model keeps counters as `Nat` and the gain-computer parameters in `Gen.CompressorParams`.  Conversions are
explicit (`toGen` / `ofGen`); where the model's `Nat` cannot represent a negative C++ `int` the hypothesis
`0 ≤ …` is spelled out and shown to be preserved by the step (so it holds on every reachable state).
Literals: the C++ writes `1 - wA_`, `2 * agc.gain` with `int` literals (`Fn.ofInt 1`), the model `Fn.ofNat 1`;
the generic-scalar bridges therefore carry the hypothesis `Fn.ofInt 1 = Fn.ofNat 1` (true at `Float` and at `ℝ`), the
`ℝ` bridges have no hypothesis.
-/
namespace Dsp.C20Gen
open Dsp Dsp.Dynamics

/-! ## Folding a step function over a signal -/

section fold
variable {σ τ X A B : Type}

/-- one loop iteration on the accumulator (state, `gain` so far, `out` so far) -/
def pushStep (f : σ → X → σ × A × B) (acc : σ × Array A × Array B) (xi : X) : σ × Array A × Array B :=
  ((f acc.1 xi).1, acc.2.1.push (f acc.1 xi).2.1, acc.2.2.push (f acc.1 xi).2.2)

/-- `for (int i = 0; i < n; ++i) BODY` with `BODY = f`: final state, all gains, all outputs -/
def run (f : σ → X → σ × A × B) (s : σ) (x : Array X) : σ × Array A × Array B :=
  x.foldl (pushStep f) (s, Array.mkEmpty x.size, Array.mkEmpty x.size)

/-- two step functions that agree through a state conversion `φ` on an invariant `I` of the model-side state
(needed where the conversion is faithful only on `I`) give the same run -/
theorem run_map_inv (f : σ → X → σ × A × B) (g : τ → X → τ × A × B) (φ : τ → σ) (I : τ → Prop)
    (hI : ∀ t x, I t → I (g t x).1)
    (h : ∀ t x, I t → f (φ t) x = (φ (g t x).1, (g t x).2)) (t : τ) (ht : I t) (x : Array X) :
    run f (φ t) x = (φ (run g t x).1, (run g t x).2) := by
  unfold run
  rw [← Array.foldl_toList, ← Array.foldl_toList]
  exact (GenBridge.foldl_rel (fun (a : σ × Array A × Array B) (b : τ × Array A × Array B) => I b.1 ∧ a = (φ b.1, b.2))
    (pushStep f) (pushStep g)
    (fun a b xi hab => by
      obtain ⟨hb, rfl⟩ := hab
      exact ⟨hI _ xi hb, by simp only [pushStep, h _ xi hb]⟩) x.toList _ (t, _, _) ⟨ht, rfl⟩).2

/-- two step functions that agree through a state conversion `φ` give the same run -/
theorem run_map (f : σ → X → σ × A × B) (g : τ → X → τ × A × B) (φ : τ → σ)
    (h : ∀ t x, f (φ t) x = (φ (g t x).1, (g t x).2)) (t : τ) (x : Array X) :
    run f (φ t) x = (φ (run g t x).1, (run g t x).2) :=
  run_map_inv f g φ (fun _ => True) (fun _ _ _ => trivial) (fun t x _ => h t x) t trivial x

end fold

/-- what the headline theorems say about the two output arrays of a run over the signal `x`: sizes agree, every
emitted gain satisfies `G`, `out[i] = x[i]·gain[i]` and `|out[i]| ≤ |x[i]|` (the processor never amplifies) -/
def GainsIn (G : ℝ → Prop) (x : Array ℝ) (r : Array ℝ × Array ℝ) : Prop :=
  ∃ (_ : r.1.size = x.size) (_ : r.2.size = x.size),
    ∀ i (hi : i < x.size), G (r.1[i]) ∧ r.2[i] = x[i] * r.1[i] ∧ |r.2[i]| ≤ |x[i]|

/-- the model's loops are `run` of the model's steps (definitional) -/
theorem processWith_eq_run {α : Type} (stp : α → α → Step α) (gs : α) (x : Array α) :
    processWith stp gs x = run (fun g xi => ((stp g xi).gs, (stp g xi).gain, (stp g xi).out)) gs x := rfl

/-! ## Compressor -/

section generic
variable {α : Type} [Add α] [Sub α] [Mul α] [Div α] [Neg α] [LT α] [LE α] [Fn α]
  [DecidableRel (· < · : α → α → Prop)] [DecidableRel (· ≤ · : α → α → Prop)]

/-- generated parameter record ↦ the model's (`T_ R_ W_` regrouped as the gain computer's record) -/
def Comp.ofGen (q : Gen.CompressorStepParams α) : Comp α :=
  { gp := { T := q.T, R := q.R, W := q.W }, wA := q.wA, wR := q.wR }

def Comp.toGen (p : Comp α) : Gen.CompressorStepParams α :=
  { T := p.gp.T, R := p.gp.R, W := p.gp.W, wA := p.wA, wR := p.wR }

omit [Add α] [Sub α] [Mul α] [Div α] [Neg α] [LT α] [LE α] [Fn α] [DecidableRel (· < · : α → α → Prop)]
  [DecidableRel (· ≤ · : α → α → Prop)] in
theorem Comp.ofGen_toGen (p : Comp α) : Comp.ofGen (Comp.toGen p) = p := rfl

omit [Add α] [Sub α] [Mul α] [Div α] [Neg α] [LT α] [LE α] [Fn α] [DecidableRel (· < · : α → α → Prop)]
  [DecidableRel (· ≤ · : α → α → Prop)] in
theorem Comp.toGen_ofGen (q : Gen.CompressorStepParams α) : Comp.toGen (Comp.ofGen q) = q := rfl

omit [Neg α] in
/-- **bridge, Compressor, every scalar type:** the generated loop body of `Compressor::process` is the model's
`Comp.step`, for every parameter record, every `gs_`, every sample (`eps()` = the model's `eps`). -/
theorem compressorStep_eq_generic (h1 : (Fn.ofInt (1 : Int) : α) = Fn.ofNat 1)
    (q : Gen.CompressorStepParams α) (s : Gen.CompressorStepState α) (x : α) :
    Gen.compressorStep eps q s x =
      (⟨(Comp.step (Comp.ofGen q) s.gs x).gs⟩, (Comp.step (Comp.ofGen q) s.gs x).gain,
        (Comp.step (Comp.ofGen q) s.gs x).out) := by
  simp only [Gen.compressorStep, Comp.step, smooth, Comp.ofGen, h1]
  split_ifs with h <;> simp only [h, if_true, if_false]

/-! ## Limiter -/

def Lim.ofGen (q : Gen.LimiterStepParams α) : Lim α :=
  { gp := { T := q.T, W := q.W }, wA := q.wA, wR := q.wR }

def Lim.toGen (p : Lim α) : Gen.LimiterStepParams α :=
  { T := p.gp.T, W := p.gp.W, wA := p.wA, wR := p.wR }

omit [Add α] [Sub α] [Mul α] [Div α] [Neg α] [LT α] [LE α] [Fn α] [DecidableRel (· < · : α → α → Prop)]
  [DecidableRel (· ≤ · : α → α → Prop)] in
theorem Lim.ofGen_toGen (p : Lim α) : Lim.ofGen (Lim.toGen p) = p := rfl

omit [Add α] [Sub α] [Mul α] [Div α] [Neg α] [LT α] [LE α] [Fn α] [DecidableRel (· < · : α → α → Prop)]
  [DecidableRel (· ≤ · : α → α → Prop)] in
theorem Lim.toGen_ofGen (q : Gen.LimiterStepParams α) : Lim.toGen (Lim.ofGen q) = q := rfl

omit [Neg α] in
/-- **bridge, Limiter, every scalar type** -/
theorem limiterStep_eq_generic (h1 : (Fn.ofInt (1 : Int) : α) = Fn.ofNat 1)
    (q : Gen.LimiterStepParams α) (s : Gen.LimiterStepState α) (x : α) :
    Gen.limiterStep eps q s x =
      (⟨(Lim.step (Lim.ofGen q) s.gs x).gs⟩, (Lim.step (Lim.ofGen q) s.gs x).gain,
        (Lim.step (Lim.ofGen q) s.gs x).out) := by
  simp only [Gen.limiterStep, Lim.step, smooth, Lim.ofGen, h1]
  split_ifs with h <;> simp only [h, if_true, if_false]

end generic

noncomputable section

/-- **bridge, Compressor, at `ℝ`** (no hypothesis): `Gen.compressorStep = Comp.step` -/
theorem compressorStep_eq (q : Gen.CompressorStepParams ℝ) (s : Gen.CompressorStepState ℝ) (x : ℝ) :
    Gen.compressorStep eps q s x =
      (⟨(Comp.step (Comp.ofGen q) s.gs x).gs⟩, (Comp.step (Comp.ofGen q) s.gs x).gain,
        (Comp.step (Comp.ofGen q) s.gs x).out) :=
  compressorStep_eq_generic (by simp) q s x

/-- the same read from the model's side: every model parameter record and state -/
theorem Comp.step_eq_gen (p : Comp ℝ) (gs x : ℝ) :
    Gen.compressorStep eps (Comp.toGen p) ⟨gs⟩ x =
      (⟨(Comp.step p gs x).gs⟩, (Comp.step p gs x).gain, (Comp.step p gs x).out) :=
  compressorStep_eq (Comp.toGen p) ⟨gs⟩ x

/-- **whole signal:** the generated loop body folded over the input is the model's `processWith (Comp.step …)` -/
theorem compressor_run_eq (q : Gen.CompressorStepParams ℝ) (s : Gen.CompressorStepState ℝ) (x : Array ℝ) :
    run (Gen.compressorStep eps q) s x =
      (⟨(processWith (Comp.step (Comp.ofGen q)) s.gs x).1⟩, (processWith (Comp.step (Comp.ofGen q)) s.gs x).2) := by
  rw [processWith_eq_run]
  exact run_map (Gen.compressorStep eps q) _ (fun g => (⟨g⟩ : Gen.CompressorStepState ℝ))
    (fun g xi => compressorStep_eq q ⟨g⟩ xi) s.gs x

/-- the generated parameter records the `Compressor` constructor can produce -/
def CompressorAdmissible (q : Gen.CompressorStepParams ℝ) : Prop := C20.Comp.Admissible (Comp.ofGen q)

/-- **T20.1 transported to the regenerated code, Compressor.**  For every admitted parameter record, every `gs_ ≤ 0`
(initially `0`) and EVERY input signal, running the GENERATED loop body of `Compressor::process` over the signal keeps
`gs_ ≤ 0`, every emitted gain lies in `(0, 1]`, `out[i] = x[i]·gain[i]` and `|out[i]| ≤ |x[i]|`. -/
theorem compressor_gen_gain_range (q : Gen.CompressorStepParams ℝ) (hq : CompressorAdmissible q)
    (s : Gen.CompressorStepState ℝ) (hs : s.gs ≤ 0) (x : Array ℝ) :
    (run (Gen.compressorStep eps q) s x).1.gs ≤ 0 ∧
      GainsIn (fun g => 0 < g ∧ g ≤ 1) x (run (Gen.compressorStep eps q) s x).2 := by
  rw [compressor_run_eq]
  obtain ⟨hgs, h1, h2, h⟩ := C20.Comp.gain_range hq hs x
  exact ⟨hgs, h1, h2, fun i hi => ⟨⟨(h i hi).1, (h i hi).2.1⟩, (h i hi).2.2.1, (h i hi).2.2.2⟩⟩

/-! ## Limiter at `ℝ` -/

theorem limiterStep_eq (q : Gen.LimiterStepParams ℝ) (s : Gen.LimiterStepState ℝ) (x : ℝ) :
    Gen.limiterStep eps q s x =
      (⟨(Lim.step (Lim.ofGen q) s.gs x).gs⟩, (Lim.step (Lim.ofGen q) s.gs x).gain,
        (Lim.step (Lim.ofGen q) s.gs x).out) :=
  limiterStep_eq_generic (by simp) q s x

theorem Lim.step_eq_gen (p : Lim ℝ) (gs x : ℝ) :
    Gen.limiterStep eps (Lim.toGen p) ⟨gs⟩ x =
      (⟨(Lim.step p gs x).gs⟩, (Lim.step p gs x).gain, (Lim.step p gs x).out) :=
  limiterStep_eq (Lim.toGen p) ⟨gs⟩ x

theorem limiter_run_eq (q : Gen.LimiterStepParams ℝ) (s : Gen.LimiterStepState ℝ) (x : Array ℝ) :
    run (Gen.limiterStep eps q) s x =
      (⟨(processWith (Lim.step (Lim.ofGen q)) s.gs x).1⟩, (processWith (Lim.step (Lim.ofGen q)) s.gs x).2) := by
  rw [processWith_eq_run]
  exact run_map (Gen.limiterStep eps q) _ (fun g => (⟨g⟩ : Gen.LimiterStepState ℝ))
    (fun g xi => limiterStep_eq q ⟨g⟩ xi) s.gs x

def LimiterAdmissible (q : Gen.LimiterStepParams ℝ) : Prop := C20.Lim.Admissible (Lim.ofGen q)

/-- **T20.1 transported to the regenerated code, Limiter** -/
theorem limiter_gen_gain_range (q : Gen.LimiterStepParams ℝ) (hq : LimiterAdmissible q)
    (s : Gen.LimiterStepState ℝ) (hs : s.gs ≤ 0) (x : Array ℝ) :
    (run (Gen.limiterStep eps q) s x).1.gs ≤ 0 ∧
      GainsIn (fun g => 0 < g ∧ g ≤ 1) x (run (Gen.limiterStep eps q) s x).2 := by
  rw [limiter_run_eq]
  obtain ⟨hgs, h1, h2, h⟩ := C20.Lim.gain_range hq hs x
  exact ⟨hgs, h1, h2, fun i hi => ⟨⟨(h i hi).1, (h i hi).2.1⟩, (h i hi).2.2.1, (h i hi).2.2.2⟩⟩

/-- **T20.3 transported (ceiling), Limiter with zero attack coefficient:** the generated loop never lets a sample
above the threshold, `|out[i]| ≤ 10^(T/20)`, for arbitrary signals, release and knee. -/
theorem limiter_gen_ceiling (q : Gen.LimiterStepParams ℝ) (hq : LimiterAdmissible q) (hA : q.wA = 0)
    (s : Gen.LimiterStepState ℝ) (x : Array ℝ) (i : Nat)
    (hi : i < (run (Gen.limiterStep eps q) s x).2.2.size) :
    (run (Gen.limiterStep eps q) s x).2.2.size = x.size ∧
      |(run (Gen.limiterStep eps q) s x).2.2[i]| ≤ Gen.db2mag q.T := by
  obtain ⟨_, h2, h⟩ := C20.Lim.ceiling hq hA s.gs x
  have e : (run (Gen.limiterStep eps q) s x).2.2 = (processWith (Lim.step (Lim.ofGen q)) s.gs x).2.2 := by
    rw [limiter_run_eq]
  simp only [e] at hi ⊢
  exact ⟨h2, h i (h2 ▸ hi)⟩

/-! ## NoiseGate

The C++ keeps `tH_` and `cA_` as `int`; the model keeps the hold time as the scalar it is converted from and the
counter as a `Nat`.  Every model state is a generated state (`GateState.toGen`), and the generated states with
`0 ≤ cA` (all reachable ones: `cA_` starts at 0 and is only incremented or reset) are exactly those. -/

def Gate.ofGen (q : Gen.NoiseGateStepParams ℝ) : Gate ℝ :=
  { tlin := q.tlin, wA := q.wA, wR := q.wR, tH := (q.tH : ℝ) }

def GateState.toGen (t : GateState ℝ) : Gen.NoiseGateStepState ℝ := { cA := (t.cA : Int), lg := t.lg }

def GateState.ofGen (s : Gen.NoiseGateStepState ℝ) : GateState ℝ := { cA := s.cA.toNat, lg := s.lg }

theorem GateState.ofGen_toGen (t : GateState ℝ) : GateState.ofGen (GateState.toGen t) = t := by
  simp [GateState.ofGen, GateState.toGen]

theorem GateState.toGen_ofGen (s : Gen.NoiseGateStepState ℝ) (h : 0 ≤ s.cA) :
    GateState.toGen (GateState.ofGen s) = s := by
  cases s
  simp_all [GateState.ofGen, GateState.toGen]

theorem natCast_lt_intCast (n : ℕ) (z : ℤ) : ((n : ℝ) < (z : ℝ)) ↔ ((n : ℤ) < z) := by
  rw [← Int.cast_natCast, Int.cast_lt]

/-- **bridge, `NoiseGate::_smooth_gain`:** the generated member function updates `cA` as the model's `Gate.smoothGain`
does, leaves `lg` alone and returns the model's new `lg`, for every parameter record, every model state, every `gc` -/
theorem noiseGateSmoothGain_eq (q : Gen.NoiseGateStepParams ℝ) (t : GateState ℝ) (gc : ℝ) :
    Gen.noiseGateSmoothGain q (GateState.toGen t) gc =
      ({ cA := ((Gate.smoothGain (Gate.ofGen q) t gc).cA : Int), lg := t.lg },
        (Gate.smoothGain (Gate.ofGen q) t gc).lg) := by
  simp only [Gen.noiseGateSmoothGain, Gate.smoothGain, Gate.ofGen, GateState.toGen, fn_ofNat, fn_ofInt,
    natCast_lt_intCast, Int.cast_one, Nat.cast_one]
  split_ifs <;> simp

/-- **bridge, NoiseGate, at `ℝ`:** the generated loop body of `NoiseGate::process` is the model's `Gate.step` -/
theorem noiseGateStep_eq (q : Gen.NoiseGateStepParams ℝ) (t : GateState ℝ) (x : ℝ) :
    Gen.noiseGateStep q (GateState.toGen t) x =
      (GateState.toGen (Gate.step (Gate.ofGen q) t x).1, (Gate.step (Gate.ofGen q) t x).2) := by
  simp only [Gen.noiseGateStep, Gate.step, noiseGateSmoothGain_eq, fn_ofNat, fn_ofInt, fn_abs, ge_iff_le,
    Nat.cast_one, Nat.cast_zero]
  by_cases hx : q.tlin ≤ |x| <;> simp [hx, GateState.toGen, Gate.ofGen]

/-- the same for every generated state with a non-negative hold counter; the step keeps it non-negative -/
theorem noiseGateStep_eq_ofGen (q : Gen.NoiseGateStepParams ℝ) (s : Gen.NoiseGateStepState ℝ) (h : 0 ≤ s.cA) (x : ℝ) :
    Gen.noiseGateStep q s x =
      (GateState.toGen (Gate.step (Gate.ofGen q) (GateState.ofGen s) x).1,
        (Gate.step (Gate.ofGen q) (GateState.ofGen s) x).2) ∧
    0 ≤ (Gen.noiseGateStep q s x).1.cA := by
  have e := noiseGateStep_eq q (GateState.ofGen s) x
  rw [GateState.toGen_ofGen s h] at e
  refine ⟨e, ?_⟩
  rw [e]
  simp [GateState.toGen]

theorem gate_run_eq (q : Gen.NoiseGateStepParams ℝ) (t : GateState ℝ) (x : Array ℝ) :
    run (Gen.noiseGateStep q) (GateState.toGen t) x =
      (GateState.toGen (Gate.process (Gate.ofGen q) t x).1, (Gate.process (Gate.ofGen q) t x).2) :=
  run_map (Gen.noiseGateStep q) (Gate.step (Gate.ofGen q)) GateState.toGen (noiseGateStep_eq q) t x

def NoiseGateAdmissible (q : Gen.NoiseGateStepParams ℝ) : Prop := C20.Gate.Admissible (Gate.ofGen q)

/-- **T20.1 transported to the regenerated code, NoiseGate:** for every admitted parameter record, every state with
`lg_ ∈ [0,1]` (initially 0) and every signal, the GENERATED loop body of `NoiseGate::process` run over the signal emits
only gains in `[0, 1]`, `out[i] = x[i]·gain[i]`, `|out[i]| ≤ |x[i]|`, and leaves `lg_ ∈ [0,1]`. -/
theorem noiseGate_gen_gain_range (q : Gen.NoiseGateStepParams ℝ) (hq : NoiseGateAdmissible q)
    (t : GateState ℝ) (ht : 0 ≤ t.lg ∧ t.lg ≤ 1) (x : Array ℝ) :
    (0 ≤ (run (Gen.noiseGateStep q) (GateState.toGen t) x).1.lg ∧
      (run (Gen.noiseGateStep q) (GateState.toGen t) x).1.lg ≤ 1) ∧
      GainsIn (fun g => 0 ≤ g ∧ g ≤ 1) x (run (Gen.noiseGateStep q) (GateState.toGen t) x).2 := by
  rw [gate_run_eq]
  obtain ⟨hlg, h1, h2, h⟩ := C20.Gate.gain_range hq ht x
  exact ⟨hlg, h1, h2, fun i hi => ⟨⟨(h i hi).1, (h i hi).2.1⟩, (h i hi).2.2.1, (h i hi).2.2.2⟩⟩

/-! ## MAFilter (`lib/ma-filter.h`) -/

def MA.toGen (m : MA ℝ) : Gen.MAFilterState ℝ := { buf := m.buf, n := (m.n : Int), pos := (m.pos : Int), accum := m.accum }

def MA.ofGen (m : Gen.MAFilterState ℝ) : MA ℝ := { buf := m.buf, n := m.n.toNat, pos := m.pos.toNat, accum := m.accum }

theorem MA.ofGen_toGen (m : MA ℝ) : MA.ofGen (MA.toGen m) = m := by
  simp [MA.ofGen, MA.toGen]

theorem MA.toGen_ofGen (m : Gen.MAFilterState ℝ) (hn : 0 ≤ m.n) (hp : 0 ≤ m.pos) : MA.toGen (MA.ofGen m) = m := by
  cases m
  simp_all [MA.ofGen, MA.toGen]

/-- the generated `sum(const arr_real&)` is the model's `MA.sum` -/
theorem sumR_eq (a : Array ℝ) : Gen.sumR a = MA.sum a := by
  simp [Gen.sumR, MA.sum]

/-- **bridge, `MAFilter<real_t>::process(const real_t&)`:** the generated function is the model's `MA.step`, for every
model state (= every generated state with `0 ≤ _n`, `0 ≤ _pos`) and every sample -/
theorem maFilterStep_eq (m : MA ℝ) (x : ℝ) :
    Gen.maFilterStep (MA.toGen m) x = (MA.toGen (MA.step m x).1, (MA.step m x).2) := by
  have hc : ((m.pos : Int) + 1 = (m.n : Int)) ↔ (m.pos + 1 = m.n) := by
    constructor <;> intro h <;> omega
  simp only [Gen.maFilterStep, MA.step, MA.toGen, Gen.zeroR, GenBridge.arrGet_natCast, GenBridge.arrSet_natCast, sumR_eq, fn_ofNat, fn_ofInt,
    hc, Nat.cast_zero, Int.cast_zero]
  split_ifs <;> simp

theorem maFilterStep_eq_ofGen (m : Gen.MAFilterState ℝ) (hn : 0 ≤ m.n) (hp : 0 ≤ m.pos) (x : ℝ) :
    Gen.maFilterStep m x = (MA.toGen (MA.step (MA.ofGen m) x).1, (MA.step (MA.ofGen m) x).2) ∧
      0 ≤ (Gen.maFilterStep m x).1.n ∧ 0 ≤ (Gen.maFilterStep m x).1.pos := by
  have e := maFilterStep_eq (MA.ofGen m) x
  rw [MA.toGen_ofGen m hn hp] at e
  refine ⟨e, ?_, ?_⟩ <;> rw [e] <;> simp [MA.toGen]

/-- **a headline MAFilter theorem on the generated function:** once the window holds a constant `c` (and the
accumulator its sum), the generated `process(c)` returns exactly `c` and the window stays steady. -/
theorem maFilter_gen_steady {m : MA ℝ} {c : ℝ} (h : C20.MA.Steady m c) :
    (Gen.maFilterStep (MA.toGen m) c).2 = c ∧ C20.MA.Steady (MA.ofGen (Gen.maFilterStep (MA.toGen m) c).1) c := by
  rw [maFilterStep_eq, MA.ofGen_toGen]
  exact ⟨(C20.MA.step_steady h).2, (C20.MA.step_steady h).1⟩

/-! ## Agc (`lib/agc.cpp`, `_process<T>`) -/

def Agc.ofGen (q : Gen.AgcStepParams ℝ) : Agc ℝ :=
  { trise := q.trise, tfall := q.tfall, maxGain := q.max_gain, target := q.target }

def Agc.toGen (p : Agc ℝ) : Gen.AgcStepParams ℝ :=
  { trise := p.trise, tfall := p.tfall, max_gain := p.maxGain, target := p.target }

theorem Agc.ofGen_toGen (p : Agc ℝ) : Agc.ofGen (Agc.toGen p) = p := rfl
theorem Agc.toGen_ofGen (q : Gen.AgcStepParams ℝ) : Agc.toGen (Agc.ofGen q) = q := rfl

def AgcState.toGen (t : AgcState ℝ) : Gen.AgcStepState ℝ := { gain := t.gain, maflt := MA.toGen t.ma }

def AgcState.ofGen (s : Gen.AgcStepState ℝ) : AgcState ℝ := { gain := s.gain, ma := MA.ofGen s.maflt }

theorem AgcState.ofGen_toGen (t : AgcState ℝ) : AgcState.ofGen (AgcState.toGen t) = t := by
  simp [AgcState.ofGen, AgcState.toGen, MA.ofGen_toGen]

theorem AgcState.toGen_ofGen (s : Gen.AgcStepState ℝ) (hn : 0 ≤ s.maflt.n) (hp : 0 ≤ s.maflt.pos) :
    AgcState.toGen (AgcState.ofGen s) = s := by
  cases s
  simp_all [AgcState.ofGen, AgcState.toGen, MA.toGen_ofGen]

/-- **bridge, Agc, real input, at `ℝ`:** the generated loop body of `_process<real_t>` is the model's `Agc.step` at
power `x²`, with `out = x·gain`; for every parameter record, every model state, every sample -/
theorem agcStepR_eq (q : Gen.AgcStepParams ℝ) (t : AgcState ℝ) (x : ℝ) :
    Gen.agcStepR eps q (AgcState.toGen t) x =
      (AgcState.toGen (Agc.step (Agc.ofGen q) t (x * x)).1, (Agc.step (Agc.ofGen q) t (x * x)).2,
        x * (Agc.step (Agc.ofGen q) t (x * x)).2) := by
  simp only [Gen.agcStepR, Gen.abs2r, Gen.maxRR, AgcState.toGen, maFilterStep_eq, Agc.step, Agc.gainStep,
    Agc.inputPower, Agc.ofGen, fn_ofNat, fn_ofInt, fn_log, fn_exp, Nat.cast_zero, Int.cast_zero, Nat.cast_one,
    Int.cast_one, Nat.cast_ofNat, Int.cast_ofNat, gt_iff_lt]
  generalize q.target - _ = e
  split_ifs <;> rfl

/-- **bridge, Agc, complex input, at `ℝ`:** the generated loop body of `_process<cmplx_t>` is the model's `Agc.step`
at power `|x|²`, with `out = (re·gain, im·gain)` -/
theorem agcStepC_eq (q : Gen.AgcStepParams ℝ) (t : AgcState ℝ) (x : Cx ℝ) :
    Gen.agcStepC eps q (AgcState.toGen t) x =
      (AgcState.toGen (Agc.step (Agc.ofGen q) t (Cx.abs2 x)).1, (Agc.step (Agc.ofGen q) t (Cx.abs2 x)).2,
        (⟨x.re * (Agc.step (Agc.ofGen q) t (Cx.abs2 x)).2, x.im * (Agc.step (Agc.ofGen q) t (Cx.abs2 x)).2⟩ : Cx ℝ)) := by
  simp only [Gen.agcStepC, Gen.abs2c, Gen.maxRR, Cx.mulr, AgcState.toGen, maFilterStep_eq, Agc.step, Agc.gainStep,
    Agc.inputPower, Agc.ofGen, fn_ofNat, fn_ofInt, fn_log, fn_exp, Nat.cast_zero, Int.cast_zero, Nat.cast_one,
    Int.cast_one, Nat.cast_ofNat, Int.cast_ofNat, gt_iff_lt]
  generalize q.target - _ = e
  split_ifs <;> rfl

theorem agc_runR_eq (q : Gen.AgcStepParams ℝ) (t : AgcState ℝ) (x : Array ℝ) :
    run (Gen.agcStepR eps q) (AgcState.toGen t) x =
      (AgcState.toGen (Agc.processR (Agc.ofGen q) t x).1, (Agc.processR (Agc.ofGen q) t x).2) :=
  run_map (Gen.agcStepR eps q)
    (fun st (xi : ℝ) => ((Agc.step (Agc.ofGen q) st (xi * xi)).1, (Agc.step (Agc.ofGen q) st (xi * xi)).2,
      xi * (Agc.step (Agc.ofGen q) st (xi * xi)).2)) AgcState.toGen (agcStepR_eq q) t x

theorem agc_runC_eq (q : Gen.AgcStepParams ℝ) (t : AgcState ℝ) (x : Array (Cx ℝ)) :
    run (Gen.agcStepC eps q) (AgcState.toGen t) x =
      (AgcState.toGen (Agc.processC (Agc.ofGen q) t x).1, (Agc.processC (Agc.ofGen q) t x).2) :=
  run_map (Gen.agcStepC eps q)
    (fun st (xi : Cx ℝ) => ((Agc.step (Agc.ofGen q) st (Cx.abs2 xi)).1, (Agc.step (Agc.ofGen q) st (Cx.abs2 xi)).2,
      (⟨xi.re * (Agc.step (Agc.ofGen q) st (Cx.abs2 xi)).2, xi.im * (Agc.step (Agc.ofGen q) st (Cx.abs2 xi)).2⟩ : Cx ℝ)))
    AgcState.toGen (agcStepC_eq q) t x

/-- **T20.5 transported to the regenerated code, real signals:** for every parameter record, EVERY model state (any
window content, accumulator, log-gain) and every signal, the GENERATED loop body of `_process<real_t>` run over the
signal emits only gains in `(0, exp(max_gain)]` and `out[i] = x[i]·gain[i]`. -/
theorem agc_gen_gain_le_max_real (q : Gen.AgcStepParams ℝ) (t : AgcState ℝ) (x : Array ℝ) :
    ∃ (_ : (run (Gen.agcStepR eps q) (AgcState.toGen t) x).2.1.size = x.size)
      (_ : (run (Gen.agcStepR eps q) (AgcState.toGen t) x).2.2.size = x.size),
      ∀ i (hi : i < x.size),
        0 < (run (Gen.agcStepR eps q) (AgcState.toGen t) x).2.1[i] ∧
        (run (Gen.agcStepR eps q) (AgcState.toGen t) x).2.1[i] ≤ Real.exp q.max_gain ∧
        (run (Gen.agcStepR eps q) (AgcState.toGen t) x).2.2[i] =
          x[i] * (run (Gen.agcStepR eps q) (AgcState.toGen t) x).2.1[i] := by
  simp only [agc_runR_eq]
  exact (C20.Agc.fold_gains (fun x => x * x) (· * ·) (Agc.ofGen q) t x).imp
    fun _ => Exists.imp fun _ h i hi => (h i hi).1

/-- **T20.5 transported, complex signals** -/
theorem agc_gen_gain_le_max_cmplx (q : Gen.AgcStepParams ℝ) (t : AgcState ℝ) (x : Array (Cx ℝ)) :
    ∃ (_ : (run (Gen.agcStepC eps q) (AgcState.toGen t) x).2.1.size = x.size)
      (_ : (run (Gen.agcStepC eps q) (AgcState.toGen t) x).2.2.size = x.size),
      ∀ i (hi : i < x.size),
        0 < (run (Gen.agcStepC eps q) (AgcState.toGen t) x).2.1[i] ∧
        (run (Gen.agcStepC eps q) (AgcState.toGen t) x).2.1[i] ≤ Real.exp q.max_gain ∧
        (run (Gen.agcStepC eps q) (AgcState.toGen t) x).2.2[i] =
          ⟨x[i].re * (run (Gen.agcStepC eps q) (AgcState.toGen t) x).2.1[i],
            x[i].im * (run (Gen.agcStepC eps q) (AgcState.toGen t) x).2.1[i]⟩ := by
  simp only [agc_runC_eq]
  exact (C20.Agc.fold_gains Cx.abs2 (fun x g => (⟨x.re * g, x.im * g⟩ : Cx ℝ)) (Agc.ofGen q) t x).imp
    fun _ => Exists.imp fun _ h i hi => (h i hi).1

/-! ## Constructors (regenerated: `Gen/CtorDyn.lean`)

`Gen/CtorDyn.lean` holds the constructors of `Compressor`, `Limiter`, `NoiseGate`, `MAFilter<real_t>` and `Agc` as the C++ AST has
them: every data member in declaration order (mem-initialiser, else default member initialiser), then the body (assignments,
`DSPLIB_ASSERT`s as `.error`).  The smoothing coefficients are the conditional the code spells out,
`(t > 0) ? std::exp(-std::log(9) / (sample_rate * t)) : 0`; the conversion `int(std::floor(…))` of `NoiseGate` is a parameter
`truncToInt`.  The theorems below identify the generated constructors with the `init` functions of `Model/Dynamics.lean` (acceptance and
constructed object; message texts are not compared; sample rate `fs ≥ 1`, because `sample_rate * t` is a divisor) and start the
transported headline theorems from the GENERATED constructor. -/

theorem toOption_eq_some {ε β : Type} (e : Except ε β) (b : β) : e.toOption = some b ↔ e = .ok b := by
  cases e <;> simp [Except.toOption]

theorem ok_of_toOption_map {ε ε' β γ : Type} {e : Except ε β} {e' : Except ε' γ} {f : γ → β} {b : β}
    (h : e.toOption = e'.toOption.map f) (hb : e = .ok b) : ∃ c, e' = .ok c ∧ b = f c := by
  subst hb
  cases e' with
  | error _ => simp [Except.toOption] at h
  | ok c => exact ⟨c, rfl, by simpa [Except.toOption] using h⟩

/-- for a positive sample rate and an admitted time `t ≥ 0` the model's `coef` is the conditional the constructors spell out:
`(t > 0) ? std::exp(-std::log(9) / (sample_rate * t)) : 0` -/
theorem coef_ite {fs : ℕ} (hfs : 0 < fs) {t : ℝ} (ht : 0 ≤ t) :
    coef (fs : ℝ) t = if 0 < t then Real.exp (-(Real.log 9) / ((fs : ℝ) * t)) else 0 := by
  have hfs' : (0 : ℝ) < (fs : ℝ) := by exact_mod_cast hfs
  rw [C20.coef_real]
  by_cases h : 0 < t
  · rw [if_pos h, if_neg (mul_pos hfs' h).ne']
  · have : t = 0 := le_antisymm (not_lt.mp h) ht
    subst this; simp

/-! ### Compressor -/

/-- the object the model's constructor describes: the five parameters and `gs_{0}` -/
def Comp.toObj (p : Comp ℝ) : Gen.CompressorObj ℝ :=
  { T := p.gp.T, R := p.gp.R, W := p.gp.W, wA := p.wA, wR := p.wR, gs := 0 }

/-- members of a constructed `Compressor` that the generated loop body reads / writes -/
def compObjP (o : Gen.CompressorObj ℝ) : Gen.CompressorStepParams ℝ := { T := o.T, R := o.R, W := o.W, wA := o.wA, wR := o.wR }
def compObjS (o : Gen.CompressorObj ℝ) : Gen.CompressorStepState ℝ := { gs := o.gs }

/-- **bridge, `Compressor::Compressor`:** for every sample rate `fs ≥ 1` and ALL other arguments, the generated constructor accepts
exactly when `Comp.init` does, and then leaves the object `Comp.init` describes (with `gs_ = 0`).  (Messages are not compared.) -/
theorem compressorCtor_eq (fs : ℕ) (hfs : 0 < fs) (T : ℝ) (R : Int) (W ta tr : ℝ) :
    (Gen.compressorCtor (fs : Int) T R W ta tr).toOption = (Comp.init fs T R W ta tr).toOption.map Comp.toObj := by
  refine Option.ext fun o => ?_
  simp only [toOption_eq_some, Option.map_eq_some_iff, C20.Comp.init_eq_ok, Gen.compressorCtor,
    guard_ok, not_not, Except.ok.injEq, ge_iff_le, gt_iff_lt, fn_ofInt, fn_exp, fn_log, Int.reduceNeg, Int.cast_neg,
    Int.cast_ofNat, Int.cast_zero, Int.cast_natCast]
  -- at this point both sides are conjunctions of the ten bounds and an equation for the object; the bounds are matched by
  -- their statements (`simp only [*]`), so the order in which either constructor tests them does not matter
  constructor
  · rintro ⟨⟨_, _⟩, ⟨_, _⟩, ⟨_, _⟩, ⟨_, _⟩, ⟨_, _⟩, rfl⟩
    simp only [*, and_self, true_and, exists_eq_left', Comp.toObj, coef_ite hfs]
  · rintro ⟨_, ⟨⟨_, _⟩, ⟨_, _⟩, ⟨_, _⟩, ⟨_, _⟩, ⟨_, _⟩, rfl⟩, rfl⟩
    simp only [*, and_self, Comp.toObj, coef_ite hfs]

/-- **T20.1 from the GENERATED constructor through the GENERATED loop body, Compressor:** whatever the regenerated constructor
accepts (sample rate `fs ≥ 1`), running the regenerated loop body of `process` from the object it leaves emits only gains in `(0, 1]`,
`out[i] = x[i]·gain[i]`, `|out[i]| ≤ |x[i]|`, for every signal. -/
theorem compressor_gen_from_ctor (fs : ℕ) (hfs : 0 < fs) (T : ℝ) (R : Int) (W ta tr : ℝ) (o : Gen.CompressorObj ℝ)
    (h : Gen.compressorCtor (fs : Int) T R W ta tr = .ok o) (x : Array ℝ) :
    (run (Gen.compressorStep eps (compObjP o)) (compObjS o) x).1.gs ≤ 0 ∧
      GainsIn (fun g => 0 < g ∧ g ≤ 1) x (run (Gen.compressorStep eps (compObjP o)) (compObjS o) x).2 := by
  obtain ⟨p, hp, rfl⟩ := ok_of_toOption_map (compressorCtor_eq fs hfs T R W ta tr) h
  exact compressor_gen_gain_range (compObjP (Comp.toObj p)) (C20.Comp.init_ok hfs hp) _ (le_refl (0 : ℝ)) x

/-- the coefficients the generated constructor stores: `coef fs t`, in particular `0` for a time of `0` -/
theorem compressorCtor_coefs (fs : ℕ) (hfs : 0 < fs) (T : ℝ) (R : Int) (W ta tr : ℝ) (o : Gen.CompressorObj ℝ)
    (h : Gen.compressorCtor (fs : Int) T R W ta tr = .ok o) :
    o.T = T ∧ o.R = R ∧ o.W = W ∧ o.wA = coef (fs : ℝ) ta ∧ o.wR = coef (fs : ℝ) tr ∧ o.gs = 0 := by
  obtain ⟨p, hp, rfl⟩ := ok_of_toOption_map (compressorCtor_eq fs hfs T R W ta tr) h
  obtain ⟨-, -, -, -, -, rfl⟩ := C20.Comp.init_eq_ok.mp hp
  exact ⟨rfl, rfl, rfl, rfl, rfl, rfl⟩

/-! ### Limiter -/

def Lim.toObj (p : Lim ℝ) : Gen.LimiterObj ℝ := { T := p.gp.T, W := p.gp.W, wA := p.wA, wR := p.wR, gs := 0 }
def limObjP (o : Gen.LimiterObj ℝ) : Gen.LimiterStepParams ℝ := { T := o.T, W := o.W, wA := o.wA, wR := o.wR }
def limObjS (o : Gen.LimiterObj ℝ) : Gen.LimiterStepState ℝ := { gs := o.gs }

/-- **bridge, `Limiter::Limiter`** -/
theorem limiterCtor_eq (fs : ℕ) (hfs : 0 < fs) (T W ta tr : ℝ) :
    (Gen.limiterCtor (fs : Int) T W ta tr).toOption = (Lim.init fs T W ta tr).toOption.map Lim.toObj := by
  refine Option.ext fun o => ?_
  simp only [toOption_eq_some, Option.map_eq_some_iff, C20.Lim.init_eq_ok, Gen.limiterCtor,
    guard_ok, not_not, Except.ok.injEq, ge_iff_le, gt_iff_lt, fn_ofInt, fn_exp, fn_log, Int.reduceNeg, Int.cast_neg,
    Int.cast_ofNat, Int.cast_zero, Int.cast_natCast]
  constructor
  · rintro ⟨⟨_, _⟩, ⟨_, _⟩, ⟨_, _⟩, ⟨_, _⟩, rfl⟩
    simp only [*, and_self, true_and, exists_eq_left', Lim.toObj, coef_ite hfs]
  · rintro ⟨_, ⟨⟨_, _⟩, ⟨_, _⟩, ⟨_, _⟩, ⟨_, _⟩, rfl⟩, rfl⟩
    simp only [*, and_self, Lim.toObj, coef_ite hfs]

theorem limiter_gen_from_ctor (fs : ℕ) (hfs : 0 < fs) (T W ta tr : ℝ) (o : Gen.LimiterObj ℝ)
    (h : Gen.limiterCtor (fs : Int) T W ta tr = .ok o) (x : Array ℝ) :
    (run (Gen.limiterStep eps (limObjP o)) (limObjS o) x).1.gs ≤ 0 ∧
      GainsIn (fun g => 0 < g ∧ g ≤ 1) x (run (Gen.limiterStep eps (limObjP o)) (limObjS o) x).2 := by
  obtain ⟨p, hp, rfl⟩ := ok_of_toOption_map (limiterCtor_eq fs hfs T W ta tr) h
  exact limiter_gen_gain_range (limObjP (Lim.toObj p)) (C20.Lim.init_ok hfs hp) _ (le_refl (0 : ℝ)) x

/-- **T20.3 (ceiling) from the GENERATED constructor, attack time 0:** a limiter constructed by the regenerated constructor with
`attack_time = 0` (the coefficient is then the `0` of the constructor's conditional) and run by the regenerated loop body never lets a sample
above its threshold, `|out[i]| ≤ 10^(T/20)`, for arbitrary signals, release time and knee. -/
theorem limiter_gen_ceiling_from_ctor (fs : ℕ) (hfs : 0 < fs) (T W tr : ℝ) (o : Gen.LimiterObj ℝ)
    (h : Gen.limiterCtor (fs : Int) T W 0 tr = .ok o) (x : Array ℝ) (i : Nat)
    (hi : i < (run (Gen.limiterStep eps (limObjP o)) (limObjS o) x).2.2.size) :
    (run (Gen.limiterStep eps (limObjP o)) (limObjS o) x).2.2.size = x.size ∧
      |(run (Gen.limiterStep eps (limObjP o)) (limObjS o) x).2.2[i]| ≤ Gen.db2mag T := by
  obtain ⟨p, hp, rfl⟩ := ok_of_toOption_map (limiterCtor_eq fs hfs T W 0 tr) h
  have ha := C20.Lim.init_ok hfs hp
  obtain ⟨-, -, -, -, rfl⟩ := C20.Lim.init_eq_ok.mp hp
  exact limiter_gen_ceiling (limObjP (Lim.toObj ⟨⟨T, W⟩, coef fs 0, coef fs tr⟩)) ha (C20.coef_zero _) _ x i hi

/-! ### NoiseGate -/

/-- the object the model's constructor describes (`tH_` is the `int` the model's scalar hold time was converted from) -/
def Gate.toObj (p : Gate ℝ) : Gen.NoiseGateObj ℝ :=
  { tlin := p.tlin, wA := p.wA, wR := p.wR, tH := ⌊p.tH⌋, cA := 0, lg := 0 }
def gateObjP (o : Gen.NoiseGateObj ℝ) : Gen.NoiseGateStepParams ℝ := { tlin := o.tlin, wA := o.wA, wR := o.wR, tH := o.tH }
def gateObjS (o : Gen.NoiseGateObj ℝ) : Gen.NoiseGateStepState ℝ := { cA := o.cA, lg := o.lg }

/-- **bridge, `NoiseGate::NoiseGate`**, for every conversion `real_t → int` that is the identity on integral values (truncation is) -/
theorem noiseGateCtor_eq (trunc : ℝ → Int) (htrunc : ∀ z : Int, trunc (z : ℝ) = z) (fs : ℕ) (hfs : 0 < fs) (T ta tr th : ℝ) :
    (Gen.noiseGateCtor trunc (fs : Int) T ta tr th).toOption = (Gate.init fs T ta tr th).toOption.map Gate.toObj := by
  refine Option.ext fun o => ?_
  simp only [toOption_eq_some, Option.map_eq_some_iff, C20.Gate.init_eq_ok, Gen.noiseGateCtor,
    guard_ok, not_not, Except.ok.injEq, ge_iff_le, gt_iff_lt, fn_ofInt, fn_exp, fn_log, fn_floor, htrunc, Int.reduceNeg,
    Int.cast_neg, Int.cast_ofNat, Int.cast_zero, Int.cast_natCast]
  constructor
  · rintro ⟨⟨_, _⟩, ⟨_, _⟩, ⟨_, _⟩, ⟨_, _⟩, rfl⟩
    simp only [*, and_self, true_and, exists_eq_left', Gate.toObj, Int.floor_intCast, coef_ite hfs]
  · rintro ⟨_, ⟨⟨_, _⟩, ⟨_, _⟩, ⟨_, _⟩, ⟨_, _⟩, rfl⟩, rfl⟩
    simp only [*, and_self, Gate.toObj, Int.floor_intCast, coef_ite hfs]

theorem noiseGate_gen_from_ctor (trunc : ℝ → Int) (htrunc : ∀ z : Int, trunc (z : ℝ) = z) (fs : ℕ) (hfs : 0 < fs) (T ta tr th : ℝ)
    (o : Gen.NoiseGateObj ℝ) (h : Gen.noiseGateCtor trunc (fs : Int) T ta tr th = .ok o) (x : Array ℝ) :
    (0 ≤ (run (Gen.noiseGateStep (gateObjP o)) (gateObjS o) x).1.lg ∧
      (run (Gen.noiseGateStep (gateObjP o)) (gateObjS o) x).1.lg ≤ 1) ∧
      GainsIn (fun g => 0 ≤ g ∧ g ≤ 1) x (run (Gen.noiseGateStep (gateObjP o)) (gateObjS o) x).2 := by
  obtain ⟨p, hp, rfl⟩ := ok_of_toOption_map (noiseGateCtor_eq trunc htrunc fs hfs T ta tr th) h
  have hq : NoiseGateAdmissible (gateObjP (Gate.toObj p)) := by
    have := C20.Gate.init_ok hfs hp
    exact ⟨this.wA0, this.wA1, this.wR0, this.wR1⟩
  exact noiseGate_gen_gain_range (gateObjP (Gate.toObj p)) hq ⟨0, 0⟩ ⟨le_refl _, zero_le_one⟩ x

/-! ### MAFilter, Agc -/

/-- **bridge, `MAFilter<real_t>::MAFilter(int n)`** for `n ≥ 0` -/
theorem maFilterCtor_eq (n : ℕ) : (Gen.maFilterCtor (n : Int) : Gen.MAFilterState ℝ) = MA.toGen (MA.init n) := by
  simp [Gen.maFilterCtor, MA.toGen, MA.init, Gen.arrNew, Gen.zeroR]

/-- the object `Agc::Agc` leaves, from the model's parameter record and state -/
def Agc.toObj (ps : Agc ℝ × AgcState ℝ) : Gen.AgcObj ℝ :=
  { trise := ps.1.trise, tfall := ps.1.tfall, max_gain := ps.1.maxGain, target := ps.1.target, gain := ps.2.gain,
    maflt := MA.toGen ps.2.ma }
def agcObjP (o : Gen.AgcObj ℝ) : Gen.AgcStepParams ℝ := { trise := o.trise, tfall := o.tfall, max_gain := o.max_gain, target := o.target }
def agcObjS (o : Gen.AgcObj ℝ) : Gen.AgcStepState ℝ := { gain := o.gain, maflt := o.maflt }

/-- **bridge, `Agc::Agc`** (the object is `*_d`: default member initialisers of `AgcImpl`, then the assignments of the body),
for ALL arguments -/
theorem agcCtor_eq (tl mg : ℝ) (n : Int) (tri tfa : ℝ) :
    (Gen.agcCtor tl mg n tri tfa).toOption = (Agc.init tl mg n tri tfa).toOption.map Agc.toObj := by
  unfold Gen.agcCtor Agc.init
  by_cases hn : n > 0
  · obtain ⟨k, rfl⟩ := Int.eq_ofNat_of_zero_le (le_of_lt hn)
    have hk : k ≠ 0 := by rintro rfl; simp at hn
    simp [hk, Except.toOption, Agc.toObj, maFilterCtor_eq]
  · simp [hn, Except.toOption]

theorem agcObj_toObj (ps : Agc ℝ × AgcState ℝ) :
    agcObjP (Agc.toObj ps) = Agc.toGen ps.1 ∧ agcObjS (Agc.toObj ps) = AgcState.toGen ps.2 := ⟨rfl, rfl⟩

/-- **T20.5 from the GENERATED constructor through the GENERATED loop body (real signals):** whatever `Agc::Agc` accepts, the gains
emitted by the regenerated loop are in `(0, 10^(max_gain/20)]` — `exp` of the stored log-domain limit `log(10^(max_gain/20))`. -/
theorem agc_gen_from_ctor_real (tl mg : ℝ) (n : Int) (tri tfa : ℝ) (o : Gen.AgcObj ℝ) (h : Gen.agcCtor tl mg n tri tfa = .ok o)
    (x : Array ℝ) :
    o.max_gain = Real.log ((10 : ℝ) ^ (mg / 20)) ∧
    ∃ (_ : (run (Gen.agcStepR eps (agcObjP o)) (agcObjS o) x).2.1.size = x.size)
      (_ : (run (Gen.agcStepR eps (agcObjP o)) (agcObjS o) x).2.2.size = x.size),
      ∀ i (hi : i < x.size),
        0 < (run (Gen.agcStepR eps (agcObjP o)) (agcObjS o) x).2.1[i] ∧
        (run (Gen.agcStepR eps (agcObjP o)) (agcObjS o) x).2.1[i] ≤ (10 : ℝ) ^ (mg / 20) ∧
        (run (Gen.agcStepR eps (agcObjP o)) (agcObjS o) x).2.2[i] =
          x[i] * (run (Gen.agcStepR eps (agcObjP o)) (agcObjS o) x).2.1[i] := by
  obtain ⟨ps, hp, rfl⟩ := ok_of_toOption_map (agcCtor_eq tl mg n tri tfa) h
  obtain ⟨-, rfl⟩ := C20.Agc.init_eq_ok.mp hp
  have h := agc_gen_gain_le_max_real (Agc.toGen ⟨tri, tfa, Real.log ((10 : ℝ) ^ (mg / 20)), Real.log tl⟩)
    { gain := 1, ma := MA.init n.toNat } x
  rw [show Real.exp (Agc.toGen ⟨tri, tfa, Real.log ((10 : ℝ) ^ (mg / 20)), Real.log tl⟩).max_gain = (10 : ℝ) ^ (mg / 20)
    from Real.exp_log (Real.rpow_pos_of_pos (by norm_num) _)] at h
  exact ⟨rfl, h⟩

/-- the default arguments of the four constructors as the headers have them -/
theorem ctor_defaults :
    (Gen.compressorCtorDefault_sample_rate, (Gen.compressorCtorDefault_threshold : ℝ), Gen.compressorCtorDefault_ratio,
      (Gen.compressorCtorDefault_knee_width : ℝ), (Gen.compressorCtorDefault_attack_time : ℝ),
      (Gen.compressorCtorDefault_release_time : ℝ)) = (44100, -10, 5, 0, 1 / 100, 1 / 5) ∧
    (Gen.limiterCtorDefault_sample_rate, (Gen.limiterCtorDefault_threshold : ℝ), (Gen.limiterCtorDefault_knee_width : ℝ),
      (Gen.limiterCtorDefault_attack_time : ℝ), (Gen.limiterCtorDefault_release_time : ℝ)) = (44100, -10, 0, 0, 1 / 5) ∧
    (Gen.noiseGateCtorDefault_sample_rate, (Gen.noiseGateCtorDefault_threshold : ℝ), (Gen.noiseGateCtorDefault_attack_time : ℝ),
      (Gen.noiseGateCtorDefault_release_time : ℝ), (Gen.noiseGateCtorDefault_hold_time : ℝ)) = (44100, -10, 1 / 20, 1 / 50, 1 / 20) ∧
    ((Gen.agcCtorDefault_target_level : ℝ), (Gen.agcCtorDefault_max_gain : ℝ), Gen.agcCtorDefault_average_len,
      (Gen.agcCtorDefault_t_rise : ℝ), (Gen.agcCtorDefault_t_fall : ℝ)) = (1, 60, 100, 1 / 100, 1 / 100) := by
  refine ⟨?_, ?_, ?_, ?_⟩ <;>
    simp [Gen.compressorCtorDefault_sample_rate, Gen.compressorCtorDefault_threshold, Gen.compressorCtorDefault_ratio,
      Gen.compressorCtorDefault_knee_width, Gen.compressorCtorDefault_attack_time, Gen.compressorCtorDefault_release_time,
      Gen.limiterCtorDefault_sample_rate, Gen.limiterCtorDefault_threshold, Gen.limiterCtorDefault_knee_width,
      Gen.limiterCtorDefault_attack_time, Gen.limiterCtorDefault_release_time,
      Gen.noiseGateCtorDefault_sample_rate, Gen.noiseGateCtorDefault_threshold, Gen.noiseGateCtorDefault_attack_time,
      Gen.noiseGateCtorDefault_release_time, Gen.noiseGateCtorDefault_hold_time,
      Gen.agcCtorDefault_target_level, Gen.agcCtorDefault_max_gain, Gen.agcCtorDefault_average_len, Gen.agcCtorDefault_t_rise,
      Gen.agcCtorDefault_t_fall]

/-- non-vacuity: the generated constructors accept their default arguments (`Limiter()` has attack time 0: the ceiling theorem applies) -/
example : ∃ o, Gen.limiterCtor (44100 : Int) (-10 : ℝ) 0 0 (1 / 5) = .ok o := by
  unfold Gen.limiterCtor; norm_num
example : ∃ o, Gen.compressorCtor (44100 : Int) (-10 : ℝ) 5 0 (1 / 100) (1 / 5) = .ok o := by
  unfold Gen.compressorCtor; norm_num
example : ∃ o, Gen.agcCtor (1 : ℝ) 60 100 (1 / 100) (1 / 100) = .ok o := by
  unfold Gen.agcCtor; norm_num
example : ∃ e, Gen.agcCtor (1 : ℝ) 60 0 (1 / 100) (1 / 100) = .error e := by
  unfold Gen.agcCtor; norm_num

/-! ## Non-vacuity: the admissibility hypotheses of the transported theorems hold at concrete parameter records -/

example : CompressorAdmissible { T := -10, R := 5, W := 4, wA := 1 / 4, wR := 3 / 4 } :=
  ⟨by decide, (by norm_num : (0 : ℝ) ≤ 4), (by norm_num : (0 : ℝ) ≤ 1 / 4), (by norm_num : (1 / 4 : ℝ) ≤ 1),
    (by norm_num : (0 : ℝ) ≤ 3 / 4), (by norm_num : (3 / 4 : ℝ) ≤ 1)⟩

example : LimiterAdmissible { T := -10, W := 4, wA := 0, wR := 3 / 4 } :=
  ⟨(by norm_num : (0 : ℝ) ≤ 4), le_rfl, zero_le_one, (by norm_num : (0 : ℝ) ≤ 3 / 4), (by norm_num : (3 / 4 : ℝ) ≤ 1)⟩

example : NoiseGateAdmissible { tlin := 1 / 10, wA := 1 / 4, wR := 3 / 4, tH := 100 } :=
  ⟨(by norm_num : (0 : ℝ) ≤ 1 / 4), (by norm_num : (1 / 4 : ℝ) ≤ 1), (by norm_num : (0 : ℝ) ≤ 3 / 4),
    (by norm_num : (3 / 4 : ℝ) ≤ 1)⟩

end

end Dsp.C20Gen
