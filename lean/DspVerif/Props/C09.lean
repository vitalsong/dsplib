import DspVerif.Model.Conc
import Mathlib.Tactic.Common
import Mathlib.Data.List.Basic
/-!
# C09 — concurrent use from several threads is race-free and result-preserving

Theorems about `Model/Conc.lean`:

* T09.1 `noninterference` (+ `result_preserved`, `sequential_result_reached`, `no_race`): in the shared-memory step
  semantics, if every thread only reads/writes inside its footprint and no thread reads or writes what another
  writes, then for EVERY interleaving every thread is in exactly the state its single-threaded execution reaches,
  and the trace contains no pair of conflicting accesses.
* T09.2 `rng_isolated` (+ `rng_unaffected_by_others`): with one engine per thread, what a thread draws under any
  interleaving of seeds/draws of any threads is what it draws alone.
* T09.3 `table_raceFree`, `discipline_exclusive`, `table_*`: the footprint table of the library (tied to the sources
  by the `footprint` correspondence cases) satisfies the premises of T09.1 for free functions, for objects used by
  one thread each, and for plan objects SHARED through their const `solve`.
* `concurrent_use_safe`: the three combined.

Scope (partial): the theorems are about the abstract memory model.  Which C++ accesses exist is extracted
syntactically by the harness scan (CORR `footprint`) and validated dynamically under ThreadSanitizer with bit-exact
comparison against single-threaded runs; shared_ptr reference counts (atomics) and the C++ memory model are trusted.
-/
namespace Dsp.C09
open Dsp.Conc

variable {ℓ υ σ : Type} [DecidableEq ℓ]

/-! ### T09.1 noninterference -/

/-- thread `t` cannot distinguish `c` (concurrent) from `d` (solo): same local state, same memory on its footprint -/
def Agree (F : Footprint ℓ) (t : Nat) (c d : Cfg ℓ υ σ) : Prop :=
  c.loc t = d.loc t ∧ ∀ l, (F.R t l ∨ F.W t l) → c.mem l = d.mem l

theorem agree_own {F : Footprint ℓ} {P : Nat → Prog ℓ υ σ} (hc : F.covers P) {t : Nat} {c d : Cfg ℓ υ σ}
    (h : Agree F t c d) : Agree F t (stepThread P t c) (stepThread P t d) := by
  obtain ⟨hl, hm⟩ := h
  have hcov := hc t (c.loc t)
  unfold stepThread
  rw [← hl]
  cases hp : P t (c.loc t) with
  | none => exact ⟨hl, hm⟩
  | some st =>
    rw [hp] at hcov
    cases st with
    | load l k =>
      have hv : c.mem l = d.mem l := hm l (Or.inl hcov)
      exact ⟨by simp [upd, hv], hm⟩
    | store l v s' =>
      refine ⟨by simp [upd], ?_⟩
      intro l' hl'
      show upd c.mem l v l' = upd d.mem l v l'
      unfold upd
      split
      · rfl
      · exact hm l' hl'
    | tau s' => exact ⟨by simp [upd], hm⟩

theorem agree_other {F : Footprint ℓ} {P : Nat → Prog ℓ υ σ} (hc : F.covers P) (hrf : F.raceFree) {t t' : Nat}
    (ht : t ≠ t') {c d : Cfg ℓ υ σ} (h : Agree F t c d) : Agree F t (stepThread P t' c) d := by
  obtain ⟨hl, hm⟩ := h
  have hcov := hc t' (c.loc t')
  unfold stepThread
  cases hp : P t' (c.loc t') with
  | none => exact ⟨hl, hm⟩
  | some st =>
    rw [hp] at hcov
    cases st with
    | load l k => exact ⟨by simp [upd, ht, hl], hm⟩
    | store l v s' =>
      refine ⟨by simp [upd, ht, hl], ?_⟩
      intro l' hl'
      show upd c.mem l v l' = d.mem l'
      have hne : l' ≠ l := by
        rintro rfl
        have := hrf t t' ht l' hcov
        rcases hl' with h1 | h1
        · exact this.1 h1
        · exact this.2 h1
      simp [upd, hne, hm l' hl']
    | tau s' => exact ⟨by simp [upd, ht, hl], hm⟩

theorem alone_succ (P : Nat → Prog ℓ υ σ) (t n : Nat) (d : Cfg ℓ υ σ) :
    alone P t (n + 1) d = alone P t n (stepThread P t d) := by
  simp [alone, List.replicate_succ, run]

theorem run_append (P : Nat → Prog ℓ υ σ) (s s' : List Nat) (c : Cfg ℓ υ σ) :
    run P (s ++ s') c = run P s' (run P s c) := by
  induction s generalizing c with
  | nil => rfl
  | cons a s ih => simp [run, ih]

theorem noninterference_gen {F : Footprint ℓ} {P : Nat → Prog ℓ υ σ} (hc : F.covers P) (hrf : F.raceFree) (t : Nat) :
    ∀ (s : List Nat) (c d : Cfg ℓ υ σ), Agree F t c d → Agree F t (run P s c) (alone P t (s.count t) d) := by
  intro s
  induction s with
  | nil => intro c d h; simpa [run, alone] using h
  | cons a s ih =>
    intro c d h
    by_cases hat : a = t
    · subst hat
      rw [List.count_cons_self, alone_succ]
      exact ih _ _ (agree_own hc h)
    · rw [List.count_cons_of_ne hat]
      exact ih _ _ (agree_other hc hrf (Ne.symm hat) h)

/-- **T09.1** For every interleaving `s` of programs that stay inside a race-free footprint, thread `t` is in exactly
the local state (registers, results of all its calls so far) that it reaches when it runs the same number of its own
steps alone, and the memory it may touch has the single-threaded contents.
Settles: "each call returns what it would return single-threaded", for any number of threads. -/
theorem noninterference {F : Footprint ℓ} {P : Nat → Prog ℓ υ σ} (hc : F.covers P) (hrf : F.raceFree)
    (c0 : Cfg ℓ υ σ) (s : List Nat) (t : Nat) :
    (run P s c0).loc t = (alone P t (s.count t) c0).loc t ∧
    ∀ l, (F.R t l ∨ F.W t l) → (run P s c0).mem l = (alone P t (s.count t) c0).mem l :=
  noninterference_gen hc hrf t s c0 c0 ⟨rfl, fun _ _ => rfl⟩

theorem step_halted {P : Nat → Prog ℓ υ σ} {t : Nat} {c : Cfg ℓ υ σ} (h : halted P t c) : stepThread P t c = c := by
  unfold halted at h
  unfold stepThread
  rw [h]

theorem alone_halted {P : Nat → Prog ℓ υ σ} {t : Nat} {c : Cfg ℓ υ σ} (h : halted P t c) (n : Nat) : alone P t n c = c := by
  induction n with
  | zero => rfl
  | succ n ih => rw [alone_succ, step_halted h, ih]

theorem alone_add (P : Nat → Prog ℓ υ σ) (t m k : Nat) (c : Cfg ℓ υ σ) :
    alone P t (m + k) c = alone P t k (alone P t m c) := by
  unfold alone
  rw [List.replicate_add, run_append]

/-- **T09.1, completed runs.** If thread `t` has finished at the end of an interleaving, then its single-threaded
execution finishes after the same number of steps and its final state (the results of all its calls) is the same —
however long the single-threaded run is continued. -/
theorem result_preserved {F : Footprint ℓ} {P : Nat → Prog ℓ υ σ} (hc : F.covers P) (hrf : F.raceFree)
    (c0 : Cfg ℓ υ σ) (s : List Nat) (t : Nat) (hdone : halted P t (run P s c0)) :
    halted P t (alone P t (s.count t) c0) ∧
    ∀ n, s.count t ≤ n → (alone P t n c0).loc t = (run P s c0).loc t := by
  have h := (noninterference hc hrf c0 s t).1
  have hh : halted P t (alone P t (s.count t) c0) := by
    unfold halted at hdone ⊢
    rw [← h]; exact hdone
  refine ⟨hh, ?_⟩
  intro n hn
  obtain ⟨k, rfl⟩ := Nat.exists_eq_add_of_le hn
  rw [alone_add, alone_halted hh, h]

/-- **T09.1, the other direction.** If the single-threaded execution of `t` finishes within `n` steps, then in every
interleaving that gives `t` at least `n` steps thread `t` has finished with the single-threaded result. -/
theorem sequential_result_reached {F : Footprint ℓ} {P : Nat → Prog ℓ υ σ} (hc : F.covers P) (hrf : F.raceFree)
    (c0 : Cfg ℓ υ σ) (s : List Nat) (t n : Nat) (hseq : halted P t (alone P t n c0)) (hn : n ≤ s.count t) :
    halted P t (run P s c0) ∧ (run P s c0).loc t = (alone P t n c0).loc t := by
  have h := (noninterference hc hrf c0 s t).1
  obtain ⟨k, hk⟩ := Nat.exists_eq_add_of_le hn
  have e : alone P t (s.count t) c0 = alone P t n c0 := by rw [hk, alone_add, alone_halted hseq]
  rw [e] at h
  refine ⟨?_, h⟩
  unfold halted at hseq ⊢
  rw [h]; exact hseq

/-- every access in a trace lies in the acting thread's footprint, a write in its write footprint -/
theorem trace_in_footprint {F : Footprint ℓ} {P : Nat → Prog ℓ υ σ} (hc : F.covers P) :
    ∀ (s : List Nat) (c : Cfg ℓ υ σ), ∀ e ∈ trace P s c,
      (F.R e.1 e.2.loc ∨ F.W e.1 e.2.loc) ∧ (e.2.isWrite = true → F.W e.1 e.2.loc) := by
  intro s
  induction s with
  | nil => intro c e he; simp [trace] at he
  | cons a s ih =>
    intro c e he
    simp only [trace, List.mem_append] at he
    rcases he with he | he
    · have hcov := hc a (c.loc a)
      cases hp : P a (c.loc a) with
      | none => simp [hp] at he
      | some st =>
        rw [hp] at hcov
        cases st with
        | load l k =>
          simp [hp, accessOf] at he
          subst he
          exact ⟨Or.inl hcov, fun h => by cases h⟩
        | store l v s' =>
          simp [hp, accessOf] at he
          subst he
          exact ⟨Or.inr hcov, fun _ => hcov⟩
        | tau s' => simp [hp, accessOf] at he
    · exact ih _ e he

/-- **T09.1, race freedom.** No interleaving contains two accesses of different threads to one location of which one
is a write.  Settles "no data race occurs" in the model. -/
theorem no_race {F : Footprint ℓ} {P : Nat → Prog ℓ υ σ} (hc : F.covers P) (hrf : F.raceFree)
    (s : List Nat) (c : Cfg ℓ υ σ) : ¬ RacyTrace (trace P s c) := by
  rintro ⟨e, he, e', he', hne, hloc, hw⟩
  obtain ⟨h1, w1⟩ := trace_in_footprint hc s c e he
  obtain ⟨h2, w2⟩ := trace_in_footprint hc s c e' he'
  -- the other thread neither reads nor writes what the writer writes
  rcases hw with hw | hw
  · have := hrf e'.1 e.1 (Ne.symm hne) _ (w1 hw)
    rw [hloc] at this
    exact h2.elim this.1 this.2
  · have := hrf e.1 e'.1 hne _ (w2 hw)
    rw [← hloc] at this
    exact h1.elim this.1 this.2

/-! ### T09.2 random-number state is per thread -/

theorem rng_isolated_gen {ε ω : Type} (S : RngSpec ε ω) (t : Nat) :
    ∀ (evs : List (Nat × RngOp)) (w w' : RngWorld ε), w t = w' t →
      (rngRun S w evs).filter (fun e => e.1 = t) = rngRun S w' (evs.filter (fun e => e.1 = t)) := by
  intro evs
  induction evs with
  | nil => intro w w' _; simp [rngRun]
  | cons e evs ih =>
    intro w w' h
    obtain ⟨a, op⟩ := e
    by_cases hat : a = t
    · subst hat
      cases op with
      | seed k =>
        simp only [rngRun, decide_true, List.filter_cons_of_pos]
        exact ih _ _ (by simp [upd])
      | draw =>
        simp only [rngRun, decide_true, List.filter_cons_of_pos]
        rw [h]
        congr 1
        exact ih _ _ (by simp [upd])
    · cases op with
      | seed k =>
        simp only [rngRun, hat, decide_false, Bool.false_eq_true, not_false_eq_true, List.filter_cons_of_neg]
        exact ih _ _ (by simp [upd, Ne.symm hat, h])
      | draw =>
        simp only [rngRun, hat, decide_false, Bool.false_eq_true, not_false_eq_true, List.filter_cons_of_neg]
        exact ih _ _ (by simp [upd, Ne.symm hat, h])

/-- **T09.2** Under ANY interleaving of `rng(seed)` calls and draws by any threads, the values thread `t` observes are
exactly the values it observes when only its own calls are executed.
Settles: "random-number state is per thread so that seeding or drawing in one thread never changes the sequence another
thread observes" (for the per-thread-engine model; tied to lib/random.cpp by the `rng` correspondence cases, which
replay enforced interleavings on the real library, and by `thread_local g_engine` in the footprint scan). -/
theorem rng_isolated {ε ω : Type} (S : RngSpec ε ω) (w : RngWorld ε) (evs : List (Nat × RngOp)) (t : Nat) :
    (rngRun S w evs).filter (fun e => e.1 = t) = rngRun S w (evs.filter (fun e => e.1 = t)) :=
  rng_isolated_gen S t evs w w rfl

/-- **T09.2, corollary.** Whatever other threads do first (`pre`: any seeds and draws by threads other than `t`) leaves
the sequence thread `t` observes afterwards unchanged. -/
theorem rng_unaffected_by_others {ε ω : Type} (S : RngSpec ε ω) (w : RngWorld ε) (pre evs : List (Nat × RngOp)) (t : Nat)
    (hpre : ∀ e ∈ pre, e.1 ≠ t) :
    (rngRun S w (pre ++ evs)).filter (fun e => e.1 = t) = (rngRun S w evs).filter (fun e => e.1 = t) := by
  rw [rng_isolated, rng_isolated, List.filter_append]
  have : pre.filter (fun e => decide (e.1 = t)) = [] := by
    rw [List.filter_eq_nil_iff]
    intro e he
    simpa using hpre e he
  rw [this, List.nil_append]

/-! ### T09.3 the footprint table satisfies the premises -/

/-- the table lists no shared mutable state: no non-const static/global, no `mutable` member, no `const_cast`, and the
plan classes have no non-const member function (all CORR-tied to the sources by the `footprint` cases) -/
theorem table_no_shared_state :
    varsOf .sharedMutable = [] ∧ varsOf .mutableMember = [] ∧ constCasts = [] ∧ planNonconstMethods = [] := by
  decide

/-- the `Tls` regions of the table are exactly the thread_local variables found in the sources -/
theorem table_tls_complete :
    (∀ id ∈ varsOf .threadLocal, id ∈ [Tls.cacheC, Tls.cacheR, Tls.engine, Tls.verifKeys].map Tls.id) ∧
    (∀ id ∈ [Tls.cacheC, Tls.cacheR, Tls.engine, Tls.verifKeys].map Tls.id, id ∈ varsOf .threadLocal) := by
  decide +kernel

def okWrite : Region → Bool
  | .callLocal | .self | .tls _ => true
  | _ => false

def okRead : Region → Bool
  | .shared _ => false
  | _ => true

theorem all_writes_ok (a : Api) : (footprint a).writes.all okWrite = true := by
  cases a <;> rfl

theorem all_reads_ok (a : Api) : (footprint a).reads.all okRead = true := by
  cases a <;> rfl

/-- every entry point writes only call-local memory, the calling thread's thread_local variables, or the object it is
invoked on -/
theorem writes_regions (a : Api) (r : Region) (h : r ∈ (footprint a).writes) :
    r = .callLocal ∨ r = .self ∨ ∃ v, r = .tls v := by
  have := List.all_eq_true.1 (all_writes_ok a) r h
  cases r <;> simp [okWrite] at this ⊢

/-- no entry point reads a `shared` (mutable static / mutable member) region: there is none -/
theorem reads_not_shared (a : Api) (r : Region) (h : r ∈ (footprint a).reads) : ∀ id, r ≠ .shared id := by
  intro id
  have := List.all_eq_true.1 (all_reads_ok a) r h
  cases r <;> simp [okRead] at this ⊢

/-- free functions touch no object state at all; random-number functions touch only the thread's engine -/
theorem free_functions_footprint :
    (∀ a ∈ [Api.fft, .ifft, .rfft, .irfft, .czt, .xcorr, .welch, .resample, .window, .rng, .rand, .randn, .randi],
      touchesSelf a = false) ∧
    (∀ a ∈ [Api.rng, .rand, .randn, .randi], ∀ r ∈ (footprint a).writes, r = .callLocal ∨ r = .tls .engine) := by
  decide

/-- the const `solve` of a plan object writes nothing but call-local memory: plan objects may be shared -/
theorem planSolve_sharable : writesSelf .planSolve = false ∧ (footprint .planSolve).writes = [.callLocal] := by
  decide

theorem exclusive_spec {S : Scenario} (h : exclusive S = true) {t t' : Nat} {p p' : List Call}
    (hp : S[t]? = some p) (hp' : S[t']? = some p') (ht : t ≠ t') {c c' : Call} (hc : c ∈ p) (hc' : c' ∈ p') :
    conflictCalls c c' = false := by
  unfold exclusive at h
  rw [List.all_eq_true] at h
  have h1 := h (p, t) (List.mem_zipIdx_iff_getElem?.2 hp)
  rw [List.all_eq_true] at h1
  have h2 := h1 (p', t') (List.mem_zipIdx_iff_getElem?.2 hp')
  simp only [Bool.or_eq_true, beq_iff_eq, List.all_eq_true, Bool.not_eq_eq_eq_not, Bool.not_true] at h2
  rcases h2 with h2 | h2
  · exact absurd h2 ht
  · exact h2 c hc c' hc'

/-- call-local and thread_local locations belong to one thread, whatever region denotes them -/
theorem regionLocs_callLocal {t i o : Nat} {r : Region} {t' c cell : Nat}
    (h : regionLocs t i o r (.callLocal t' c cell)) : t' = t := by
  cases r <;> simp [regionLocs] at h
  · exact h.1
  · exact h

theorem regionLocs_tls {t i o : Nat} {r : Region} {t' : Nat} {v : Tls} {cell : Nat}
    (h : regionLocs t i o r (.tls t' v cell)) : t' = t := by
  cases r <;> simp [regionLocs] at h
  exact h.1

/-- the members of an object are denoted by `self` of a call on that object only -/
theorem regionLocs_obj {t i o : Nat} {r : Region} {o' cell : Nat}
    (h : regionLocs t i o r (.obj o' cell)) : r = .self ∧ o' = o := by
  cases r <;> simp [regionLocs] at h
  exact ⟨rfl, h⟩

/-- **T09.3** For every scenario that respects the usage discipline (`exclusive`: an object touched by two threads is
written by neither), the footprints the table assigns to the threads are race-free — the premise of T09.1. -/
theorem table_raceFree (S : Scenario) (h : exclusive S = true) : (tableFootprint S).raceFree := by
  intro t t' ht l hW
  obtain ⟨p', hp', j, c', hj, r, hr, hl⟩ := hW
  -- no region of a call `c` of thread `t` denotes `l`, which thread `t'` writes through region `r` of its call `c'`
  have key : ∀ (p : List Call), S[t]? = some p → ∀ i c, p[i]? = some c → ∀ r2,
      (r2 ∈ (footprint c.api).reads ∨ r2 ∈ (footprint c.api).writes) → ¬ regionLocs t i c.obj r2 l := by
    intro p hp i c hi r2 hr2 hl2
    rcases writes_regions c'.api r hr with rfl | rfl | ⟨v, rfl⟩ <;> obtain ⟨cell, rfl⟩ := hl
    · exact ht (regionLocs_callLocal hl2).symm
    · -- the object `c'` is invoked on: `c'` writes it, so `c` must not touch it
      obtain ⟨rfl, ho⟩ := regionLocs_obj hl2
      have hconf := exclusive_spec h hp hp' ht (List.mem_of_getElem? hi) (List.mem_of_getElem? hj)
      have hw : writesSelf c'.api = true := by simpa [writesSelf] using hr
      have ht2 : touchesSelf c.api = true := by
        simp only [touchesSelf, Bool.or_eq_true, List.contains_iff_mem]
        exact hr2
      simp [conflictCalls, ho, hw, ht2] at hconf
    · exact ht (regionLocs_tls hl2).symm
  constructor
  · rintro ⟨p, hp, i, c, hi, r2, hr2, hl2⟩
    exact key p hp i c hi r2 (Or.inl hr2) hl2
  · rintro ⟨p, hp, i, c, hi, r2, hr2, hl2⟩
    exact key p hp i c hi r2 (Or.inr hr2) hl2

/-- **T09.3, the discipline of the property implies `exclusive`.**  If whenever two different threads call entry points
that touch object state on the SAME object both calls are const plan solves (free functions touch no object; all other
objects are used by one thread only), the scenario is admitted. -/
theorem discipline_exclusive (S : Scenario)
    (h : ∀ (t t' : Nat) (p p' : List Call), S[t]? = some p → S[t']? = some p' → t ≠ t' → ∀ c ∈ p, ∀ c' ∈ p', c.obj = c'.obj →
      touchesSelf c.api = true → touchesSelf c'.api = true → c.api = .planSolve ∧ c'.api = .planSolve) :
    exclusive S = true := by
  unfold exclusive
  rw [List.all_eq_true]
  rintro ⟨p, t⟩ hpt
  rw [List.all_eq_true]
  rintro ⟨p', t'⟩ hpt'
  have hp := List.mem_zipIdx_iff_getElem?.1 hpt
  have hp' := List.mem_zipIdx_iff_getElem?.1 hpt'
  simp only at hp hp'
  simp only [Bool.or_eq_true, beq_iff_eq, List.all_eq_true, Bool.not_eq_eq_eq_not, Bool.not_true]
  by_cases ht : t = t'
  · exact Or.inl ht
  · right
    intro c hc c' hc'
    by_cases hconf : conflictCalls c c' = true
    · exfalso
      simp only [conflictCalls, Bool.and_eq_true, beq_iff_eq] at hconf
      obtain ⟨⟨ho, hw⟩, hts⟩ := hconf
      have hts' : touchesSelf c'.api = true := by
        simp only [touchesSelf, Bool.or_eq_true]; exact Or.inr hw
      have := (h t t' p p' hp hp' ht c hc c' hc' ho hts hts').2
      rw [this] at hw
      exact absurd hw (by decide)
    · simpa using hconf

/-! ### the combination -/

/-- **C09 (model level).** Any number of threads whose programs consist of library calls with the table's footprints,
used according to the discipline (free functions anywhere; stateful objects by one thread; plan objects shared through
const `solve`): under EVERY interleaving each thread computes exactly its single-threaded results, and no two accesses
race. -/
theorem concurrent_use_safe {υ σ : Type} (S : Scenario) (hS : exclusive S = true)
    (P : Nat → Prog Loc υ σ) (hP : (tableFootprint S).covers P) (c0 : Cfg Loc υ σ) (s : List Nat) :
    (∀ t, (run P s c0).loc t = (alone P t (s.count t) c0).loc t) ∧ ¬ RacyTrace (trace P s c0) :=
  ⟨fun t => (noninterference hP (table_raceFree S hS) c0 s t).1, no_race hP (table_raceFree S hS) s c0⟩

/-! ### non-vacuity and necessity of the premises -/

/-- a scenario of the kind the harness runs: two threads share plan object 7 through `solve`, each has its own
FftFilter (objects 1001 / 1011), both call free functions and seed / draw random numbers -/
def demo : Scenario :=
  [ [⟨.fft, 0⟩, ⟨.planSolve, 7⟩, ⟨.filterCtor, 1001⟩, ⟨.filterProcess, 1001⟩, ⟨.rng, 0⟩, ⟨.randn, 0⟩],
    [⟨.planSolve, 7⟩, ⟨.rfft, 0⟩, ⟨.filterCtor, 1011⟩, ⟨.filterProcess, 1011⟩, ⟨.randn, 0⟩, ⟨.planSolve, 7⟩] ]

example : exclusive demo = true := by decide

example : (tableFootprint demo).raceFree := table_raceFree demo (by decide)

/-- sharing a STATEFUL object (one FftFilter processed by two threads) is rejected by the discipline -/
example : exclusive [[⟨.filterProcess, 5⟩], [⟨.filterProcess, 5⟩]] = false := by decide

/-- constructing a plan while another thread already solves with it is rejected as well -/
example : exclusive [[⟨.planCtor, 5⟩], [⟨.planSolve, 5⟩]] = false := by decide

/-- Two threads that each do `x := x + 1` (load, then store) on ONE shared location: the racy program the premises exclude. -/
def racy : Nat → Prog Unit Nat (Nat × Option Nat) := fun _ s =>
  match s with
  | (0, _) => some (.load () (fun v => (1, some v)))
  | (1, some v) => some (.store () (v + 1) (2, none))
  | _ => none

def racy0 : Cfg Unit Nat (Nat × Option Nat) := ⟨fun _ => 0, fun _ => (0, none)⟩

/-- necessity: without the footprint premise the conclusion fails — under the interleaving 0,1,0,1 both increments read 0
and the final value is 1, while thread 1 run after thread 0 (0,0,1,1) ends with 2 -/
theorem racy_witness :
    (run racy [0, 1, 0, 1] racy0).mem () = 1 ∧ (run racy [0, 0, 1, 1] racy0).mem () = 2 ∧
    RacyTrace (trace racy [0, 1, 0, 1] racy0) := by
  refine ⟨by decide, by decide, ?_⟩
  refine ⟨(0, .wr ()), by decide, (1, .rd ()), by decide, by decide, rfl, Or.inl rfl⟩

/-- non-vacuity of T09.2 at a concrete engine (a counter): thread 1's draws are 5,6 whatever thread 0 does in between -/
def ctr : RngSpec Nat Nat := ⟨0, fun k => k.toNat, fun e => (e, e + 1)⟩

example : (rngRun ctr (fun _ => ctr.fresh) [(1, .seed 5), (0, .seed 9), (1, .draw), (0, .draw), (0, .seed 1), (1, .draw)]).filter
    (fun e => e.1 = 1) = [(1, 5), (1, 6)] := by decide

end Dsp.C09
