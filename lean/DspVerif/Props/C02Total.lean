import DspVerif.Props.C02
import DspVerif.Props.C01Total
/-!
# C02 — the UNCONDITIONAL theorems: the inverse transforms invert the library's own forward transforms

`Props/C02.lean` proves the clauses of C02 with the forward transforms as PARAMETERS, under the hypothesis that the forward plan
computes the DFT at the ONE size the function hands to it (`IsDftAt fwd n` / `IsRDftAt rfwd n`; `ifft`: `x.size`; `irfft(·, n)`,
`istft(·, nfft)`: `n/2`; `stft(·, nfft)`: `nfft`).  `Props/C01Total.lean` proves that statement for the model of the library's FFT
family (`Fft.fftC lit n`, `Fft.fftR lit n`) for every length `0 < n < 2^31` (not for `0` and `n ≥ 2^31`: `mkPlan`'s 32-step
factor loop and the 32-bit `nextpow2`; this is why `IsDft (Fft.fftC lit)` itself, for EVERY `n`, cannot be discharged and the
`*_model` corollaries of `Props/C02.lean` cannot be applied verbatim).  This file plugs the second into the first, for the
instantiation the driver runs (`Ifft.ifft lit`, `Ifft.irfft lit`, `Ifft.stft lit`, `Ifft.istft lit` = the `…With` functions at
`Fft.fftC lit` / `Fft.fftR lit`, see `Driver/H02.lean`).

C02's `IsDftAt` also asks for the SIZE of the output (`(fwd n x).size = n`; arrays are compared as arrays), C01's `IsDft n f`
only speaks about the cells: `C01.fftC_size`, `C01.fftR_size` (every plan of `create_fft_plan` returns `n` cells).

Remaining hypotheses: `LitsOK lit` (the three literals denote `√½`, `√½`, `√¾`; `C01.litsOK_exact`) and the `int` range
(`< 2^31`) of the one size each function hands to its forward plan; evenness of `n` / `nfft` where the code demands it.
-/
open Finset Complex
namespace Dsp
namespace C02
open Dsp.Ifft Dsp.C07

/-! ## C01's conclusion in the shape C02 takes it -/

/-- C02's hypothesis at size `n`, for the library's complex transform: `C01.fftC_eq` + `C01.fftC_size` -/
theorem isDftAt_fftC (lit : Fft.Lits ℝ) (hl : C01.LitsOK lit) (n : ℕ) (hn : 0 < n) (hlt : n < 2 ^ 31) : IsDftAt (Fft.fftC lit) n :=
  fun x _ => ⟨C01.fftC_size lit n hn hlt.le x, C01.fftC_eq lit hl n hn hlt x⟩

/-- C02's hypothesis at size `n`, for the library's real transform: `C01.fftR_eq` + `C01.fftR_size` -/
theorem isRDftAt_fftR (lit : Fft.Lits ℝ) (hl : C01.LitsOK lit) (n : ℕ) (hn : 0 < n) (hlt : n < 2 ^ 31) : IsRDftAt (Fft.fftR lit) n :=
  fun x _ => ⟨C01.fftR_size lit n hn hlt x, C01.fftR_eq lit hl n hn hlt x⟩

/-! ## T02.1 `ifft`, unconditionally -/

variable (lit : Fft.Lits ℝ)

/-- **T02.1** (`IfftPlan::solve` is the inverse DFT), no transform hypothesis: for every `1 ≤ n < 2^31` the library's
`ifft` — scale, conj, the library's own `fft`, conj — returns `(1/n) Σ_k X k · ω^{-kt}` -/
theorem ifft_eq_idft_total (hl : C01.LitsOK lit) (X : Vec ℝ) (h1 : 1 ≤ X.size) (hlt : X.size < 2 ^ 31) :
    ∃ y, Ifft.ifft lit X = .ok y ∧ y.size = X.size ∧ ∀ t < X.size, seq y t = idft X.size (seq X) t :=
  ifft_eq_idft _ X (isDftAt_fftC lit hl _ h1 hlt) h1

/-- **T02.1** (clause "for every n ≥ 1, ifft(fft(x)) reproduces x"), no transform hypothesis: the library's `ifft` applied to
the library's `fft` of `x` is `x` (exact arithmetic, equality of arrays), every `1 ≤ n < 2^31` -/
theorem ifft_fft_total (hl : C01.LitsOK lit) (x : Vec ℝ) (h1 : 1 ≤ x.size) (hlt : x.size < 2 ^ 31) :
    Ifft.ifft lit (Fft.fftC lit x.size x) = .ok x :=
  Ifft.ifft_fft_at _ x (isDftAt_fftC lit hl _ h1 hlt) h1

/-- **T02.1** (the other composition), no transform hypothesis: `fft(ifft(X)) = X`, every `1 ≤ n < 2^31` -/
theorem fft_ifft_total (hl : C01.LitsOK lit) (X : Vec ℝ) (h1 : 1 ≤ X.size) (hlt : X.size < 2 ^ 31) :
    ∃ y, Ifft.ifft lit X = .ok y ∧ y.size = X.size ∧ Fft.fftC lit X.size y = X :=
  fft_ifft _ X (isDftAt_fftC lit hl _ h1 hlt) h1

/-! ## T02.3 `irfft`, unconditionally -/

/-- the library's plan of size `n/2`, the one `irfft(·, n)` and `istft(·, n)` use -/
theorem isDftAt_fftC_half (hl : C01.LitsOK lit) (n : ℕ) (h2 : 2 ≤ n) (hlt : n < 2 ^ 31) : IsDftAt (Fft.fftC lit) (n / 2) :=
  isDftAt_fftC lit hl _ (Nat.div_pos h2 Nat.two_pos) ((Nat.div_le_self n 2).trans_lt hlt)

/-- **T02.3** (`irfft_eq`), no transform hypothesis: for every even `2 ≤ n < 2^31` and every Hermitian spectrum `X` the library's
`irfft(X, n)` (packing, the library's own `fft` of size `n/2`, unpacking) is the real signal whose `n`-point transform is `X` -/
theorem irfft_eq_total (hl : C01.LitsOK lit) (n : ℕ) (hn : n % 2 = 0) (h2 : 2 ≤ n) (hlt : n < 2 ^ 31) (X : Vec ℝ) (hX : X.size = n)
    (hsym : ∀ k < n, seq X ((n - k) % n) = (starRingEnd ℂ) (seq X k)) :
    ∃ r, Ifft.irfft lit n X = .ok r ∧ r.size = n ∧ ∀ t < n, ((rdR r t : ℝ) : ℂ) = idft n (seq X) t :=
  ⟨_, irfftWith_ok _ n hn h2 X (.inl hX), size_irfftCore .., irfftCore_eq _ n (isDftAt_fftC_half lit hl n h2 hlt) hn h2 X hsym⟩

/-- **T02.3**, no transform hypothesis: `irfft` of ANY array holding the DFT of a real `x` returns `x`, from all `n` bins and from
the first `n/2 + 1` alike -/
theorem irfft_of_dft_total (hl : C01.LitsOK lit) (n : ℕ) (hn : n % 2 = 0) (h2 : 2 ≤ n) (hlt : n < 2 ^ 31)
    (x : Array ℝ) (hx : x.size = n) (X : Vec ℝ) (hXs : X.size = n) (hXv : ∀ k < n, Cx.toC (rd X k) = dft n (seqR x) k) :
    Ifft.irfft lit n X = .ok x ∧ Ifft.irfft lit n (X.extract 0 (n / 2 + 1)) = .ok x :=
  irfft_of_dft _ n (isDftAt_fftC_half lit hl n h2 hlt) hn h2 x hx X hXs hXv

/-- **T02.3** (clause "irfft(rfft(x), n) reproduces x, both input forms"), no transform hypothesis: for every even
`2 ≤ n < 2^31` the library's `irfft` applied to the library's `rfft` of a real `x` returns `x` — from all `n` bins and from the
first `n/2 + 1` alike (exact arithmetic, equality of arrays) -/
theorem irfft_rfft_total (hl : C01.LitsOK lit) (x : Array ℝ) (hn : x.size % 2 = 0) (h2 : 2 ≤ x.size) (hlt : x.size < 2 ^ 31) :
    Ifft.irfft lit x.size (Fft.fftR lit x.size x) = .ok x ∧
    Ifft.irfft lit x.size ((Fft.fftR lit x.size x).extract 0 (x.size / 2 + 1)) = .ok x := by
  obtain ⟨hs, hv⟩ := isRDftAt_fftR lit hl x.size (by omega) hlt x rfl
  exact irfft_of_dft_total lit hl x.size hn h2 hlt x rfl _ hs hv

/-! ## T02.6 / T02.7 `istft ∘ stft`, unconditionally -/

/-- **T02.6** (clause "istft(stft(x)) reproduces x on every sample whose accumulated window weight is non-zero"), no transform
hypothesis: for EVERY window, every overlap `< nwin`, `nwin ≤ nfft`, every even `2 ≤ nfft < 2^31`, the three ranges and both
methods, the library's `stft` (on the library's `rfft`) accepts and produces `(nx - overlap) / hop` frames, the library's `istft`
(on the library's `irfft`) accepts them and returns `nwin + (nseg-1)·hop` samples, and `y[t] = x[t]` at every sample whose
accumulated weight passes the code's guard (`> nseg·eps`).  (At the other samples see `istft_finite_total`.) -/
theorem istft_stft_total (hl : C01.LitsOK lit) (x win : Array ℝ) (overlap nfft range method : ℕ)
    (hov : overlap < win.size) (hwin : win.size ≤ nfft) (hn : nfft % 2 = 0) (h2 : 2 ≤ nfft) (hlt : nfft < 2 ^ 31) (hr : range ≤ 2) :
    ∃ S y, Ifft.stft lit x win overlap nfft range = .ok S ∧ S.size = numSeg x.size win.size overlap ∧
      Ifft.istft lit S win overlap nfft range method = .ok y ∧
      y.size = outLen S.size win.size (win.size - overlap) ∧
      ∀ t < y.size, (S.size : ℝ) * Ifft.eps < weight win S.size (win.size - overlap) method t → rdR y t = rdR x t := by
  obtain ⟨S, y, hS, hsize, hy, hlen, hval⟩ := istft_stft_weighted _ _ x win overlap nfft range method
    (isDftAt_fftC_half lit hl nfft h2 hlt) (isRDftAt_fftR lit hl nfft (by omega) hlt) hov hwin hn h2 hr
  exact ⟨S, y, hS, hsize, hy, hlen, fun t ht hw => (hval t ht).trans (mul_div_normGuard _ _ hw)⟩

/-- **T02.7** (clause "contains only finite values") for the driver's `istft` — no hypothesis at all (not even `LitsOK`): whenever
`istft` accepts its arguments, EVERY output sample is a quotient whose denominator is the guarded weight, which is never zero -/
theorem istft_finite_total (xx : Array (Vec ℝ)) (win : Array ℝ) (overlap nfft range method : ℕ) (y : Array ℝ)
    (h : Ifft.istft lit xx win overlap nfft range method = .ok y) :
    y.size = outLen xx.size win.size (win.size - overlap) ∧
    ∀ t < y.size, ∃ num : ℝ,
      rdR y t = num / normGuard xx.size (weight win xx.size (win.size - overlap) method t) ∧
      normGuard xx.size (weight win xx.size (win.size - overlap) method t) ≠ 0 :=
  istft_finite _ xx win overlap nfft range method y h

/-! ## non-vacuity: `LitsOK` holds for the exact literals, the theorems apply at concrete lengths of every plan kind -/

/-- `ifft(fft(x)) = x` at a concrete 3-vector (`_dft_n3`) … -/
example : Ifft.ifft ⟨√2 / 2, √2 / 2, √3 / 2⟩ (Fft.fftC ⟨√2 / 2, √2 / 2, √3 / 2⟩ 3 #[⟨1, 2⟩, ⟨0, -1⟩, ⟨5, 0⟩])
    = .ok #[⟨1, 2⟩, ⟨0, -1⟩, ⟨5, 0⟩] :=
  ifft_fft_total _ C01.litsOK_exact #[⟨1, 2⟩, ⟨0, -1⟩, ⟨5, 0⟩] (by decide) (by norm_num)

/-- … and for every vector of length 1000 (factor tree), 1009 (Bluestein), 4096 (radix-2 network) -/
example (x : Vec ℝ) (hx : x.size = 1000 ∨ x.size = 1009 ∨ x.size = 4096) :
    Ifft.ifft ⟨√2 / 2, √2 / 2, √3 / 2⟩ (Fft.fftC ⟨√2 / 2, √2 / 2, √3 / 2⟩ x.size x) = .ok x :=
  ifft_fft_total _ C01.litsOK_exact x (by omega) (by rcases hx with h | h | h <;> rw [h] <;> norm_num)

/-- `fft(ifft(X)) = X` and `ifft = idft` at length 1001 (odd composite) -/
example (X : Vec ℝ) (hX : X.size = 1001) :
    ∃ y, Ifft.ifft ⟨√2 / 2, √2 / 2, √3 / 2⟩ X = .ok y ∧ y.size = X.size ∧ Fft.fftC ⟨√2 / 2, √2 / 2, √3 / 2⟩ X.size y = X :=
  fft_ifft_total _ C01.litsOK_exact X (by omega) (by rw [hX]; norm_num)

example (X : Vec ℝ) (hX : X.size = 1001) :
    ∃ y, Ifft.ifft ⟨√2 / 2, √2 / 2, √3 / 2⟩ X = .ok y ∧ y.size = X.size ∧ ∀ t < X.size, seq y t = idft X.size (seq X) t :=
  ifft_eq_idft_total _ C01.litsOK_exact X (by omega) (by rw [hX]; norm_num)

/-- `irfft(rfft(x), 4) = x` at a concrete real 4-vector, both input forms … -/
example : Ifft.irfft ⟨√2 / 2, √2 / 2, √3 / 2⟩ 4 (Fft.fftR ⟨√2 / 2, √2 / 2, √3 / 2⟩ 4 #[1, -2, 3, 5]) = .ok #[1, -2, 3, 5] ∧
    Ifft.irfft ⟨√2 / 2, √2 / 2, √3 / 2⟩ 4 ((Fft.fftR ⟨√2 / 2, √2 / 2, √3 / 2⟩ 4 #[1, -2, 3, 5]).extract 0 3) = .ok #[1, -2, 3, 5] :=
  irfft_rfft_total _ C01.litsOK_exact #[1, -2, 3, 5] (by decide) (by decide) (by decide)

/-- … and for every real signal of length 2018 = 2·1009 (packed real plan over the Bluestein plan of size 1009) -/
example (x : Array ℝ) (hx : x.size = 2018) :
    Ifft.irfft ⟨√2 / 2, √2 / 2, √3 / 2⟩ x.size (Fft.fftR ⟨√2 / 2, √2 / 2, √3 / 2⟩ x.size x) = .ok x :=
  (irfft_rfft_total _ C01.litsOK_exact x (by omega) (by omega) (lt_of_eq_of_lt hx (by decide))).1

/-- `irfft_eq_total`: the Hermitian hypothesis is met by a concrete spectrum (`n = 4`) -/
example : ∃ r, Ifft.irfft ⟨√2 / 2, √2 / 2, √3 / 2⟩ 4 #[⟨1, 0⟩, ⟨2, 3⟩, ⟨5, 0⟩, ⟨2, -3⟩] = .ok r ∧ r.size = 4 ∧
    ∀ t < 4, ((rdR r t : ℝ) : ℂ) = idft 4 (seq #[⟨1, 0⟩, ⟨2, 3⟩, ⟨5, 0⟩, ⟨2, -3⟩]) t := by
  refine irfft_eq_total _ C01.litsOK_exact 4 rfl (by decide) (by decide) _ rfl fun k hk => ?_
  have key : ∀ a b : Cx ℝ, a.re = b.re → a.im = -b.im → Cx.toC a = (starRingEnd ℂ) (Cx.toC b) :=
    fun a b h1 h2 => Complex.ext h1 h2
  have : k = 0 ∨ k = 1 ∨ k = 2 ∨ k = 3 := by omega
  rcases this with rfl | rfl | rfl | rfl
  · exact key _ _ rfl neg_zero.symm
  · exact key _ _ rfl rfl
  · exact key _ _ rfl neg_zero.symm
  · exact key _ _ rfl (neg_neg _).symm

/-- `istft(stft(x)) = x`: rectangular window of 2, hop 1, `nfft = 4`, a signal of 3 samples: two frames, sample 1 is covered twice
(weight 2 > 2·eps) and is reconstructed -/
example : ∃ S y, Ifft.stft ⟨√2 / 2, √2 / 2, √3 / 2⟩ #[3, -1, 4] #[1, 1] 1 4 1 = .ok S ∧
    Ifft.istft ⟨√2 / 2, √2 / 2, √3 / 2⟩ S #[1, 1] 1 4 1 0 = .ok y ∧ S.size = 2 ∧ rdR y 1 = -1 := by
  obtain ⟨S, y, a, b, c, d, e⟩ := istft_stft_total _ C01.litsOK_exact #[3, -1, 4] #[1, 1] 1 4 1 0
    (by decide) (by decide) rfl (by decide) (by decide) (by decide)
  have hS : S.size = 2 := by rw [b]; decide
  refine ⟨S, y, a, c, hS, ?_⟩
  have h := e 1 (by rw [d, hS]; decide)
  rw [hS] at h
  rw [h (by rw [show (#[1, 1] : Array ℝ).size - 1 = 1 from rfl, weight_rect, Nat.cast_ofNat]; exact two_eps_lt_two)]
  rfl

end C02
end Dsp
