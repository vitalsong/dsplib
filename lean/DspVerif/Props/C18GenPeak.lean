import DspVerif.Props.C18
import DspVerif.Gen.StepsPeakloc
import DspVerif.Lib.RealFn
import DspVerif.Lib.GenBridge
/-!
# C18 — bridge: the hand-written `peakloc` models ARE the regenerated code of `lib/utils.cpp`

`Gen/StepsPeakloc.lean` is written by `tools/cxx2lean.py` on every check run from `lib/utils.cpp` (both overloads of
`peakloc`, with their `int` index arithmetic `(idx - 1 + n) % n`, `(idx + 1) % n` as C++ writes it: truncated remainder on
`Int`) and `lib/math.cpp` (`real(cmplx_t)`); `2 * x[mk]` is the left-oriented `T * cmplx_t` template of `types.h`
(`Gen.Cx.rmul`, regenerated in `Gen/Cmplx.lean`).

Proved here over ℝ, for every array and every index inside it (`0 ≤ idx < x.size()`, the domain of the C++ `assert`) and both
`cyclic` settings: `peaklocR_gen_eq`, `peaklocC_gen_eq` — the generated functions equal `Detect.peaklocR` / `Detect.peaklocC`,
the functions the driver runs and `Props/C18.lean` reasons about.  Hence `peakloc_vertex_gen`: T18.2 (the result is the vertex
`-b/(2a)` of the parabola through the three samples) holds of the regenerated code.
-/
namespace Dsp.C18GenPeak
open Dsp Dsp.Detect Dsp.GenBridge

set_option linter.unusedSimpArgs false
set_option linter.unusedVariables false

theorem idx_left (idx n : ℕ) (h : idx < n) : Int.tmod (((idx : Int) - 1) + (n : Int)) (n : Int) = (((idx + n - 1) % n : ℕ) : Int) :=
  tmod_eq _ _ _ (by omega)

theorem idx_right (idx n : ℕ) : Int.tmod ((idx : Int) + 1) (n : Int) = (((idx + 1) % n : ℕ) : Int) :=
  tmod_eq _ _ _ (by omega)

/-- the same neighbours written in the other orders a maintainer might choose (`(idx + n - 1) % n`, `(n + idx - 1) % n`,
`(1 + idx) % n`): the bridge below must not depend on which one the source uses -/
theorem idx_left' (idx n : ℕ) (h : idx < n) : Int.tmod (((idx : Int) + (n : Int)) - 1) (n : Int) = (((idx + n - 1) % n : ℕ) : Int) :=
  tmod_eq _ _ _ (by omega)

theorem idx_left'' (idx n : ℕ) (h : idx < n) : Int.tmod (((n : Int) + (idx : Int)) - 1) (n : Int) = (((idx + n - 1) % n : ℕ) : Int) :=
  tmod_eq _ _ _ (by omega)

theorem idx_right' (idx n : ℕ) : Int.tmod (1 + (idx : Int)) (n : Int) = (((idx + 1) % n : ℕ) : Int) :=
  tmod_eq _ _ _ (by omega)

theorem cond_eq {β : Type} (x : Array β) (idx : ℕ) (cyclic : Bool) :
    ((¬ (cyclic = true)) ∧ (((idx : Int) = (0 : Int)) ∨ ((idx : Int) = (Gen.arrSize x - (1 : Int))))) ↔
      ((!cyclic && (idx == 0 || idx + 1 == x.size)) = true) := by
  simp only [Gen.arrSize, Int.ofNat_eq_natCast]
  cases cyclic
  · simp; omega
  · simp

/-- the regenerated real overload = the model the driver runs and T18.2 is about -/
theorem peaklocR_gen_eq (x : Array ℝ) (idx : ℕ) (cyclic : Bool) (h : idx < x.size) :
    Gen.peaklocR x (idx : Int) cyclic = Detect.peaklocR x idx cyclic := by
  unfold Gen.peaklocR Detect.peaklocR
  by_cases hc : ((!cyclic && (idx == 0 || idx + 1 == x.size)) = true)
  · rw [if_pos ((cond_eq x idx cyclic).mpr hc), if_pos hc]
    simp
  · rw [if_neg (fun hh => hc ((cond_eq x idx cyclic).mp hh)), if_neg hc]
    simp only [Gen.arrSize, Int.ofNat_eq_natCast, idx_left idx x.size h, idx_left' idx x.size h, idx_left'' idx x.size h, idx_right idx x.size, idx_right' idx x.size, arrGet_natCast, Gen.zeroR, fn_ofInt, fn_ofNat]
    first | (simp; done) | (simp; ring) | (simp; ring_nf)

/-- the regenerated complex overload = the model the driver runs -/
theorem peaklocC_gen_eq (x : Array (Cx ℝ)) (idx : ℕ) (cyclic : Bool) (h : idx < x.size) :
    Gen.peaklocC x (idx : Int) cyclic = Detect.peaklocC x idx cyclic := by
  unfold Gen.peaklocC Detect.peaklocC
  by_cases hc : ((!cyclic && (idx == 0 || idx + 1 == x.size)) = true)
  · rw [if_pos ((cond_eq x idx cyclic).mpr hc), if_pos hc]
    simp
  · rw [if_neg (fun hh => hc ((cond_eq x idx cyclic).mp hh)), if_neg hc]
    simp only [Gen.arrSize, Int.ofNat_eq_natCast, idx_left idx x.size h, idx_left' idx x.size h, idx_left'' idx x.size h, idx_right idx x.size, idx_right' idx x.size, arrGet_natCast, Gen.zeroC, Gen.realOfCx, fn_ofInt, fn_ofNat]
    first | (simp [MathFns.czero]; done) | (simp [MathFns.czero]; ring) | (simp [MathFns.czero]; ring_nf)

/-- T18.2 for the REGENERATED real overload: if the three samples around `idx` (cyclic neighbours) lie on
`a t² + b t + c` with `a ≠ 0`, `peakloc` returns the vertex `-b / (2a)` -/
theorem peakloc_vertex_gen (x : Array ℝ) (idx : ℕ) (cyclic : Bool) (h : idx < x.size)
    (hc : cyclic = true ∨ (idx ≠ 0 ∧ idx + 1 ≠ x.size))
    (a b c : ℝ) (ha : a ≠ 0)
    (hl : a * ((idx : ℝ) - 1) ^ 2 + b * ((idx : ℝ) - 1) + c = x.getD ((idx + x.size - 1) % x.size) 0)
    (hk : a * (idx : ℝ) ^ 2 + b * (idx : ℝ) + c = x.getD idx 0)
    (hr : a * ((idx : ℝ) + 1) ^ 2 + b * ((idx : ℝ) + 1) + c = x.getD ((idx + 1) % x.size) 0) :
    Gen.peaklocR x (idx : Int) cyclic = -b / (2 * a) := by
  rw [peaklocR_gen_eq x idx cyclic h]
  exact Dsp.C18.peakloc_vertex x idx cyclic hc a b c ha hl hk hr

/-- the regenerated code at a non-cyclic edge returns the index itself -/
theorem peakloc_noncyclic_edge_gen (x : Array ℝ) (idx : ℕ) (h : idx < x.size) (he : idx = 0 ∨ idx + 1 = x.size) :
    Gen.peaklocR x (idx : Int) false = idx := by
  rw [peaklocR_gen_eq x idx false h]
  exact Dsp.C18.peakloc_noncyclic_edge x idx he

/-- non-vacuity: the samples 1, 4, 3 at 0, 1, 2 lie on `-2 t² + 5 t + 1`; the regenerated code returns the vertex 5/4 -/
example : Gen.peaklocR (#[1, 4, 3] : Array ℝ) (1 : ℕ) false = 5 / 4 := by
  have := peakloc_vertex_gen (#[1, 4, 3] : Array ℝ) 1 false (by decide) (Or.inr (by decide)) (-2) 5 1 (by norm_num)
    (by norm_num [Array.getD_eq_getD_getElem?]) (by norm_num [Array.getD_eq_getD_getElem?])
    (by norm_num [Array.getD_eq_getD_getElem?])
  rw [this]; norm_num

end Dsp.C18GenPeak
