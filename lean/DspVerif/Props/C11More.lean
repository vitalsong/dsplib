import DspVerif.Props.C11
/-!
# C11 (continued) — the Kaiser window lies in [0, 1]

`Props/C11.lean` proves the lower bound (`kaiser_range_partial`) only, because
numerator `I₀ᵗ(β√(1−r²))` and denominator `I₀ᵗ(β)` are partial sums of the I₀ series whose lengths are decided
by the data-dependent stopping rule `term < r * eps` of `_besseli0`.  This file settles the clause in the
exact-ℝ model, with no extra hypothesis (every `nw`, every `beta`, and in fact every value of `eps`):

* the quotient `term_k / r_k` (last term over running sum) after `k` iterations is non-decreasing in `q = (x/2)²`,
  because `r_k / term_k = ∑_{j ≤ k} q^{j-k} (k!/j!)²` is a sum of non-increasing functions of `q`;
  hence the stopping index is monotone in `|x|`: if the loop for the larger argument stops at `k`, the loop for
  the smaller one stops at `k` or earlier (`besselLoop_mono`, carried as the invariant `t₁ * r₂ ≤ t₂ * r₁`);
* all terms are non-negative and monotone in `q`, so a shorter sum at a smaller argument is ≤ a longer sum at a
  larger one: `besseli0_mono : |x₁| ≤ |x₂| → besseli0 x₁ ≤ besseli0 x₂`;
* `1 ≤ besseli0 x` (`besseli0_ge_one`), so the `abs` and the division in `kaiser` are harmless, and
  `|β √(1 − ξ)| ≤ |β|` since `0 ≤ ξ`.
-/
set_option linter.unusedSectionVars false
namespace Dsp.C11
open Dsp Dsp.Window

section kaiserRange
open Real

/-- one iteration of the loop of `_besseli0` over ℝ:
`term *= q / (k * k); r += term; if (term < r * eps()) break;` -/
theorem besselLoop_succ (q : ℝ) (fuel k : ℕ) (t r : ℝ) :
    besselLoop q (fuel + 1) k t r =
      if t * (q / ((k : ℝ) * (k : ℝ))) < (r + t * (q / ((k : ℝ) * (k : ℝ)))) * eps
      then r + t * (q / ((k : ℝ) * (k : ℝ)))
      else besselLoop q fuel (k + 1) (t * (q / ((k : ℝ) * (k : ℝ)))) (r + t * (q / ((k : ℝ) * (k : ℝ)))) := rfl

/-- the multiplier `q / (k * k)` of the term update is non-negative for `q ≥ 0` (also for `k = 0`) -/
theorem besselStep_nonneg (q : ℝ) (hq : 0 ≤ q) (k : ℕ) : 0 ≤ q / ((k : ℝ) * (k : ℝ)) :=
  div_nonneg hq (mul_self_nonneg _)

/-- the running sum never decreases: started with a non-negative term and `q ≥ 0`, the loop returns at least
the sum it was started on (every `eps`, every fuel) -/
theorem besselLoop_ge (q : ℝ) (hq : 0 ≤ q) (fuel : ℕ) : ∀ (k : ℕ) (t r : ℝ), 0 ≤ t →
    r ≤ besselLoop q fuel k t r := by
  induction fuel with
  | zero => intro k t r _; exact le_refl _
  | succ f ih =>
    intro k t r ht
    rw [besselLoop_succ]
    have hc := besselStep_nonneg q hq k
    have ht' : 0 ≤ t * (q / ((k : ℝ) * (k : ℝ))) := mul_nonneg ht hc
    split
    · exact le_add_of_nonneg_right ht'
    · exact (le_add_of_nonneg_right ht').trans (ih (k + 1) _ _ ht')

/-- MONOTONICITY OF THE TRUNCATED SERIES INCLUDING ITS STOPPING RULE.  Two runs of the loop of `_besseli0`, at
`0 ≤ q₁ ≤ q₂`, from the same iteration `k` with the same fuel, with terms `0 ≤ t₁ ≤ t₂`, running sums
`0 < r₁ ≤ r₂` and `t₁ / r₁ ≤ t₂ / r₂` (written without division): the run at `q₁` returns no more than the run
at `q₂`.  The invariant `t₁ * r₂ ≤ t₂ * r₁` is what makes the stopping index monotone: whenever the `q₂` run
breaks (`t₂ < r₂ * eps`), the `q₁` run breaks in the same iteration at the latest. -/
theorem besselLoop_mono (q₁ q₂ : ℝ) (hq₁ : 0 ≤ q₁) (hq : q₁ ≤ q₂) (fuel : ℕ) :
    ∀ (k : ℕ) (t₁ t₂ r₁ r₂ : ℝ), 0 ≤ t₁ → t₁ ≤ t₂ → 0 < r₁ → r₁ ≤ r₂ → t₁ * r₂ ≤ t₂ * r₁ →
      besselLoop q₁ fuel k t₁ r₁ ≤ besselLoop q₂ fuel k t₂ r₂ := by
  induction fuel with
  | zero => intro k t₁ t₂ r₁ r₂ _ _ _ hr _; exact hr
  | succ f ih =>
    intro k t₁ t₂ r₁ r₂ ht₁ ht hr₁ hr hinv
    have hq₂ : 0 ≤ q₂ := le_trans hq₁ hq
    have ht₂ : 0 ≤ t₂ := le_trans ht₁ ht
    have hr₂ : 0 < r₂ := lt_of_lt_of_le hr₁ hr
    rw [besselLoop_succ, besselLoop_succ]
    have hd : (0 : ℝ) ≤ (k : ℝ) * (k : ℝ) := mul_self_nonneg _
    have hc₁ := besselStep_nonneg q₁ hq₁ k
    have hc₂ := besselStep_nonneg q₂ hq₂ k
    have hc : q₁ / ((k : ℝ) * (k : ℝ)) ≤ q₂ / ((k : ℝ) * (k : ℝ)) := div_le_div_of_nonneg_right hq hd
    generalize q₁ / ((k : ℝ) * (k : ℝ)) = c₁ at hc₁ hc ⊢
    generalize q₂ / ((k : ℝ) * (k : ℝ)) = c₂ at hc₂ hc ⊢
    -- the updated state
    have hu₁ : 0 ≤ t₁ * c₁ := mul_nonneg ht₁ hc₁
    have hu₂ : 0 ≤ t₂ * c₂ := mul_nonneg ht₂ hc₂
    have hu : t₁ * c₁ ≤ t₂ * c₂ := mul_le_mul ht hc hc₁ ht₂
    have hs₁ : 0 < r₁ + t₁ * c₁ := by linarith
    have hs : r₁ + t₁ * c₁ ≤ r₂ + t₂ * c₂ := by linarith
    have hs₂ : 0 < r₂ + t₂ * c₂ := lt_of_lt_of_le hs₁ hs
    -- the ratio invariant survives the update
    have hinv' : t₁ * c₁ * (r₂ + t₂ * c₂) ≤ t₂ * c₂ * (r₁ + t₁ * c₁) := by
      have h1 : t₁ * r₂ * c₁ ≤ t₂ * r₁ * c₁ := mul_le_mul_of_nonneg_right hinv hc₁
      have h2 : t₂ * r₁ * c₁ ≤ t₂ * r₁ * c₂ :=
        mul_le_mul_of_nonneg_left hc (mul_nonneg ht₂ hr₁.le)
      linear_combination h1 + h2
    by_cases hb₂ : t₂ * c₂ < (r₂ + t₂ * c₂) * eps
    · -- the run at `q₂` breaks: so does the run at `q₁`, since `t₁' * r₂' ≤ t₂' * r₁' < r₂' * eps * r₁'`
      have hb₁ : t₁ * c₁ < (r₁ + t₁ * c₁) * eps := by
        have h2 : t₂ * c₂ * (r₁ + t₁ * c₁) < (r₂ + t₂ * c₂) * eps * (r₁ + t₁ * c₁) :=
          mul_lt_mul_of_pos_right hb₂ hs₁
        refine lt_of_mul_lt_mul_right ?_ hs₂.le
        linear_combination hinv' + h2
      rw [if_pos hb₁, if_pos hb₂]; exact hs
    · rw [if_neg hb₂]
      by_cases hb₁ : t₁ * c₁ < (r₁ + t₁ * c₁) * eps
      · -- only the run at `q₁` breaks: the other one keeps adding non-negative terms
        rw [if_pos hb₁]
        exact le_trans hs (besselLoop_ge q₂ hq₂ f (k + 1) _ _ hu₂)
      · rw [if_neg hb₁]
        exact ih (k + 1) _ _ _ _ hu₁ hu hs₁ hs hinv'

/-- `_besseli0(x) ≥ 1` for every `x` (the series starts at 1 and all its terms are squares) -/
theorem besseli0_ge_one (x : ℝ) : 1 ≤ besseli0 x := by
  unfold besseli0
  simp only [fn_ofNat, Nat.cast_one]
  exact besselLoop_ge _ (mul_self_nonneg _) 999 1 1 1 zero_le_one

/-- `_besseli0` — the series AS TRUNCATED BY THE CODE'S STOPPING RULE — is monotone in `|x|` -/
theorem besseli0_mono (x₁ x₂ : ℝ) (h : |x₁| ≤ |x₂|) : besseli0 x₁ ≤ besseli0 x₂ := by
  unfold besseli0
  simp only [fn_ofNat, Nat.cast_one]
  apply besselLoop_mono _ _ (mul_self_nonneg _) _ 999 1 1 1 1 1 zero_le_one (le_refl _) zero_lt_one (le_refl _)
    (le_refl _)
  have h2 : |x₁ / ((2 : ℕ) : ℝ)| ≤ |x₂ / ((2 : ℕ) : ℝ)| := by
    rw [abs_div, abs_div]
    exact div_le_div_of_nonneg_right h (abs_nonneg _)
  exact abs_le_iff_mul_self_le.mp h2

/-- scaling by a square root of something `≤ 1` does not increase the absolute value -/
theorem abs_mul_sqrt_le (beta y : ℝ) (hy : y ≤ 1) : |beta * Real.sqrt y| ≤ |beta| := by
  rw [abs_mul, abs_of_nonneg (Real.sqrt_nonneg y)]
  have : Real.sqrt y ≤ 1 := by
    rw [show (1 : ℝ) = Real.sqrt 1 from Real.sqrt_one.symm]
    exact Real.sqrt_le_sqrt hy
  calc |beta| * Real.sqrt y ≤ |beta| * 1 := mul_le_mul_of_nonneg_left this (abs_nonneg _)
    _ = |beta| := mul_one _

/-- the Kaiser quotient for an argument scaled by `√y`, `y ≤ 1`: in [0, 1] -/
theorem kaiserQuot_range (beta y : ℝ) (hy : y ≤ 1) :
    0 ≤ abs (besseli0 (beta * Real.sqrt y) / abs (besseli0 beta)) ∧
      abs (besseli0 (beta * Real.sqrt y) / abs (besseli0 beta)) ≤ 1 := by
  have hb : 0 < besseli0 beta := zero_lt_one.trans_le (besseli0_ge_one beta)
  have hn : 0 < besseli0 (beta * Real.sqrt y) := zero_lt_one.trans_le (besseli0_ge_one _)
  rw [abs_of_pos hb, abs_of_pos (div_pos hn hb), div_le_one hb]
  exact ⟨(div_pos hn hb).le, besseli0_mono _ _ (abs_mul_sqrt_le beta y hy)⟩

/-- T11.3 per point, textbook index: `kaiserF beta N k ∈ [0, 1]` for EVERY `beta`, `N`, `k` (also `k ≥ N`, where
the square root is taken of a negative number and is 0, and `N = 1`, where the model divides by `N − 1 = 0`) -/
theorem kaiserF_range (beta : ℝ) (N k : ℕ) : 0 ≤ kaiserF beta N k ∧ kaiserF beta N k ≤ 1 :=
  kaiserQuot_range _ _ (sub_le_self _ (sq_nonneg _))

/-- T11.3 for Kaiser, FULL: every value of `kaiser(nw, beta)` lies in [0, 1] — every length `nw` (in particular
every `nw ≥ 3`), every `beta` (no sign or size restriction), in the exact-ℝ model with the code's own stopping
rule and iteration cap; no hypothesis on `eps` is used -/
theorem kaiser_range (beta : ℝ) (nw : ℕ) : ∀ x ∈ (kaiser nw beta : List ℝ), 0 ≤ x ∧ x ≤ 1 := by
  intro x hx
  have hx' := kaiser_mem_half nw beta x hx
  unfold kaiserHalf at hx'
  obtain ⟨i, _, rfl⟩ := List.mem_map.mp hx'
  simp only [fn_ofNat, Nat.cast_one]
  exact kaiserQuot_range _ _
    (sub_le_self _ (div_nonneg (mul_nonneg (Nat.cast_nonneg _) (mul_self_nonneg _)) (mul_self_nonneg _)))

/-- the same through the closed form of `Props/C11`: point `k` of the window of length `nw ≥ 3` -/
theorem kaiser_get_range (beta : ℝ) (nw : ℕ) (hn : 3 ≤ nw) (k : ℕ) (hk : k < nw) :
    ∃ x, (kaiser nw beta : List ℝ)[k]? = some x ∧ 0 ≤ x ∧ x ≤ 1 :=
  ⟨_, kaiser_closed_form beta nw hn k hk, kaiserF_range beta nw k⟩

end kaiserRange

section examples
open Real

/-- non-vacuity of `kaiser_range`: the window of 3 points at `beta = 5` has 3 points (so the ∀ ranges over a
non-empty list), and its centre point is exactly 1 (numerator and denominator are the same truncated series:
the upper bound is attained) -/
example : (kaiser 3 (5 : ℝ)).length = 3 ∧ (kaiser 3 (5 : ℝ))[1]? = some 1 ∧
    ∀ x ∈ (kaiser 3 (5 : ℝ)), 0 ≤ x ∧ x ≤ 1 := by
  refine ⟨kaiser_length _ _, ?_, kaiser_range 5 3⟩
  rw [kaiser_closed_form 5 3 (le_refl _) 1 (by decide)]
  unfold kaiserF
  have hb : 0 < besseli0 (5 : ℝ) := lt_of_lt_of_le one_pos (besseli0_ge_one 5)
  have e : (5 : ℝ) * Real.sqrt (1 - (2 * ((1 : ℕ) : ℝ) / (((3 : ℕ) : ℝ) - 1) - 1) ^ 2) = 5 := by norm_num
  rw [e, abs_of_pos hb, div_self hb.ne', abs_one]

/-- non-vacuity of `besselLoop_mono`'s breaking branch: at `q = 0` the loop breaks in its first iteration
(`0 < 1 * eps`), so `_besseli0(0) = 1`; with `besseli0_mono` every other value is at least that -/
example : besseli0 (0 : ℝ) = 1 ∧ ∀ x : ℝ, besseli0 (0 : ℝ) ≤ besseli0 x := by
  refine ⟨?_, fun x => besseli0_mono 0 x (by rw [abs_zero]; exact abs_nonneg x)⟩
  unfold besseli0
  simp only [fn_ofNat]
  rw [besselLoop_succ]
  simp [eps]

end examples

end Dsp.C11
