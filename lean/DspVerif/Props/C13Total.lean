import DspVerif.Props.C13
import DspVerif.Props.C01Total
/-!
# C13 — the theorems of `Props/C13.lean` WITHOUT a transform hypothesis

`Props/C13.lean` has the transform as a parameter `fft` and "`fft n` is the `n`-point DFT of the zero-padded / truncated segment"
(`IsDftR` / `IsDftC`) as a hypothesis.  The driver (`Driver/H13.lean`: `fftR13 n x = fftRN lits13 n x`, `fftC13 n x = fftCN lits13 n x`)
runs `welchR` / `welchC` / `mscohere` on top of C01's model of the library's own `fft(seg, nfft)`: `Fft.fftRN lit` / `Fft.fftCN lit`.
`Props/C01Total.lean` proves `fftRN_eq_total` / `fftCN_eq_total` (every target length `0 < n' < 2^31`), so for that instantiation the
hypothesis is a theorem (`isDftR_fftRN`, `isDftC_fftCN`).  This file restates every clause of C13 for `fft := fftRN lit` /
`fft := fftCN lit` at `ℝ`.  What is left as hypothesis:

* `LitsOK lit` — the three literals of the small kernels denote `√½`, `√½`, `√¾` (`C01.litsOK_exact`);
* `nfft < 2^31` — every value of the `int` argument (`0 < nfft` and "power of two" follow from the call being accepted);
* the size / divisor hypotheses the originals carry (`winlen ≤ nfft`, `winlen ≤ len`, the divisors `dot(w,w)`, `sum(w)`, the
  auto-spectra `≠ 0`).  The parity hypothesis `2 ∣ nfft` of the originals is DERIVED here from `2 ≤ nfft` (an accepted size is a
  power of two: `accepted_pow2`).

The size, sign and `mscohere_range` clauses need no transform hypothesis; their `_total` versions are re-exports.
-/
open Finset Complex

namespace Dsp.C13
open Dsp.C07 Dsp.Fft Dsp.Spectrum Dsp.Primes Dsp.C01

/-! ## the hypothesis `IsDftR` / `IsDftC` is a theorem for the library's transform -/

/-- `fft(arr_real, n)` / `rfft(x, n)` of the library (model `Fft.fftRN`) satisfies `IsDftR n`, every `0 < n < 2^31` -/
theorem isDftR_fftRN (lit : Lits ℝ) (hl : LitsOK lit) (n : ℕ) (hn : 0 < n) (hlt : n < 2 ^ 31) :
    IsDftR n (fftRN lit n) :=
  isDftR_of_pad n _ (fun y k hk => fftRN_eq_total lit hl n hn hlt y k hk)

/-- `fft(arr_cmplx, n)` of the library (model `Fft.fftCN`) satisfies `IsDftC n`, every `0 < n < 2^31` -/
theorem isDftC_fftCN (lit : Lits ℝ) (hl : LitsOK lit) (n : ℕ) (hn : 0 < n) (hlt : n < 2 ^ 31) :
    IsDftC n (fftCN lit n) :=
  isDftC_of_pad n _ (fun y k hk => fftCN_eq_total lit hl n hn hlt y k hk)

theorem toNat_bounds {nfft : ℤ} (h0 : 0 < nfft) (hb : nfft < 2 ^ 31) : 0 < nfft.toNat ∧ nfft.toNat < 2 ^ 31 :=
  ⟨Int.lt_toNat.mpr h0, by omega⟩

/-- an accepted `welch` call (any transform): `nfft` is positive, and `nfft ≥ 2` gives the parity (accepted sizes are powers of two) -/
theorem welchR_accepted {fft : ℕ → Array ℝ → Vec ℝ} {x win : Array ℝ} {nov nfft : ℤ} {psd : Bool} {pxx f : Array ℝ}
    (h : welchR fft x win nov nfft psd = .ok (pxx, f)) : 0 < nfft ∧ (2 ≤ nfft → 2 ∣ nfft.toNat) := by
  obtain ⟨pl, hp, _, _⟩ := welchR_ok h
  exact ⟨(plan_ok hp).1, (accepted_pow2 hp).2⟩

theorem welchC_accepted {fft : ℕ → Vec ℝ → Vec ℝ} {x : Vec ℝ} {win : Array ℝ} {nov nfft : ℤ} {psd : Bool} {pxx f : Array ℝ}
    (h : welchC fft x win nov nfft psd = .ok (pxx, f)) : 0 < nfft ∧ (2 ≤ nfft → 2 ∣ nfft.toNat) := by
  obtain ⟨pl, hp, _, _⟩ := welchC_ok h
  exact ⟨(plan_ok hp).1, (accepted_pow2 hp).2⟩

theorem mscohere_accepted {fft : ℕ → Array ℝ → Vec ℝ} {x y win : Array ℝ} {nov nfft : ℤ} {c : Array ℝ}
    (h : mscohere fft x y win nov nfft = .ok c) : 0 < nfft := by
  obtain ⟨_, pl, hp, _⟩ := mscohere_ok h
  exact (plan_ok hp).1

/-- the hypothesis `hfft` of the real-input theorems, for an accepted call on the library's transform -/
theorem welchR_isDft {lit : Lits ℝ} (hl : LitsOK lit) {x win : Array ℝ} {nov nfft : ℤ} {psd : Bool} {pxx f : Array ℝ}
    (h : welchR (fftRN lit) x win nov nfft psd = .ok (pxx, f)) (hb : nfft < 2 ^ 31) :
    IsDftR nfft.toNat (fftRN lit nfft.toNat) := by
  obtain ⟨h0, h1⟩ := toNat_bounds (welchR_accepted h).1 hb
  exact isDftR_fftRN lit hl _ h0 h1

/-- the hypothesis `hfft` of the complex-input theorems, for an accepted call on the library's transform -/
theorem welchC_isDft {lit : Lits ℝ} (hl : LitsOK lit) {x : Vec ℝ} {win : Array ℝ} {nov nfft : ℤ} {psd : Bool} {pxx f : Array ℝ}
    (h : welchC (fftCN lit) x win nov nfft psd = .ok (pxx, f)) (hb : nfft < 2 ^ 31) :
    IsDftC nfft.toNat (fftCN lit nfft.toNat) := by
  obtain ⟨h0, h1⟩ := toNat_bounds (welchC_accepted h).1 hb
  exact isDftC_fftCN lit hl _ h0 h1

/-- real input: the call is accepted as soon as `plan` is (non-vacuity: accepted calls exist) -/
theorem welchR_accepts (fft : ℕ → Array ℝ → Vec ℝ) (x win : Array ℝ) (nov nfft : ℤ) (psd : Bool) (pl : Spectrum.Plan)
    (hp : plan x.size win.size nov nfft = .ok pl) : ∃ pxx f, welchR fft x win nov nfft psd = .ok (pxx, f) := by
  unfold welchR
  rw [hp]
  exact ⟨_, _, rfl⟩

/-- … and `mscohere`, for signals of equal length -/
theorem mscohere_accepts (fft : ℕ → Array ℝ → Vec ℝ) (x y win : Array ℝ) (nov nfft : ℤ) (pl : Spectrum.Plan)
    (hs : x.size = y.size) (hp : plan x.size win.size nov nfft = .ok pl) : ∃ c, mscohere fft x y win nov nfft = .ok c := by
  unfold mscohere
  rw [if_neg (not_not.mpr hs), hp]
  exact ⟨_, rfl⟩

/-! ## T13.1 sizes, signs (re-exports), conservation of power -/

section T1
variable {lit : Lits ℝ} {win : Array ℝ} {nov nfft : ℤ} {pxx f : Array ℝ}

/-- T13.1 sizes, real input, on the library's transform (`welchR_size` holds for every transform) -/
theorem welchR_size_total {x : Array ℝ} {psd : Bool} (h : welchR (fftRN lit) x win nov nfft psd = .ok (pxx, f)) :
    pxx.size = nfft.toNat / 2 + 1 ∧ f.size = nfft.toNat / 2 + 1 := welchR_size h

/-- T13.1 sizes, complex input: `pxx` has `nfft` entries and so has `f` for every accepted `nfft ≥ 2` (the parity is derived) -/
theorem welchC_size_total {x : Vec ℝ} {psd : Bool} (h : welchC (fftCN lit) x win nov nfft psd = .ok (pxx, f)) (h2 : 2 ≤ nfft) :
    pxx.size = nfft.toNat ∧ f.size = nfft.toNat :=
  ⟨(welchC_size h).1, (welchC_size h).2 ((welchC_accepted h).2 h2)⟩

/-- T13.1 non-negative values, real input (`welchR_nonneg` holds for every transform) -/
theorem welchR_nonneg_total {x : Array ℝ} {psd : Bool} (h : welchR (fftRN lit) x win nov nfft psd = .ok (pxx, f))
    (hNL : win.size ≤ x.size) (hw : winpow psd win ≠ 0) (hn : 2 ≤ nfft.toNat) (k : ℕ) (hk : k < nfft.toNat / 2 + 1) :
    0 ≤ rdR pxx k := welchR_nonneg h hNL hw hn k hk

/-- T13.1 non-negative values, complex input -/
theorem welchC_nonneg_total {x : Vec ℝ} {psd : Bool} (h : welchC (fftCN lit) x win nov nfft psd = .ok (pxx, f))
    (hNL : win.size ≤ x.size) (hw : winpow psd win ≠ 0) (j : ℕ) (hj : j < nfft.toNat) : 0 ≤ rdR pxx j :=
  welchC_nonneg h hNL hw j hj

/-- **T13.1 `welch_power`, real input, unconditional**: for the library's own `fft(seg, nfft)`, every accepted `2 ≤ nfft < 2^31`
(a power of two), `winlen ≤ nfft`, `winlen ≤ len`, `dot(w,w) ≠ 0`:
`∑_k pxx[k] = nfft · mean_i(∑_t (x[i·hop+t]·w[t])²) / (w·w)` -/
theorem welchR_power_total (hl : LitsOK lit) {x : Array ℝ} (h : welchR (fftRN lit) x win nov nfft true = .ok (pxx, f))
    (h2 : 2 ≤ nfft) (hb : nfft < 2 ^ 31) (hL : win.size ≤ nfft.toNat) (hNL : win.size ≤ x.size) (hw : dotWW win ≠ 0) :
    ∑ k ∈ range (nfft.toNat / 2 + 1), rdR pxx k =
      (nfft.toNat : ℝ) * ((∑ i ∈ range (nsegs x.size win.size nov), segPowR x win (i * hop win.size nov)) /
        (nsegs x.size win.size nov : ℝ)) / dotWW win :=
  welchR_power h (welchR_isDft hl h hb) ((welchR_accepted h).2 h2) hL hNL hw

/-- **T13.1 `welch_power`, complex input, unconditional**: every accepted `nfft < 2^31` -/
theorem welchC_power_total (hl : LitsOK lit) {x : Vec ℝ} (h : welchC (fftCN lit) x win nov nfft true = .ok (pxx, f))
    (hb : nfft < 2 ^ 31) (hL : win.size ≤ nfft.toNat) (hNL : win.size ≤ x.size) (hw : dotWW win ≠ 0) :
    ∑ j ∈ range nfft.toNat, rdR pxx j =
      (nfft.toNat : ℝ) * ((∑ i ∈ range (nsegs x.size win.size nov), segPowC x win (i * hop win.size nov)) /
        (nsegs x.size win.size nov : ℝ)) / dotWW win :=
  welchC_power h (welchC_isDft hl h hb) hL hNL hw

end T1

/-! ## T13.2 bin-centred tones in `Power` scaling -/

section T2
variable {lit : Lits ℝ} {win : Array ℝ} {nov nfft : ℤ} {pxx f : Array ℝ}

/-- T13.2, every bin, unconditional: `|a|²·|W(j - k0)|² / (∑w)²` at every position `j` -/
theorem welchC_tone_value_total (hl : LitsOK lit) {x : Vec ℝ} (h : welchC (fftCN lit) x win nov nfft false = .ok (pxx, f))
    (hb : nfft < 2 ^ 31) (hL : win.size ≤ nfft.toNat) (hNL : win.size ≤ x.size) (hsw : sumW win ≠ 0)
    (a : ℂ) (k0 : ℕ) (htone : ∀ u < x.size, Cx.toC (rd x u) = a * (ω nfft.toNat (k0 * u))⁻¹)
    (j : ℕ) (hj : j < nfft.toNat) :
    rdR pxx j = normSq a * normSq (winShift nfft.toNat win k0 j) / (sumW win * sumW win) :=
  welchC_tone_value h (welchC_isDft hl h hb) hL hNL hsw a k0 htone j hj

/-- **T13.2, unconditional**: at the tone's own bin the `Power`-scaled estimate of the library's `welch` is exactly `|a|²` -/
theorem welchC_tone_peak_total (hl : LitsOK lit) {x : Vec ℝ} (h : welchC (fftCN lit) x win nov nfft false = .ok (pxx, f))
    (hb : nfft < 2 ^ 31) (hL : win.size ≤ nfft.toNat) (hNL : win.size ≤ x.size) (hsw : sumW win ≠ 0)
    (a : ℂ) (k0 : ℕ) (hk0 : k0 < nfft.toNat) (htone : ∀ u < x.size, Cx.toC (rd x u) = a * (ω nfft.toNat (k0 * u))⁻¹) :
    rdR pxx k0 = normSq a :=
  welchC_tone_peak h (welchC_isDft hl h hb) hL hNL hsw a k0 hk0 htone

/-- **T13.2, unconditional**: for a non-negative window no entry exceeds the one at the tone's bin -/
theorem welchC_tone_max_total (hl : LitsOK lit) {x : Vec ℝ} (h : welchC (fftCN lit) x win nov nfft false = .ok (pxx, f))
    (hb : nfft < 2 ^ 31) (hL : win.size ≤ nfft.toNat) (hNL : win.size ≤ x.size) (hsw : sumW win ≠ 0)
    (hwpos : ∀ t < win.size, 0 ≤ rdR win t)
    (a : ℂ) (k0 : ℕ) (hk0 : k0 < nfft.toNat) (htone : ∀ u < x.size, Cx.toC (rd x u) = a * (ω nfft.toNat (k0 * u))⁻¹)
    (j : ℕ) (hj : j < nfft.toNat) : rdR pxx j ≤ rdR pxx k0 :=
  welchC_tone_max h (welchC_isDft hl h hb) hL hNL hsw hwpos a k0 hk0 htone j hj

/-- T13.2, real sinusoid in exponential form, unconditional: `2|a|²` up to the relative error `2r + r²`, `r = |S(2k0)| / |∑w|` -/
theorem welchR_tone_bound_total (hl : LitsOK lit) {x : Array ℝ} (h : welchR (fftRN lit) x win nov nfft false = .ok (pxx, f))
    (hb : nfft < 2 ^ 31) (hL : win.size ≤ nfft.toNat) (hNL : win.size ≤ x.size) (hsw : sumW win ≠ 0)
    (a : ℂ) (k0 : ℕ) (hk0 : 0 < k0) (hk0' : k0 < nfft.toNat / 2)
    (htone : ∀ u < x.size, ((rdR x u : ℝ) : ℂ) =
      a * (ω nfft.toNat (k0 * u))⁻¹ + (starRingEnd ℂ) a * ω nfft.toNat (k0 * u)) :
    |rdR pxx k0 - 2 * normSq a| ≤ 2 * normSq a *
      (2 * (‖winImage nfft.toNat win k0‖ / |sumW win|) + (‖winImage nfft.toNat win k0‖ / |sumW win|) ^ 2) :=
  welchR_tone_bound h (welchR_isDft hl h hb) hL hNL hsw a k0 hk0 hk0' htone

/-- **T13.2, real sinusoid `A·cos(2π k0 u/nfft + φ)`, unconditional**: the entry at bin `k0` is `A²/2` up to `(A²/2)·(2r + r²)` -/
theorem welchR_cos_tone_total (hl : LitsOK lit) {x : Array ℝ} (h : welchR (fftRN lit) x win nov nfft false = .ok (pxx, f))
    (hb : nfft < 2 ^ 31) (hL : win.size ≤ nfft.toNat) (hNL : win.size ≤ x.size) (hsw : sumW win ≠ 0)
    (A φ : ℝ) (k0 : ℕ) (hk0 : 0 < k0) (hk0' : k0 < nfft.toNat / 2)
    (htone : ∀ u < x.size, rdR x u = A * Real.cos (2 * Real.pi * ((k0 * u : ℕ) : ℝ) / (nfft.toNat : ℝ) + φ)) :
    |rdR pxx k0 - A ^ 2 / 2| ≤ A ^ 2 / 2 *
      (2 * (‖winImage nfft.toNat win k0‖ / |sumW win|) + (‖winImage nfft.toNat win k0‖ / |sumW win|) ^ 2) :=
  welchR_cos_tone h (welchR_isDft hl h hb) hL hNL hsw A φ k0 hk0 hk0' htone

end T2

/-! ## T13.3 frequency labels -/

section T3
variable {lit : Lits ℝ} {win : Array ℝ} {nov nfft : ℤ} {psd : Bool} {pxx f : Array ℝ}

/-- **T13.3 `freq_labels`, real input, unconditional**: entry `k` of `f` is `k / nfft`, and entry `k` of `pxx` is the (one-sided)
mean power of DFT bin `k` of the windowed segments — for the library's own transform, every accepted `2 ≤ nfft < 2^31` -/
theorem welchR_labels_total (hl : LitsOK lit) {x : Array ℝ} (h : welchR (fftRN lit) x win nov nfft psd = .ok (pxx, f))
    (hb : nfft < 2 ^ 31) (hNL : win.size ≤ x.size) (hn : 2 ≤ nfft.toNat) (k : ℕ) (hk : k < nfft.toNat / 2 + 1) :
    rdR f k = (k : ℝ) / (nfft.toNat : ℝ) ∧
    rdR pxx k = (if k = 0 ∨ k = nfft.toNat / 2 then (1 : ℝ) else 2) *
      ((∑ i ∈ range (nsegs x.size win.size nov),
        normSq (dft nfft.toNat (seqR (segR x win (i * hop win.size nov))) k) / winpow psd win) / (nsegs x.size win.size nov : ℝ)) :=
  welchR_labels h (welchR_isDft hl h hb) hNL hn k hk

/-- T13.3, complex input, what the code does, unconditional in the transform (`…_partial`: the FULL clause — "entry `j` of `f` is
the frequency of entry `j` of `pxx`" — is false on the current tree, `welchC_axis_offset_total`): entry `j` of `pxx` is the mean
power of DFT bin `j` (transform order), entry `j` of `f` is the centred-axis value `(j - nfft/2 + 1)/nfft` -/
theorem welchC_labels_partial_total (hl : LitsOK lit) {x : Vec ℝ} (h : welchC (fftCN lit) x win nov nfft psd = .ok (pxx, f))
    (h2 : 2 ≤ nfft) (hb : nfft < 2 ^ 31) (hNL : win.size ≤ x.size) (j : ℕ) (hj : j < nfft.toNat) :
    rdR f j = ((j : ℝ) - (nfft.toNat : ℝ) / 2 + 1) / (nfft.toNat : ℝ) ∧
    rdR pxx j = (∑ i ∈ range (nsegs x.size win.size nov),
        normSq (dft nfft.toNat (seq (segC x win (i * hop win.size nov))) j) / winpow psd win) / (nsegs x.size win.size nov : ℝ) :=
  welchC_labels_partial h (welchC_isDft hl h hb) hNL ((welchC_accepted h).2 h2) j hj

/-- T13.3, complex input, the recorded finding `C13:complex-welch-axis` for the library's transform: every accepted `nfft ≥ 4`
(parity derived), every position `j`: label minus true frequency is `1/nfft - 1/2 ∈ (-1/2, 0)` -/
theorem welchC_axis_offset_total {x : Vec ℝ} (h : welchC (fftCN lit) x win nov nfft psd = .ok (pxx, f))
    (h4 : 4 ≤ nfft) (j : ℕ) (hj : j < nfft.toNat) :
    rdR f j - (j : ℝ) / (nfft.toNat : ℝ) = 1 / (nfft.toNat : ℝ) - 1 / 2 ∧
    -(1 / 2 : ℝ) < 1 / (nfft.toNat : ℝ) - 1 / 2 ∧ 1 / (nfft.toNat : ℝ) - 1 / 2 < 0 :=
  welchC_axis_offset h ((welchC_accepted h).2 (by omega)) (by omega) j hj

end T3

/-- T13.3, complex input, the witness replayed by the oracle, on the library's OWN transform (no hypothesis but the literals):
`nfft = 8`, rectangular window, the tone at `+0.25`: accepted, maximum `1` at position 2, listed frequency `-1/8 ≠ 1/4` -/
theorem welchC_axis_witness_total (lit : Lits ℝ) (hl : LitsOK lit) :
    ∃ pxx f, welchC (fftCN lit) tone8 ones8 0 8 false = .ok (pxx, f) ∧ rdR pxx 2 = 1 ∧ (∀ j < 8, rdR pxx j ≤ rdR pxx 2) ∧
      rdR f 2 = -(1 / 8 : ℝ) ∧ rdR f 2 ≠ (2 : ℝ) / 8 :=
  welchC_axis_witness (fftCN lit) (isDftC_fftCN lit hl 8 (by norm_num) (by norm_num))

/-! ## T13.4 magnitude-squared coherence -/

section T4
variable {lit : Lits ℝ} {x y win : Array ℝ} {nov nfft : ℤ} {c : Array ℝ}

/-- **T13.4** `mscohere ∈ [0, 1]` on the library's transform (`mscohere_range` holds for every transform: Cauchy–Schwarz) -/
theorem mscohere_range_total (h : mscohere (fftRN lit) x y win nov nfft = .ok c) (hNL : win.size ≤ x.size)
    (k : ℕ) (hk : k < nfft.toNat / 2 + 1)
    (hx : autoSpec (fftRN lit) x win nov nfft k ≠ 0) (hy : autoSpec (fftRN lit) y win nov nfft k ≠ 0) :
    0 ≤ rdR c k ∧ rdR c k ≤ 1 := mscohere_range h hNL k hk hx hy

/-- **T13.4, unconditional** (`mscohere_scaled_copy` uses the linearity of the transform, i.e. `IsDftR`): `y = s·x`, `s ≠ 0`
gives coherence `1` at every bin where the spectrum of `x` is not zero — for the library's transform, every accepted `nfft < 2^31` -/
theorem mscohere_scaled_copy_total (hl : LitsOK lit) (h : mscohere (fftRN lit) x y win nov nfft = .ok c) (hb : nfft < 2 ^ 31)
    (hNL : win.size ≤ x.size) (s : ℝ) (hs : s ≠ 0) (hy : ∀ t, rdR y t = s * rdR x t)
    (k : ℕ) (hk : k < nfft.toNat / 2 + 1) (hx : autoSpec (fftRN lit) x win nov nfft k ≠ 0) : rdR c k = 1 := by
  obtain ⟨h0, h1⟩ := toNat_bounds (mscohere_accepted h) hb
  exact mscohere_scaled_copy h (isDftR_fftRN lit hl _ h0 h1) hNL s hs hy k hk hx

end T4

/-! ## non-vacuity: exact literals, concrete sizes, accepted calls -/

/-- the exact literals (`litsOK_exact`) -/
noncomputable abbrev litX : Lits ℝ := ⟨√2 / 2, √2 / 2, √3 / 2⟩

/-- the bridged hypotheses at concrete sizes inside the property's range 8..4096 -/
example : IsDftR 8 (fftRN litX 8) ∧ IsDftR 4096 (fftRN litX 4096) ∧ IsDftC 8 (fftCN litX 8) ∧ IsDftC 4096 (fftCN litX 4096) :=
  ⟨isDftR_fftRN _ litsOK_exact 8 (by norm_num) (by norm_num), isDftR_fftRN _ litsOK_exact 4096 (by norm_num) (by norm_num),
   isDftC_fftCN _ litsOK_exact 8 (by norm_num) (by norm_num), isDftC_fftCN _ litsOK_exact 4096 (by norm_num) (by norm_num)⟩

theorem dotWW_ones8 : dotWW ones8 = 8 := by
  rw [dotWW_eq, size_ones8]
  exact sum_ones8 _ fun t ht => by rw [rdR_ones8 t ht, mul_one]

/-- a real signal of 20 samples (any values: here `u ↦ u`) -/
noncomputable def ramp20 : Array ℝ := Array.ofFn (n := 20) (fun i => (i.val : ℝ))

theorem size_ramp20 : ramp20.size = 20 := Array.size_ofFn

theorem plan_ramp20 : plan ramp20.size ones8.size 4 8 = .ok ⟨8, 4, 4⟩ := by rw [size_ramp20, size_ones8]; rfl

/-- `welchR_power_total` / `welchR_labels_total` / `welchR_nonneg_total` / `welchR_size_total` at a concrete accepted call:
20 samples, rectangular 8-window, overlap 4, `nfft = 8`, exact literals — every hypothesis holds -/
example : ∃ pxx f, welchR (fftRN litX) ramp20 ones8 4 8 true = .ok (pxx, f) ∧
    (∑ k ∈ range 5, rdR pxx k = (8 : ℝ) * ((∑ i ∈ range (nsegs 20 8 4), segPowR ramp20 ones8 (i * hop 8 4)) /
        (nsegs 20 8 4 : ℝ)) / 8) ∧
    (∀ k < 5, rdR f k = (k : ℝ) / 8 ∧ 0 ≤ rdR pxx k) ∧ pxx.size = 5 := by
  obtain ⟨pxx, f, h⟩ := welchR_accepts (fftRN litX) ramp20 ones8 4 8 true _ plan_ramp20
  have hL : ones8.size ≤ (8 : ℤ).toNat := size_ones8.le
  have hNL : ones8.size ≤ ramp20.size := by rw [size_ones8, size_ramp20]; decide
  have hw : dotWW ones8 ≠ 0 := by rw [dotWW_ones8]; norm_num
  refine ⟨pxx, f, h, ?_, ?_, ?_⟩
  · have := welchR_power_total litsOK_exact h (by norm_num) (by norm_num) hL hNL hw
    rw [size_ramp20, size_ones8, dotWW_ones8] at this
    exact_mod_cast this
  · intro k hk
    have hk' : k < (8 : ℤ).toNat / 2 + 1 := by change k < 5; exact hk
    have h1 := (welchR_labels_total litsOK_exact h (by norm_num) hNL (by decide) k hk').1
    have h2 := welchR_nonneg_total h hNL (by simpa [winpow] using hw) (by decide) k hk'
    refine ⟨?_, h2⟩
    have hn : (8 : ℤ).toNat = 8 := rfl
    rw [h1, hn]; norm_num
  · exact (welchR_size_total h).1

/-- a complex signal of 20 samples -/
noncomputable def cramp20 : Vec ℝ := mk 20 (fun u => ⟨(u : ℝ), 1⟩)

theorem size_cramp20 : cramp20.size = 20 := Array.size_ofFn

/-- `welchC_power_total` / `welchC_labels_partial_total` / `welchC_size_total` at a concrete accepted call -/
example : ∃ pxx f, welchC (fftCN litX) cramp20 ones8 4 8 true = .ok (pxx, f) ∧
    (∑ j ∈ range 8, rdR pxx j = (8 : ℝ) * ((∑ i ∈ range (nsegs 20 8 4), segPowC cramp20 ones8 (i * hop 8 4)) /
        (nsegs 20 8 4 : ℝ)) / 8) ∧
    (∀ j < 8, rdR f j = ((j : ℝ) - 8 / 2 + 1) / 8) ∧ pxx.size = 8 ∧ f.size = 8 := by
  have hplan : plan cramp20.size ones8.size 4 8 = .ok ⟨8, 4, 4⟩ := by rw [size_cramp20, size_ones8]; rfl
  obtain ⟨pxx, f, h⟩ := welchC_accepts (fftCN litX) cramp20 ones8 4 8 true _ hplan
  have hL : ones8.size ≤ (8 : ℤ).toNat := size_ones8.le
  have hNL : ones8.size ≤ cramp20.size := by rw [size_ones8, size_cramp20]; decide
  have hw : dotWW ones8 ≠ 0 := by rw [dotWW_ones8]; norm_num
  refine ⟨pxx, f, h, ?_, ?_, ?_⟩
  · have := welchC_power_total litsOK_exact h (by norm_num) hL hNL hw
    rw [size_cramp20, size_ones8, dotWW_ones8] at this
    exact_mod_cast this
  · intro j hj
    have h1 := (welchC_labels_partial_total litsOK_exact h (by norm_num) (by norm_num) hNL j hj).1
    have hn : (8 : ℤ).toNat = 8 := rfl
    rw [h1, hn]; norm_num
  · exact welchC_size_total h (by norm_num)

/-- `welchC_tone_peak_total` / `welchC_tone_max_total` / `welchC_axis_offset_total`: the witness, on the library's transform with
the exact literals -/
example : ∃ pxx f, welchC (fftCN litX) tone8 ones8 0 8 false = .ok (pxx, f) ∧ rdR pxx 2 = 1 ∧ (∀ j < 8, rdR pxx j ≤ rdR pxx 2) ∧
    rdR f 2 = -(1 / 8 : ℝ) := by
  obtain ⟨pxx, f, h, h1, h2, h3, _⟩ := welchC_axis_witness_total litX litsOK_exact
  exact ⟨pxx, f, h, h1, h2, h3⟩

noncomputable def cos8 : Array ℝ :=
  Array.ofFn (n := 8) (fun u => 3 * Real.cos (2 * Real.pi * ((2 * u.val : ℕ) : ℝ) / (((8 : ℤ).toNat : ℕ) : ℝ) + 1))

/-- `welchR_cos_tone_total` / `welchR_tone_bound_total`: `x[u] = 3·cos(2π·2u/8 + 1)`, 8 samples, rectangular window, `nfft = 8`,
bin 2: the hypotheses hold together and the entry is within the image bound of `A²/2 = 9/2` -/
example : ∃ pxx f, welchR (fftRN litX) cos8 ones8 0 8 false = .ok (pxx, f) ∧
    |rdR pxx 2 - 3 ^ 2 / 2| ≤ 3 ^ 2 / 2 *
      (2 * (‖winImage (8 : ℤ).toNat ones8 2‖ / |sumW ones8|) + (‖winImage (8 : ℤ).toNat ones8 2‖ / |sumW ones8|) ^ 2) := by
  have hs : cos8.size = 8 := Array.size_ofFn
  have hplan : plan cos8.size ones8.size 0 8 = .ok ⟨8, 8, 1⟩ := by rw [hs, size_ones8]; rfl
  obtain ⟨pxx, f, h⟩ := welchR_accepts (fftRN litX) cos8 ones8 0 8 false _ hplan
  refine ⟨pxx, f, h, ?_⟩
  refine welchR_cos_tone_total litsOK_exact h (by norm_num) size_ones8.le (by rw [size_ones8, hs])
    (by rw [sumW_ones8]; norm_num) 3 1 2 (by norm_num) (by decide) ?_
  intro u hu
  rw [hs] at hu
  rw [cos8, rdR_ofFn _ _ _ hu]

noncomputable def ramp20x2 : Array ℝ := Array.ofFn (n := 20) (fun i => 2 * (i.val : ℝ))

/-- `mscohere_scaled_copy_total` / `mscohere_range_total`: an accepted call with `y = 2·x` exists (the spectrum condition `hx` is
the divisor of the code, kept as hypothesis) -/
example : ∃ c, mscohere (fftRN litX) ramp20 ramp20x2 ones8 4 8 = .ok c ∧ c.size = 5 ∧
    ∀ k < 5, autoSpec (fftRN litX) ramp20 ones8 4 8 k ≠ 0 → rdR c k = 1 := by
  have hs2 : ramp20x2.size = 20 := Array.size_ofFn
  obtain ⟨c, h⟩ := mscohere_accepts (fftRN litX) ramp20 ramp20x2 ones8 4 8 _ (by rw [size_ramp20, hs2]) plan_ramp20
  have hNL : ones8.size ≤ ramp20.size := by rw [size_ones8, size_ramp20]; decide
  refine ⟨c, h, (mscohere_cell h hNL 0 (by decide)).1, ?_⟩
  intro k hk hx
  refine mscohere_scaled_copy_total litsOK_exact h (by norm_num) hNL 2 (by norm_num) ?_ k (by change k < 5; exact hk) hx
  intro t
  by_cases ht : t < 20
  · rw [ramp20, ramp20x2, rdR_ofFn _ _ _ ht, rdR_ofFn _ _ _ ht]
  · rw [rdR_of_ge _ _ (by rw [hs2]; omega), rdR_of_ge _ _ (by rw [size_ramp20]; omega), mul_zero]

end Dsp.C13
