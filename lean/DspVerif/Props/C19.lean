import DspVerif.Model.Noise
import DspVerif.Lib.RealFn
import DspVerif.Lib.ListSum
import Mathlib.Tactic.Linarith
import Mathlib.Tactic.NormNum
import Mathlib.Tactic.Positivity
import Mathlib.Algebra.Order.Field.Basic
import Mathlib.Data.List.GetD
import Mathlib.Tactic.NormNum.Basic
import Mathlib.Algebra.Order.Floor.Ring
/-!
# C19 — noise injection and SNR/THD measurement are calibrated; random streams reproduce

Theorems about `Model/Noise` (tied to `lib/awgn.cpp`, `lib/random.cpp`, `lib/snr.cpp`, `lib/math.cpp` by the
correspondence run of `harness/c19.cpp`: `awgn` element-wise with the drawn values as inputs, the whole
`_harm_analyze`/`snr`/`sinad`/`thd` skeleton bit for bit on given spectra, `_periodogram` against the textbook DFT,
`rand`/`randn`/`awgn` streams against the `std::mt19937` + libstdc++ distribution instance of the engine).

* T19.1 (exact, ℝ): the variance the code gives the noise is `P_x / 10^(snr/10)` — in total over both components for
  complex input.  The deviation formulas are NOT hand-written: they are `Gen.awgnSigmaR` / `Gen.awgnSigmaC`
  (`Gen/Awgn.lean`, regenerated from `lib/awgn.cpp`'s AST on every run), so these proofs are re-checked against the source.
* T19.2: for EVERY engine, every history and every interleaved call sequence the values after `rng(seed)` depend on `seed`
  and the calls only; `randi` stays inside its inclusive bounds (given the `std::uniform_int_distribution` contract).
* T19.3: exact scale invariance of `snr`, `sinad`, `thd` (value and harmonic frequencies), for every spectrum / signal,
  window, `nharm`, `aliased`; `_periodogram(c·x) = c²·_periodogram(x)` needs no hypothesis on `c`.

Measured only (ORACLE of the harness, labelled measurement): noise level within 6 standard errors, zero mean,
whiteness, Gaussian shape; `thd` within 0.1 dB, component frequencies within 0.1 bin, `sinad` within 1.5 dB on
the stated tone family; the `Float` residue of the exact scale invariance (≤ 1e-9 dB).

Divisions: `x / 0 = 0` in ℝ.  The scale-invariance theorems use `(k·a)/(k·b) = a/b`, which holds for EVERY `b`
(`mul_div_mul_left`, `k ≠ 0`); at `b = 0` the IEEE evaluation gives `±inf`/`NaN` on BOTH sides, so nothing is claimed
that the code does not do (the harness runs the all-zero spectrum).  `awgn_scale_*` at the empty signal read `0 = 0`;
the code draws nothing there (harness: empty input gives empty output).
-/
noncomputable section
namespace Dsp.C19
open Dsp Dsp.Noise

/-! ## T19.1 — `awgn` scale factors -/
def powerR (x : List ℝ) : ℝ := (x.map (fun v => v ^ 2)).sum / x.length
def powerC (x : List (Cx ℝ)) : ℝ := (x.map (fun z => z.re ^ 2 + z.im ^ 2)).sum / x.length

theorem sumSq_eq (x : List ℝ) : sumSq x = (x.map (fun v => v ^ 2)).sum := by
  simp only [sumSq, foldl_add_map, fn_ofNat, Nat.cast_zero, zero_add, sq]

theorem sumSqC_eq (x : List (Cx ℝ)) : sumSqC x = (x.map (fun z => z.re ^ 2 + z.im ^ 2)).sum := by
  simp only [sumSqC, add_assoc, foldl_add_map, fn_ofNat, Nat.cast_zero, zero_add, sq]

theorem sumSq_nonneg (l : List ℝ) : 0 ≤ sumSq l := by
  rw [sumSq_eq]; exact sum_map_nonneg _ sq_nonneg l

theorem powerR_nonneg (x : List ℝ) : 0 ≤ powerR x :=
  div_nonneg (sum_map_nonneg (fun v => v ^ 2) sq_nonneg x) (Nat.cast_nonneg _)

theorem powerC_nonneg (x : List (Cx ℝ)) : 0 ≤ powerC x := by
  unfold powerC
  exact div_nonneg (sum_map_nonneg (fun z : Cx ℝ => z.re ^ 2 + z.im ^ 2) (fun z => add_nonneg (sq_nonneg z.re) (sq_nonneg z.im)) x)
    (Nat.cast_nonneg _)

theorem rmsR_sq (x : List ℝ) : rmsR x ^ 2 = powerR x := by
  have h := powerR_nonneg x
  unfold rmsR
  rw [sumSq_eq]
  simp only [fn_sqrt, fn_ofNat]
  exact Real.sq_sqrt h

theorem rmsC_sq (x : List (Cx ℝ)) : rmsC x ^ 2 = powerC x := by
  have h := powerC_nonneg x
  unfold rmsC
  rw [sumSqC_eq]
  simp only [fn_sqrt, fn_ofNat]
  exact Real.sq_sqrt h

/-- `(10^((-1)·snr/20))² = 1 / 10^(snr/10)` (the `std::pow` factor, in the shape the generated code has it) -/
theorem dbPow_sq (snr : ℝ) : ((10 : ℝ) ^ (-1 * snr / 20)) ^ 2 = 1 / (10 : ℝ) ^ (snr / 10) := by
  rw [← Real.rpow_natCast, ← Real.rpow_mul (by norm_num)]
  have : -1 * snr / 20 * ((2 : ℕ) : ℝ) = -(snr / 10) := by
    push_cast; ring
  rw [this, Real.rpow_neg (by norm_num)]
  simp [one_div]

/-- T19.1 on the GENERATED formula of the real overload (`Gen/Awgn.lean`, regenerated from `lib/awgn.cpp` on every
run): whatever `rms(arr)` is, the square of the deviation is `rms² / 10^(snr/10)`. -/
theorem gen_awgnSigmaR_sq (r snr : ℝ) : Gen.awgnSigmaR r snr ^ 2 = r ^ 2 / (10 : ℝ) ^ (snr / 10) := by
  unfold Gen.awgnSigmaR
  simp only [fn_pow, fn_ofInt]
  push_cast
  rw [mul_pow, dbPow_sq, mul_one_div]

/-- T19.1 on the GENERATED formula of the complex overload: re and im each get `σ²`, the total `2σ²` is
`rms² / 10^(snr/10)` — this is where `std::sqrt(0.5)` (and not `0.5`, `1`, `sqrt(2)`) is needed. -/
theorem gen_awgnSigmaC_sq (r snr : ℝ) : 2 * Gen.awgnSigmaC r snr ^ 2 = r ^ 2 / (10 : ℝ) ^ (snr / 10) := by
  unfold Gen.awgnSigmaC
  simp only [fn_pow, fn_ofInt, fn_sqrt]
  push_cast
  rw [mul_pow, mul_pow, dbPow_sq, Real.sq_sqrt (by norm_num)]
  ring

/-- T19.1 (real): the variance the code gives each noise sample is `P_x / 10^(snr/10)`.
`sigmaR x snr` is `Gen.awgnSigmaR (rms x) snr` by definition (stated below as `sigmaR_is_generated`). -/
theorem awgn_scale_real (x : List ℝ) (snr : ℝ) :
    sigmaR x snr ^ 2 = powerR x / (10 : ℝ) ^ (snr / 10) := by
  show Gen.awgnSigmaR (rmsR x) snr ^ 2 = _
  rw [gen_awgnSigmaR_sq, rmsR_sq]

/-- T19.1 (complex): re and im each get `σ²`; the total `2σ²` is `P_x / 10^(snr/10)`. -/
theorem awgn_scale_cmplx (x : List (Cx ℝ)) (snr : ℝ) :
    2 * sigmaC x snr ^ 2 = powerC x / (10 : ℝ) ^ (snr / 10) := by
  show 2 * Gen.awgnSigmaC (rmsC x) snr ^ 2 = _
  rw [gen_awgnSigmaC_sq, rmsC_sq]

/-- the deviation of the model IS the generated formula applied to `rms(arr)` (definitional, both overloads; ∀ scalar
type, so also at `Float` where the driver runs it) -/
theorem sigmaR_is_generated {α : Type} [Add α] [Sub α] [Mul α] [Div α] [Neg α] [LT α] [LE α] [Fn α]
    [DecidableRel (· < · : α → α → Prop)] [DecidableRel (· ≤ · : α → α → Prop)] (x : List α) (snr : α) :
    sigmaR x snr = Gen.awgnSigmaR (rmsR x) snr := rfl

theorem sigmaC_is_generated {α : Type} [Add α] [Sub α] [Mul α] [Div α] [Neg α] [LT α] [LE α] [Fn α]
    [DecidableRel (· < · : α → α → Prop)] [DecidableRel (· ≤ · : α → α → Prop)] (x : List (Cx α)) (snr : α) :
    sigmaC x snr = Gen.awgnSigmaC (rmsC x) snr := rfl


/-- the noise the real overload adds: `randn(n) * stddev` -/
def noiseR (x z : List ℝ) (snr : ℝ) : List ℝ := z.map (fun zi => zi * sigmaR x snr)
/-- the noise the complex overload adds: `complex(randn(n) * stddev, randn(n) * stddev)` -/
def noiseC (x : List (Cx ℝ)) (zre zim : List ℝ) (snr : ℝ) : List (Cx ℝ) :=
  (List.zip zre zim).map (fun zz => Cx.mk (zz.1 * sigmaC x snr) (zz.2 * sigmaC x snr))

theorem awgnR_eq (x z : List ℝ) (snr : ℝ) :
    awgnR x z snr = List.zipWith (· + ·) x (noiseR x z snr) := by
  unfold awgnR noiseR
  rw [List.zipWith_map_right]

theorem awgnC_eq (x : List (Cx ℝ)) (zre zim : List ℝ) (snr : ℝ) :
    awgnC x zre zim snr = List.zipWith (· + ·) x (noiseC x zre zim snr) := by
  unfold awgnC noiseC
  rw [List.zipWith_map_right]
  rfl

theorem powerR_scale (σ : ℝ) (z : List ℝ) : powerR (z.map (fun zi => zi * σ)) = σ ^ 2 * powerR z := by
  unfold powerR
  rw [List.map_map, List.length_map, ← mul_div_assoc, ← List.sum_map_mul_left]
  congr 2
  apply List.map_congr_left
  intro v _
  simp only [Function.comp]
  ring

theorem powerC_noise (σ : ℝ) (zre zim : List ℝ) (h : zre.length = zim.length) :
    powerC ((List.zip zre zim).map (fun zz => Cx.mk (zz.1 * σ) (zz.2 * σ)))
      = σ ^ 2 * (powerR zre + powerR zim) := by
  unfold powerC powerR
  rw [List.map_map, List.length_map, List.length_zip, ← h, Nat.min_self, ← add_div, ← mul_div_assoc]
  congr 1
  induction zre generalizing zim with
  | nil =>
    cases zim with
    | nil => simp
    | cons b bs => simp at h
  | cons a as ih =>
    cases zim with
    | nil => simp at h
    | cons b bs =>
      simp only [List.length_cons, Nat.add_right_cancel_iff] at h
      simp only [List.zip_cons_cons, List.map_cons, List.sum_cons, Function.comp, ih bs h]
      ring


/-- T19.1, real clause in full: `awgn(x, snr) = x + noise` (`awgnR_eq`) and the sample power of that noise is the
sample power of the `randn` draw (1 up to statistical fluctuation — measured) times `P_x / 10^(snr/10)`. -/
theorem awgn_noise_power_real (x z : List ℝ) (snr : ℝ) :
    powerR (noiseR x z snr) = powerR z * (powerR x / (10 : ℝ) ^ (snr / 10)) := by
  unfold noiseR
  rw [powerR_scale, awgn_scale_real, mul_comm]

/-- T19.1, complex clause in full: the noise power summed over both components is the mean of the two draws'
sample powers times `P_x / 10^(snr/10)` (not half of it, not twice it). -/
theorem awgn_noise_power_cmplx (x : List (Cx ℝ)) (zre zim : List ℝ) (h : zre.length = zim.length) (snr : ℝ) :
    powerC (noiseC x zre zim snr) = (powerR zre + powerR zim) / 2 * (powerC x / (10 : ℝ) ^ (snr / 10)) := by
  unfold noiseC
  rw [powerC_noise _ _ _ h, ← awgn_scale_cmplx]
  ring

/-- non-vacuity / calibration at a concrete point: `x = (3, 4)`, 20 dB: `σ² = 12.5 / 100` -/
example : sigmaR ([3, 4] : List ℝ) 20 ^ 2 = 1 / 8 := by
  rw [awgn_scale_real]
  have h : ((20 : ℝ) / 10) = ((2 : ℕ) : ℝ) := by norm_num
  rw [h, Real.rpow_natCast]
  norm_num [powerR]

/-- complex, `x = (3 + 4i)`, 10 dB: each component gets `σ² = 25 / 10 / 2` -/
example : sigmaC ([⟨3, 4⟩] : List (Cx ℝ)) 10 ^ 2 = 5 / 4 := by
  have h := awgn_scale_cmplx ([⟨3, 4⟩] : List (Cx ℝ)) 10
  rw [div_self (by norm_num), Real.rpow_one] at h
  refine mul_left_cancel₀ (two_ne_zero' ℝ) (h.trans ?_)
  norm_num [powerC]

/-! ## T19.2 — random streams replay -/
section Replay
variable {α : Type} [Add α] [Mul α] [Div α] [Fn α]
variable {E DN : Type} (S : Std E DN α) (b : Bool)

theorem run_append (p q : List (Cmd α)) (e : E) :
    run S b (p ++ q) e = ((run S b p e).1 ++ (run S b q (run S b p e).2).1, (run S b q (run S b p e).2).2) := by
  induction p generalizing e with
  | nil => rfl
  | cons c p ih => simp only [List.cons_append, run, ih]

/-- T19.2: whatever was called before (`hist`, from whatever engine state `e`), after `rng(seed)` the results of
ANY sequence `prog` of generator calls (rand / randn / randi / awgn, scalar and array forms, interleaved, further
`rng` calls included) are a function of `seed` and `prog` alone. -/
theorem rng_replay (seed : Int) (hist prog : List (Cmd α)) (e : E) :
    (run S b (hist ++ Cmd.rng seed :: prog) e).1
      = (run S b hist e).1 ++ Out.unit :: (run S b prog (S.seedE seed)).1 := by
  rw [run_append]
  rfl

/-- … hence two replays agree, whatever preceded each of them. -/
theorem rng_replay_eq (seed : Int) (hist₁ hist₂ prog : List (Cmd α)) (e₁ e₂ : E) :
    (run S b (Cmd.rng seed :: prog) (run S b hist₁ e₁).2).1
      = (run S b (Cmd.rng seed :: prog) (run S b hist₂ e₂).2).1 := rfl

/-- the engine after the replay is the same too (so replays can be continued) -/
theorem rng_replay_state (seed : Int) (hist₁ hist₂ prog : List (Cmd α)) (e₁ e₂ : E) :
    (run S b (Cmd.rng seed :: prog) (run S b hist₁ e₁).2).2
      = (run S b (Cmd.rng seed :: prog) (run S b hist₂ e₂).2).2 := rfl

end Replay

section Randi
variable {α E DN : Type} (S : Std E DN α)

theorem drawN_length {β : Type} (f : E → β × E) (n : Nat) (e : E) : (drawN f n e).1.length = n := by
  induction n generalizing e with
  | zero => rfl
  | succ n ih => simp only [drawN, List.length_cons, ih]

theorem drawN_forall {β : Type} (f : E → β × E) (P : β → Prop) (hf : ∀ e, P (f e).1) (n : Nat) (e : E) :
    ∀ v ∈ (drawN f n e).1, P v := by
  induction n generalizing e with
  | zero => intro v hv; simp [drawN] at hv
  | succ n ih =>
    intro v hv
    simp only [drawN, List.mem_cons] at hv
    rcases hv with rfl | hv
    · exact hf e
    · exact ih _ v hv

/-- the contract of `std::uniform_int_distribution<int>(lo, hi)` (trusted, libstdc++): values in `[lo, hi]` -/
def IntContract : Prop := ∀ lo hi e, lo ≤ hi → lo ≤ (S.unifInt lo hi e).1 ∧ (S.unifInt lo hi e).1 ≤ hi

/-- `randi({lo, hi})` stays inside its inclusive bounds (negative ranges included: `lo`, `hi` are arbitrary integers) -/
theorem randi_bounds (hI : IntContract S) (lo hi : Int) (h : lo ≤ hi) (e : E) :
    lo ≤ (randi S lo hi e).1 ∧ (randi S lo hi e).1 ≤ hi := hI lo hi e h

/-- `randi({lo, hi}, n)`: `n` values, each inside the inclusive bounds -/
theorem randiArr_bounds (hI : IntContract S) (lo hi : Int) (h : lo ≤ hi) (n : Nat) (e : E) :
    (randiArr S lo hi n e).1.length = n ∧ ∀ v ∈ (randiArr S lo hi n e).1, lo ≤ v ∧ v ≤ hi :=
  ⟨drawN_length _ n e, drawN_forall _ (fun v => lo ≤ v ∧ v ≤ hi) (fun e => hI lo hi e h) n e⟩

/-- single-value range -/
theorem randi_single (hI : IntContract S) (v : Int) (e : E) : (randi S v v e).1 = v := by
  have := hI v v e (le_refl v)
  unfold randi
  omega

/-- `randi(imax)` is in `[1, imax]` -/
theorem randi1_bounds (hI : IntContract S) (imax : Int) (h : 1 ≤ imax) (e : E) :
    1 ≤ (randi1 S imax e).1 ∧ (randi1 S imax e).1 ≤ imax := hI 1 imax e h

/-- `randi(imax, n)`: `n` values in `[1, imax]` -/
theorem randi1Arr_bounds (hI : IntContract S) (imax : Int) (h : 1 ≤ imax) (n : Nat) (e : E) :
    (randi1Arr S imax n e).1.length = n ∧ ∀ v ∈ (randi1Arr S imax n e).1, 1 ≤ v ∧ v ≤ imax :=
  randiArr_bounds S hI 1 imax h n e

end Randi

/-! non-vacuity: a toy engine (a counter) whose normal distribution caches a second value, like libstdc++'s -/
def toy : Std ℕ (Option ℝ) ℝ where
  seedE s := s.toNat
  unif a b e := (a + (b - a) * ((e % 10 : ℕ) : ℝ) / 10, e + 1)
  unifInt lo hi e := (lo + ((e : ℤ) % (hi - lo + 1)), e + 1)
  nInit := none
  nDraw d e := match d with
    | none => ((e : ℝ), some ((e : ℝ) + 1 / 2), e + 1)
    | some v => (v, none, e)

example : (run toy true [Cmd.randn, Cmd.rng 5, Cmd.randn, Cmd.randnArr 3, Cmd.randi 3 3, Cmd.randi (-4) (-2)] 100).1
    = [Out.real 100, Out.unit, Out.real 5, Out.reals [6, 6 + 1 / 2, 7], Out.int 3, Out.int (-4)] := by
  simp [run, exec, randn, randnArr, drawNormal, randi, rng, toy]


/-! ## T19.3 — scale invariance of `snr` / `sinad` / `thd` -/
/-! ### scaling lemmas -/
variable {k : ℝ}

theorem ltB_scale (hk : 0 < k) (a b : ℝ) : ltB (k * a) (k * b) = ltB a b := by
  unfold ltB; exact decide_eq_decide.mpr (mul_lt_mul_iff_right₀ hk)
theorem gtB_scale (hk : 0 < k) (a b : ℝ) : gtB (k * a) (k * b) = gtB a b := by
  unfold gtB; exact decide_eq_decide.mpr (mul_lt_mul_iff_right₀ hk)
theorem leB_scale (hk : 0 < k) (a b : ℝ) : leB (k * a) (k * b) = leB a b := by
  unfold leB; exact decide_eq_decide.mpr (mul_le_mul_iff_right₀ hk)

theorem eqB_scale (hk : 0 < k) (a b : ℝ) : eqB (k * a) (k * b) = eqB a b := by
  unfold eqB
  exact decide_eq_decide.mpr (by rw [mul_le_mul_iff_right₀ hk, mul_le_mul_iff_right₀ hk])

/-- on ℝ the order form of `==` is equality -/
theorem eqB_iff (a b : ℝ) : eqB a b = true ↔ a = b := by
  unfold eqB
  rw [decide_eq_true_iff]
  exact ⟨fun h => le_antisymm h.1 h.2, fun h => ⟨h.le, h.ge⟩⟩

/-- the left walks (`_locate_peak` first loop, `_left_descent`) do not see a positive factor -/
theorem walkL_scale {c : ℝ → ℝ → Bool} (hc : ∀ a b, c (k * a) (k * b) = c a b) (s : ℕ → ℝ) (p : ℕ) :
    walkL c (fun i => k * s i) p = walkL c s p := by
  induction p with
  | zero => rfl
  | succ p ih => simp only [walkL, ih, hc (s p) (s (p + 1))]

/-- the right walks (`_locate_peak` second loop, `_right_descent`) do not see a positive factor -/
theorem walkR_scale {c : ℝ → ℝ → Bool} (hc : ∀ a b, c (k * a) (k * b) = c a b) (n : ℕ) (s : ℕ → ℝ) (f p : ℕ) :
    walkR c n (fun i => k * s i) f p = walkR c n s f p := by
  induction f generalizing p with
  | zero => rfl
  | succ f ih => simp only [walkR, ih, hc (s p) (s (p + 1))]


def sc (k : ℝ) (s : ℕ → ℝ) : ℕ → ℝ := fun i => k * s i

theorem locatePeak_scale (hk : 0 < k) (n : ℕ) (s : ℕ → ℝ) (idx : ℕ) :
    locatePeak n (sc k s) idx = locatePeak n s idx := by
  unfold locatePeak sc
  rw [walkL_scale (gtB_scale hk), walkR_scale (ltB_scale hk)]

theorem leftDescent_scale (hk : 0 < k) (s : ℕ → ℝ) (idx : ℕ) :
    leftDescent (sc k s) idx = leftDescent s idx := by
  unfold leftDescent sc
  rw [walkL_scale (ltB_scale hk)]

theorem rightDescent_scale (hk : 0 < k) (n : ℕ) (s : ℕ → ℝ) (idx : ℕ) :
    rightDescent n (sc k s) idx = rightDescent n s idx := by
  unfold rightDescent sc
  rw [walkR_scale (gtB_scale hk)]

/-- the plateau walks of `_get_psd_tone` (equality with the peak value) do not see a positive factor -/
theorem topL_scale (hk : 0 < k) (s : ℕ → ℝ) (i p : ℕ) :
    topL (sc k s) (sc k s i) p = topL s (s i) p := by
  unfold sc
  induction p with
  | zero => rfl
  | succ p ih => simp only [topL, ih, eqB_scale hk]

theorem topR_scale (hk : 0 < k) (n : ℕ) (s : ℕ → ℝ) (i f p : ℕ) :
    topR n (sc k s) (sc k s i) f p = topR n s (s i) f p := by
  unfold sc
  induction f generalizing p with
  | zero => rfl
  | succ f ih => simp only [topR, ih, eqB_scale hk]

theorem sum_eq (l : List ℝ) : Noise.sum l = l.sum := by
  rw [Noise.sum, foldl_add_map (fun v => v), List.map_id', fn_ofNat, Nat.cast_zero, zero_add]

theorem sum_scale (k : ℝ) (l : List ℝ) : Noise.sum (l.map (k * ·)) = k * Noise.sum l := by
  rw [sum_eq, sum_eq, List.sum_map_mul_left l (fun v => v) k, List.map_id']

theorem lobeSum_scale (k : ℝ) (s : ℕ → ℝ) (l r : ℕ) : lobeSum (sc k s) l r = k * lobeSum s l r := by
  unfold lobeSum sc
  rw [← sum_scale, List.map_map]
  rfl

theorem lobeDot_scale (k : ℝ) (n : ℕ) (s : ℕ → ℝ) (l r : ℕ) : lobeDot n (sc k s) l r = k * lobeDot n s l r := by
  simp only [lobeDot, sc, foldl_add_map, fn_ofNat, Nat.cast_zero, zero_add, mul_left_comm _ k, List.sum_map_mul_left]

def scTone (k : ℝ) (t : Tone ℝ) : Tone ℝ := ⟨t.lpos, t.rpos, t.freq, k * t.power⟩

theorem getTone_scale (hk : 0 < k) (n : ℕ) (s : ℕ → ℝ) (f : ℕ) :
    getTone n (sc k s) f = scTone k (getTone n s f) := by
  unfold getTone scTone
  simp only [locatePeak_scale hk, topL_scale hk, topR_scale hk, leftDescent_scale hk, rightDescent_scale hk, lobeSum_scale,
    lobeDot_scale, mul_div_mul_left _ _ hk.ne']

theorem toneAt_scale (hk : 0 < k) (rnd : ℝ → ℤ) (n : ℕ) (s : ℕ → ℝ) (f : ℝ) :
    toneAt rnd n (sc k s) f = scTone k (toneAt rnd n s f) := by
  unfold toneAt
  rw [getTone_scale hk]

theorem argmax_scale (hk : 0 < k) (n : ℕ) (s : ℕ → ℝ) : argmax n (sc k s) = argmax n s := by
  unfold argmax sc
  congr 1
  funext best i
  simp only [mul_lt_mul_iff_right₀ hk]

theorem firstTone_scale (hk : 0 < k) (rnd : ℝ → ℤ) (n : ℕ) (s : ℕ → ℝ) :
    firstTone rnd n (sc k s) = scTone k (firstTone rnd n s) := by
  unfold firstTone
  rw [toneAt_scale hk, argmax_scale hk]

theorem setRange_scale (k : ℝ) (s : ℕ → ℝ) (l r : ℕ) (v : ℝ) :
    setRange (sc k s) l r (k * v) = sc k (setRange s l r v) := by
  funext i
  by_cases h : l ≤ i ∧ i ≤ r <;> simp [setRange, sc, h]

theorem setRange_scale_zero (k : ℝ) (s : ℕ → ℝ) (l r : ℕ) :
    setRange (sc k s) l r (Fn.ofNat 0) = sc k (setRange s l r (Fn.ofNat 0)) := by
  have := setRange_scale k s l r 0
  simpa using this

def scSt (k : ℝ) (st : HState ℝ) : HState ℝ := ⟨sc k st.s, st.lobes, st.pows.map (k * ·), st.freqs⟩

theorem harmLoop_scale (hk : 0 < k) (rnd : ℝ → ℤ) (n : ℕ) (al : Bool) (f0 : ℝ) (m i : ℕ) (st : HState ℝ) :
    harmLoop rnd n al f0 m i (scSt k st) = scSt k (harmLoop rnd n al f0 m i st) := by
  induction m generalizing i st with
  | zero => rfl
  | succ m ih =>
    simp only [harmLoop, apply_ite (scSt k)]
    refine if_congr Iff.rfl rfl ?_
    rw [← ih]
    simp only [scSt, toneAt_scale hk, scTone, setRange_scale_zero, List.map_append, List.map_cons, List.map_nil]

theorem getD_scale (k : ℝ) (l : List ℝ) (i : ℕ) : (l.map (k * ·)).getD i 0 = k * l.getD i 0 := by
  have := List.getD_map (l := l) (d := (0 : ℝ)) (n := i) (k * ·)
  simpa using this

/-- `median` commutes with scaling by `k > 0` (sorting is order-only) -/
theorem median_scale (hk : 0 < k) (l : List ℝ) : median (l.map (k * ·)) = k * median l := by
  unfold median
  have hs : (l.map (k * ·)).mergeSort leB = (l.mergeSort leB).map (k * ·) :=
    (List.map_mergeSort (r := leB) (s := leB) (f := (k * ·)) (l := l)
      (fun a _ b _ => (leB_scale hk a b).symm)).symm
  rw [hs]
  simp only [List.length_map, fn_ofNat, Nat.cast_zero, getD_scale]
  split
  · rfl
  · push_cast
    ring

theorem filter_pos_scale (hk : 0 < k) (l : List ℝ) :
    (l.map (k * ·)).filter (fun v => decide (Fn.ofNat 0 < v))
      = (l.filter (fun v => decide (Fn.ofNat 0 < v))).map (k * ·) := by
  rw [List.filter_map]
  congr 1
  apply List.filter_congr
  intro x _
  simp [mul_pos_iff_of_pos_left hk]

theorem fill_scale (k : ℝ) (nf : ℝ) (lobes : List (ℕ × ℕ)) (s : ℕ → ℝ) :
    lobes.foldl (fun s lb => setRange s lb.1 lb.2 (k * nf)) (sc k s)
      = sc k (lobes.foldl (fun s lb => setRange s lb.1 lb.2 nf) s) := by
  induction lobes generalizing s with
  | nil => rfl
  | cons lb lobes ih => simp only [List.foldl_cons, setRange_scale, ih]

theorem padZeros_scale (k : ℝ) (n : ℕ) (l : List ℝ) :
    padZeros n (l.map (k * ·)) = (padZeros n l).map (k * ·) := by
  simp [padZeros]

theorem map_sc (k : ℝ) (s : ℕ → ℝ) (L : List ℕ) : L.map (sc k s) = (L.map s).map (k * ·) := by
  rw [List.map_map]; rfl

def scInfo (k : ℝ) (h : HarmInfo ℝ) : HarmInfo ℝ := ⟨h.harmpow.map (k * ·), h.harmfreq, k * h.noisepow⟩

/-- T19.3b: `_harm_analyze` is equivariant: on the spectrum scaled by ANY `k > 0` it finds the same lobes (peak search, descents, `argmax`, the positive-bin filter and the sort inside `median` use order comparisons only), the same harmonic frequencies (centroids: the factor cancels), `k` times the harmonic powers and `k` times the noise power (sums and the median noise floor scale). Every spectrum, `nharm`, `aliased`, rounding function. -/
theorem harmAnalyze_scale (hk : 0 < k) (rnd : ℝ → ℤ) (n : ℕ) (s : ℕ → ℝ) (nharm : ℕ) (al : Bool) :
    harmAnalyze rnd n (sc k s) nharm al = scInfo k (harmAnalyze rnd n s nharm al) := by
  unfold harmAnalyze
  simp only [firstTone_scale hk, scTone, setRange_scale_zero]
  have h0 : ∀ t : Tone ℝ, (⟨sc k (setRange s t.lpos t.rpos (Fn.ofNat 0)), [(t.lpos, t.rpos)], [k * t.power], [t.freq]⟩ : HState ℝ)
      = scSt k ⟨setRange s t.lpos t.rpos (Fn.ofNat 0), [(t.lpos, t.rpos)], [t.power], [t.freq]⟩ := by
    intro t; rfl
  rw [h0, harmLoop_scale hk]
  generalize harmLoop rnd n al (firstTone rnd n s).freq (nharm - 1) 1 _ = st
  simp only [scSt, map_sc, filter_pos_scale hk, List.length_map]
  have hnf : ∀ pos : List ℝ, (if 0 < pos.length then median (pos.map (k * ·)) else (Fn.ofNat 0 : ℝ)) =
      k * (if 0 < pos.length then median pos else Fn.ofNat 0) := by
    intro pos
    split
    · exact median_scale hk _
    · simp
  rw [hnf, fill_scale, map_sc, sum_scale, padZeros_scale]
  rfl


theorem headD_scale (k : ℝ) (l : List ℝ) : (l.map (k * ·)).headD (Fn.ofNat 0) = k * l.headD (Fn.ofNat 0) := by
  cases l <;> simp

/-- T19.3c: `snr(pxx, nharm, aliased, Psd)` does not change when the spectrum is scaled by `k > 0`. -/
theorem snrPsd_scale (hk : 0 < k) (rnd : ℝ → ℤ) (n : ℕ) (s : ℕ → ℝ) (nharm : ℕ) (al : Bool) :
    snrPsd rnd n (sc k s) nharm al = snrPsd rnd n s nharm al := by
  unfold snrPsd
  simp only [harmAnalyze_scale hk, scInfo, headD_scale, mul_div_mul_left _ _ hk.ne']

/-- T19.3c: `sinad(pxx, Psd)` does not change when the spectrum is scaled by `k > 0`. -/
theorem sinadPsd_scale (hk : 0 < k) (rnd : ℝ → ℤ) (n : ℕ) (s : ℕ → ℝ) :
    sinadPsd rnd n (sc k s) = sinadPsd rnd n s := snrPsd_scale hk rnd n s 1 false

/-- T19.3c: `thd(pxx, nharm, aliased, Psd)`: the THD value and the reported harmonic frequencies do not change when the spectrum is scaled by `k > 0` (the per-harmonic levels in dB shift by `10·log10 k`, as they must). -/
theorem thdPsd_scale (hk : 0 < k) (rnd : ℝ → ℤ) (n : ℕ) (s : ℕ → ℝ) (nharm : ℕ) (al : Bool) :
    (thdPsd rnd n (sc k s) nharm al).value = (thdPsd rnd n s nharm al).value ∧
    (thdPsd rnd n (sc k s) nharm al).harmfreq = (thdPsd rnd n s nharm al).harmfreq := by
  unfold thdPsd
  simp only [harmAnalyze_scale hk, scInfo, headD_scale, ← List.map_drop, sum_scale,
    mul_div_mul_left _ _ hk.ne', and_self]

/-! periodogram -/

theorem mean_scale (c : ℝ) (x : List ℝ) : mean (x.map (c * ·)) = c * mean x := by
  unfold mean
  rw [sum_scale, List.length_map, mul_div_assoc]

def scCx (c : ℝ) (z : Cx ℝ) : Cx ℝ := ⟨c * z.re, c * z.im⟩

theorem dftStep_scale (c : ℝ) (nfft j : ℕ) (acc : Cx ℝ) (v : ℝ) :
    dftStep nfft j (scCx c acc) (c * v) = scCx c (dftStep nfft j acc v) := by
  simp only [dftStep, scCx]
  congr 1 <;> ring

theorem dftAcc_scale (c : ℝ) (nfft kk : ℕ) (y : List ℝ) (m : ℕ) (acc : Cx ℝ) :
    dftAcc nfft kk (y.map (c * ·)) m (scCx c acc) = scCx c (dftAcc nfft kk y m acc) := by
  induction y generalizing m acc with
  | nil => rfl
  | cons v vs ih => simp only [List.map_cons, dftAcc, dftStep_scale, ih]

theorem dftBin_scale (c : ℝ) (nfft kk : ℕ) (y : List ℝ) :
    dftBin nfft kk (y.map (c * ·)) = scCx c (dftBin nfft kk y) := by
  unfold dftBin
  rw [← dftAcc_scale]
  simp [scCx]

theorem abs2_scCx (c : ℝ) (z : Cx ℝ) : Cx.abs2 (scCx c z) = c ^ 2 * Cx.abs2 z := by
  simp only [Cx.abs2, scCx]; ring

/-- T19.3a: `_periodogram(c·x) = c²·_periodogram(x)` — for EVERY real `c`, window and signal (no hypothesis). -/
theorem periodogram_scale (c : ℝ) (w0 x : List ℝ) :
    periodogram w0 (x.map (c * ·)) = (periodogram w0 x).map (c ^ 2 * ·) := by
  unfold periodogram
  simp only [mean_scale, List.length_map]
  have hy : List.zipWith (fun xi wi => (xi - c * mean x) * wi) (x.map (c * ·)) (w0.map (fun v => v / rmsR w0))
      = (List.zipWith (fun xi wi => (xi - mean x) * wi) x (w0.map (fun v => v / rmsR w0))).map (c * ·) := by
    rw [List.zipWith_map_left, List.map_zipWith]
    congr 1
    funext a b
    ring
  rw [hy, List.map_map]
  apply List.map_congr_left
  intro kk _
  simp only [Function.comp, dftBin_scale, abs2_scCx, mul_div_assoc]


theorem ofList_scale (k : ℝ) (l : List ℝ) : ofList (l.map (k * ·)) = sc k (ofList l) := by
  funext i
  simp only [ofList, sc, fn_ofNat, Nat.cast_zero, getD_scale]

/-- a spectrum estimator that does not see a positive factor gives a time-domain estimator that does not see a
non-zero factor: the periodogram turns `c` into `c²` -/
theorem time_scale {β : Type} (E : ℕ → (ℕ → ℝ) → β) (hE : ∀ k, 0 < k → ∀ n s, E n (sc k s) = E n s) {c : ℝ} (hc : c ≠ 0)
    (w0 x : List ℝ) :
    E (periodogram w0 (x.map (c * ·))).length (ofList (periodogram w0 (x.map (c * ·)))) =
      E (periodogram w0 x).length (ofList (periodogram w0 x)) := by
  rw [periodogram_scale, List.length_map, ofList_scale]
  exact hE _ (by positivity) _ _

/-- T19.3: `snr(c·x) = snr(x)` for the time-domain entry point — every signal, window, `nharm`, `aliased`; every `c ≠ 0` (in particular every positive constant). -/
theorem snrTime_scale {c : ℝ} (hc : c ≠ 0) (rnd : ℝ → ℤ) (w0 x : List ℝ) (nharm : ℕ) (al : Bool) :
    snrTime rnd w0 (x.map (c * ·)) nharm al = snrTime rnd w0 x nharm al :=
  time_scale (fun n s => snrPsd rnd n s nharm al) (fun _ hk n s => snrPsd_scale hk rnd n s nharm al) hc w0 x

/-- T19.3: `sinad(c·x) = sinad(x)`, every `c ≠ 0`. -/
theorem sinadTime_scale {c : ℝ} (hc : c ≠ 0) (rnd : ℝ → ℤ) (w0 x : List ℝ) :
    sinadTime rnd w0 (x.map (c * ·)) = sinadTime rnd w0 x :=
  time_scale (sinadPsd rnd) (fun _ hk n s => sinadPsd_scale hk rnd n s) hc w0 x

/-- T19.3: `thd(c·x)` has the same value and the same harmonic frequencies as `thd(x)`, every `c ≠ 0`. -/
theorem thdTime_scale {c : ℝ} (hc : c ≠ 0) (rnd : ℝ → ℤ) (w0 x : List ℝ) (nharm : ℕ) (al : Bool) :
    (thdTime rnd w0 (x.map (c * ·)) nharm al).value = (thdTime rnd w0 x nharm al).value ∧
    (thdTime rnd w0 (x.map (c * ·)) nharm al).harmfreq = (thdTime rnd w0 x nharm al).harmfreq :=
  Prod.mk.inj (time_scale (fun n s => ((thdPsd rnd n s nharm al).value, (thdPsd rnd n s nharm al).harmfreq))
    (fun _ hk n s => Prod.ext_iff.mpr (thdPsd_scale hk rnd n s nharm al)) hc w0 x)


/-- T19.3 `scale_invariance`, the clause as the property states it: for a positive constant `c`,
`snr`, `sinad` and `thd` (value and component frequencies) of `c·x` are those of `x`. -/
theorem scale_invariance {c : ℝ} (hc : 0 < c) (rnd : ℝ → ℤ) (w0 x : List ℝ) (nharm : ℕ) (al : Bool) :
    snrTime rnd w0 (x.map (c * ·)) nharm al = snrTime rnd w0 x nharm al ∧
    sinadTime rnd w0 (x.map (c * ·)) = sinadTime rnd w0 x ∧
    (thdTime rnd w0 (x.map (c * ·)) nharm al).value = (thdTime rnd w0 x nharm al).value ∧
    (thdTime rnd w0 (x.map (c * ·)) nharm al).harmfreq = (thdTime rnd w0 x nharm al).harmfreq :=
  ⟨snrTime_scale hc.ne' rnd w0 x nharm al, sinadTime_scale hc.ne' rnd w0 x,
   (thdTime_scale hc.ne' rnd w0 x nharm al).1, (thdTime_scale hc.ne' rnd w0 x nharm al).2⟩

/-! ### the model is the code's loop, and is not degenerate -/

/-- fuel `n` never cuts the right walk short: when `walkR` returns, the loop condition of the code is false -/
theorem walkR_terminated (c : ℝ → ℝ → Bool) (n : ℕ) (s : ℕ → ℝ) (f p : ℕ) (h : n ≤ p + f) :
    ¬ (walkR c n s f p + 1 < n ∧ c (s (walkR c n s f p)) (s (walkR c n s f p + 1)) = true) := by
  induction f generalizing p with
  | zero => simp only [walkR]; omega
  | succ f ih =>
    simp only [walkR]
    split
    · exact ih (p + 1) (by omega)
    · assumption

/-- … and the same for the plateau walk: when `topR` returns, `(rtop < n-1) && (spec[rtop+1] == v)` is false -/
theorem topR_terminated (n : ℕ) (s : ℕ → ℝ) (v : ℝ) (f p : ℕ) (h : n ≤ p + f) :
    ¬ (topR n s v f p + 1 < n ∧ eqB (s (topR n s v f p + 1)) v = true) := by
  induction f generalizing p with
  | zero => simp only [topR]; omega
  | succ f ih =>
    simp only [topR]
    split
    · exact ih (p + 1) (by omega)
    · assumption

/-- a 7-bin spectrum with a lobe at bin 1 and one at bin 4 -/
def spec7 : ℕ → ℝ := ofList [1, 6, 1, 1, 4, 1, 1]
/-- `(int)std::round` on ℝ (values ≥ 0) -/
def rndR (x : ℝ) : ℤ := ⌊x + 1 / 2⌋

/-- `getTone` from the end points of its six walks.  Evaluating the walks one at a time keeps every term small: inside
`getTone` each walk starts at the (unevaluated) result of the previous one. -/
theorem getTone_eq {n : ℕ} {s : ℕ → ℝ} {fnum : ℕ} (top ipeak ltop rtop lpos rpos : ℕ)
    (h0 : walkL gtB s fnum = top) (h1 : walkR ltB n s n top = ipeak)
    (h2 : topL s (s ipeak) ipeak = ltop) (h3 : topR n s (s ipeak) n ipeak = rtop)
    (h4 : walkL ltB s ltop = lpos) (h5 : walkR gtB n s n (min rtop (n - 1)) = rpos) :
    getTone n s fnum = ⟨lpos, rpos, lobeDot n s lpos rpos / lobeSum s lpos rpos, lobeSum s lpos rpos⟩ := by
  subst h0 h1 h2 h3 h4 h5; rfl

theorem spec7_vals : spec7 0 = 1 ∧ spec7 1 = 6 ∧ spec7 2 = 1 ∧ spec7 3 = 1 ∧ spec7 4 = 4 ∧ spec7 5 = 1 ∧ spec7 6 = 1 :=
  ⟨rfl, rfl, rfl, rfl, rfl, rfl, rfl⟩

theorem spec7_tone : getTone 7 spec7 1 = ⟨0, 2, 1 / 7, 8⟩ := by
  have hv := spec7_vals
  rw [getTone_eq 1 1 1 1 0 2] <;>
    norm_num [walkL, walkR, topL, topR, eqB, gtB, ltB, lobeSum, lobeDot, Noise.sum, List.range', hv]

/-- concrete evaluation: the fundamental of `spec7` is the lobe `[0, 2]`, power 8, centroid bin 1 -/
theorem spec7_first : firstTone rndR 7 spec7 = ⟨0, 2, 1 / 7, 8⟩ := by
  have ha : argmax 7 spec7 = 1 := by
    simp [argmax, List.range, List.range.loop, spec7_vals]
    norm_num [spec7_vals]
  have hr : rndR ((1 : ℝ) / 7 * 7) = 1 := by
    rw [rndR, Int.floor_eq_iff]; norm_num
  simp only [firstTone, toneAt, ha, fn_ofNat, Nat.cast_one, Nat.cast_ofNat, hr]
  exact spec7_tone

/-- … and with that lobe zeroed, the search at twice the fundamental climbs to bin 4: lobe `[2, 5]`, power 6 -/
theorem spec7_second :
    toneAt rndR 7 (setRange spec7 0 2 (Fn.ofNat 0)) (Fn.ofNat 2 * (1 / 7)) = ⟨2, 5, 4 / 7, 6⟩ := by
  have hr : rndR ((2 : ℝ) * (1 / 7) * 7) = 2 := by
    rw [rndR, Int.floor_eq_iff]; norm_num
  simp only [toneAt, fn_ofNat, Nat.cast_ofNat, hr]
  generalize hs : setRange spec7 0 2 ((0 : ℕ) : ℝ) = s
  have hv : s 0 = 0 ∧ s 1 = 0 ∧ s 2 = 0 ∧ s 3 = 1 ∧ s 4 = 4 ∧ s 5 = 1 ∧ s 6 = 1 :=
    hs ▸ ⟨Nat.cast_zero, Nat.cast_zero, Nat.cast_zero, rfl, rfl, rfl, rfl⟩
  show getTone 7 s 2 = _
  rw [getTone_eq 2 4 4 4 2 5] <;>
    norm_num [walkL, walkR, topL, topR, eqB, gtB, ltB, lobeSum, lobeDot, Noise.sum, List.range', hv]

/-- a tone midway between two bins: two equal top bins -/
def spec4 : ℕ → ℝ := ofList [1, 4, 4, 1]

theorem spec4_vals : spec4 0 = 1 ∧ spec4 1 = 4 ∧ spec4 2 = 4 ∧ spec4 3 = 1 :=
  ⟨rfl, rfl, rfl, rfl⟩

/-- concrete evaluation at a two-bin plateau: the WHOLE lobe `[0, 3]` is integrated (power 10, centroid bin 3/2),
not the half `[0, 1]` at which the strict descents stop -/
theorem spec4_tone : getTone 4 spec4 1 = ⟨0, 3, 3 / 8, 10⟩ := by
  have hv := spec4_vals
  rw [getTone_eq 1 1 1 2 0 3] <;>
    norm_num [walkL, walkR, topL, topR, eqB, gtB, ltB, lobeSum, lobeDot, Noise.sum, List.range', hv]

/-- the invariance theorems instantiated at `spec7` (factor 4 = a 6 dB louder signal) -/
example : snrPsd rndR 7 (sc 4 spec7) 2 false = snrPsd rndR 7 spec7 2 false := snrPsd_scale (by norm_num) _ _ _ _ _

end Dsp.C19
