import DspVerif.Props.C07
import DspVerif.Props.C01Total
import DspVerif.Props.C02
/-!
# C07 — T07.2 / T07.3 UNCONDITIONALLY for the library's own transform pair

`Props/C07.lean` proves `fftfilter_eq_sum` / `fftfilter_eq_fir` / `xcorr_eq` for every transform pair satisfying the
circular convolution / correlation theorem (`CircConv`, `CircCorr`) and discharges these hypotheses only for the exact DFT
pair on `ℂ` (`circConv_dft`, `circCorr_dft`).  This file discharges them for the LIBRARY's transforms on `Cx ℝ` arrays, the
pair `lib/fir.cpp` (`ifft(fft(_x) * _h)`, `fft(conj(h), fft_len)`) and `lib/xcorr.cpp` (`conj(fft(y1))`, `fft(y2)`,
`conj(ifft(z1 * z2))`) call through the free functions `fft(const arr_cmplx&)` / `ifft(const arr_cmplx&)`:

* `libFft lit x  = Fft.fftC lit x.size x`                          — `FftPlan(x.size())(x)`, plan selection of `create_fft_plan`
* `libIfft lit X = Fft.ifftWith (Fft.fftC lit X.size) X.size X`    — `IfftPlan(X.size())(X)`: scale, conj, forward plan, conj
  (`libIfft_eq_ifft`: this IS C02's `Ifft.ifft lit X` for every non-empty `X`)

using C01's unconditional `fftC_getD` / `ifftWith_getD` (`Props/C01Total.lean`).  The only hypotheses left are
`LitsOK lit` (the three literals of the small kernels are `√½, √½, √¾`; `litsOK_exact`) and a length bound: the padded FFT
length is at most `2^31` (`2·len h ≤ 2^31`, resp. `len a + len b − 1 ≤ 2^31`).

`Driver/H07.lean` (and `H06.lean`) run the FFT based models with exactly this instantiation at `Float`
(`fftF x := Fft.fftC lits x.size x`, `ifftF X := Fft.ifftWith (Fft.fftC lits X.size) X.size X`), compared bit for bit with the library.
-/
open Finset Dsp Dsp.Fir Dsp.Fft

namespace Dsp.C07

/-! ## the library's transform pair as `Array → Array` functions -/

/-- `fft(const arr_cmplx& x)`: the plan `FftPlan(x.size())` applied to `x` -/
noncomputable def libFft (lit : Lits ℝ) (x : Vec ℝ) : Vec ℝ := fftC lit x.size x

/-- `ifft(const arr_cmplx& X)`: `IfftPlan(X.size())`, whose forward plan is `FftPlan(X.size())` -/
noncomputable def libIfft (lit : Lits ℝ) (X : Vec ℝ) : Vec ℝ := ifftWith (fftC lit X.size) X.size X

/-- `libIfft` is C02's model of `ifft` (`Model/Ifft.lean`) on every non-empty input (the empty one is rejected there) -/
theorem libIfft_eq_ifft (lit : Lits ℝ) (X : Vec ℝ) (h : X.size ≠ 0) : Ifft.ifft lit X = .ok (libIfft lit X) := by
  unfold Ifft.ifft Ifft.ifftWith
  rw [if_neg h]
  rfl

/-! ## the hypotheses of T07.2 / T07.3 for the library pair -/

section pair
variable (lit : Lits ℝ) (hl : C01.LitsOK lit) (L : ℕ) (hL : 0 < L) (hle : L ≤ 2 ^ 31)
include hl hL hle

/-- the library's `fft` of an array of length `L` has length `L` and, read in `ℂ`, is the DFT of the array read in `ℂ` -/
theorem libFft_spec (a : Vec ℝ) (ha : a.size = L) :
    (libFft lit a).size = L ∧ ∀ k, k < L → Cx.toCHom ((libFft lit a).getD k 0) = dft L (fun m => Cx.toCHom (a.getD m 0)) k := by
  unfold libFft
  rw [ha]
  exact C01.fftC_getD lit hl L hL hle a

/-- … and its `ifft` is the inverse DFT -/
theorem libIfft_spec (X : Vec ℝ) (hX : X.size = L) :
    (libIfft lit X).size = L ∧
      ∀ t, t < L → Cx.toCHom ((libIfft lit X).getD t 0) = idft L (fun k => Cx.toCHom (X.getD k 0)) t := by
  unfold libIfft
  rw [hX]
  exact C01.ifftWith_getD lit hl L hL hle X

end pair

/-- **the circular convolution theorem holds for the library's `fft` / `ifft`** at every length `0 < L ≤ 2^31`
(any plan: small kernels, Bluestein, radix-2 network, factor tree) -/
theorem circConv_lib (lit : Lits ℝ) (hl : C01.LitsOK lit) (L : ℕ) (hL : 0 < L) (hle : L ≤ 2 ^ 31) :
    CircConv (libFft lit) (libIfft lit) L :=
  circConv_of_dft Cx.toCHom Cx.toC_injective _ _ L hL (libFft_spec lit hl L hL hle) (libIfft_spec lit hl L hL hle)

/-- **the circular cross-correlation theorem holds for the library's `fft` / `ifft`** at every length `0 < M ≤ 2^31` -/
theorem circCorr_lib (lit : Lits ℝ) (hl : C01.LitsOK lit) (M : ℕ) (hM : 0 < M) (hle : M ≤ 2 ^ 31) :
    CircCorr Cx.conj (libFft lit) (libIfft lit) M :=
  circCorr_of_dft Cx.toCHom Cx.toC_injective _ _ M hM (libFft_spec lit hl M hM hle) (libIfft_spec lit hl M hM hle) _
    Cx.toC_conj

/-! ## the padded lengths `2^nextpow2(·)` stay below the bound -/

/-- `nextpow2` is the LEAST exponent: `m ≤ 2^k → 2^nextpow2 m ≤ 2^k` -/
theorem two_pow_nextpow2_le (m k : ℕ) (h : m ≤ 2 ^ k) : 2 ^ nextpow2 m ≤ 2 ^ k := by
  apply Nat.pow_le_pow_right (by norm_num)
  unfold nextpow2
  by_cases h1 : m ≤ 1
  · simp [h1]
  · simp only [h1, if_false]
    have hlog : 2 ^ m.log2 ≤ m := Nat.log2_self_le (by omega)
    by_cases h2 : 2 ^ m.log2 = m
    · simp only [h2, if_true]
      exact (Nat.pow_le_pow_iff_right (by norm_num)).mp (le_trans hlog h)
    · simp only [h2, if_false]
      have : 2 ^ m.log2 < 2 ^ k := by omega
      exact (Nat.pow_lt_pow_iff_right (by norm_num)).mp this

/-! ## T07.2 unconditional -/

/-- **T07.2, `FftFilter(arr_cmplx)`, UNCONDITIONAL for the library FFT.**  For every tap vector with `1 ≤ m` and
`2m ≤ 2^31`, every input: `FftFilter::process` (from rest, with the library's `fft`/`ifft`) emits `⌊len/_n⌋·_n` samples,
`_n = 2^nextpow2(2m) − m + 1`, and emitted sample `i` is exactly the sample `FirFilter<cmplx_t>` produces at position `i`
of the same input, which is the defining sum `Σ_{k<m, k≤i} conj(h[k])·x[i−k]`. -/
theorem fftfilter_eq_fir_total_cmplx (lit : Lits ℝ) (hl : C01.LitsOK lit) (h : Array (Cx ℝ)) (hm : 1 ≤ h.size)
    (hb : 2 * h.size ≤ 2 ^ 31) (xs : Array (Cx ℝ)) :
    (fftProcessC (libFft lit) (libIfft lit) (fftInitC (libFft lit) h) xs).2.size =
      xs.size / (2 ^ nextpow2 (2 * h.size) + 1 - h.size) * (2 ^ nextpow2 (2 * h.size) + 1 - h.size) ∧
    ∀ i, i < (fftProcessC (libFft lit) (libIfft lit) (fftInitC (libFft lit) h) xs).2.size →
      i < xs.size ∧
      (fftProcessC (libFft lit) (libIfft lit) (fftInitC (libFft lit) h) xs).2.getD i 0 =
        (firProcessC (firInitC h) xs).2.getD i 0 ∧
      Cx.toC ((fftProcessC (libFft lit) (libIfft lit) (fftInitC (libFft lit) h) xs).2.getD i 0) =
        ∑ k ∈ range h.size,
          if k ≤ i then (starRingEnd ℂ) (Cx.toC (h.getD k 0)) * Cx.toC (xs.getD (i - k) 0) else 0 := by
  have H := circConv_lib lit hl _ (Nat.two_pow_pos (nextpow2 (2 * h.size))) (two_pow_nextpow2_le _ 31 hb)
  obtain ⟨h1, h2⟩ := fftfilter_eq_fir_cmplx (libFft lit) (libIfft lit) h hm H xs
  obtain ⟨_, f2⟩ := fir_eq_cmplx h xs hm
  refine ⟨h1, fun i hi => ?_⟩
  have hle : i < xs.size := lt_of_lt_of_le (h1 ▸ hi) (Nat.div_mul_le_self _ _)
  exact ⟨hle, h2 i hi, by rw [h2 i hi, f2 i hle]⟩

/-- **T07.2, `FftFilter(arr_real)` / `process(arr_real)`, UNCONDITIONAL for the library FFT.**  The real entry points
(`FftFilter(complex(h))`, `real(process(complex(x)))`): `⌊len/_n⌋·_n` samples, each equal to the sample of
`FirFilter<real_t>` at the same position, i.e. to `Σ_{k<m, k≤i} h[k]·x[i−k]`. -/
theorem fftfilter_eq_fir_total_real (lit : Lits ℝ) (hl : C01.LitsOK lit) (h : Array ℝ) (hm : 1 ≤ h.size)
    (hb : 2 * h.size ≤ 2 ^ 31) (xs : Array ℝ) :
    (fftProcessR (libFft lit) (libIfft lit) (fftInitR (libFft lit) h) xs).2.size =
      xs.size / (2 ^ nextpow2 (2 * h.size) + 1 - h.size) * (2 ^ nextpow2 (2 * h.size) + 1 - h.size) ∧
    ∀ i, i < (fftProcessR (libFft lit) (libIfft lit) (fftInitR (libFft lit) h) xs).2.size →
      i < xs.size ∧
      (fftProcessR (libFft lit) (libIfft lit) (fftInitR (libFft lit) h) xs).2.getD i 0 =
        (firProcessR (firInitR h) xs).2.getD i 0 ∧
      (fftProcessR (libFft lit) (libIfft lit) (fftInitR (libFft lit) h) xs).2.getD i 0 =
        ∑ k ∈ range h.size, if k ≤ i then h.getD k 0 * xs.getD (i - k) 0 else 0 := by
  have H := circConv_lib lit hl _ (Nat.two_pow_pos (nextpow2 (2 * h.size))) (two_pow_nextpow2_le _ 31 hb)
  obtain ⟨h1, h2⟩ := fftfilter_eq_fir_real (libFft lit) (libIfft lit) h hm H xs
  obtain ⟨_, f2⟩ := fir_eq_real h xs hm
  have hn : (fftInitR (libFft lit) h).n = 2 ^ nextpow2 (2 * h.size) + 1 - h.size := by
    show 2 ^ nextpow2 (2 * (ofRealV h).size) + 1 - (ofRealV h).size = _
    rw [ofRealV, Array.size_map]
  rw [hn] at h1
  refine ⟨h1, fun i hi => ?_⟩
  have hle : i < xs.size := lt_of_lt_of_le (h1 ▸ hi) (Nat.div_mul_le_self _ _)
  exact ⟨hle, h2 i hi, by rw [h2 i hi, f2 i hle]⟩

/-! ## T07.3 unconditional -/

/-- **T07.3, `xcorr(arr_cmplx, arr_cmplx)`, UNCONDITIONAL for the library FFT.**  For all non-empty `a`, `b` with
`len a + len b − 1 ≤ 2^31`: the result has `len a + len b − 1` entries and entry `j` (lag `j − (len b − 1)`, EVERY lag
`−(len b − 1) … len a − 1`) is `Σ_n a[n+lag]·conj(b[n])` over the `n` for which both indices are in range. -/
theorem xcorr_eq_total_cmplx (lit : Lits ℝ) (hl : C01.LitsOK lit) (a b : Array (Cx ℝ)) (ha : 1 ≤ a.size) (hb : 1 ≤ b.size)
    (hle : a.size + b.size - 1 ≤ 2 ^ 31) :
    (xcorrC (libFft lit) (libIfft lit) a b).size = a.size + b.size - 1 ∧
    ∀ j, j < a.size + b.size - 1 → Cx.toC ((xcorrC (libFft lit) (libIfft lit) a b).getD j 0) =
      ∑ n ∈ range b.size,
        if b.size - 1 ≤ j + n ∧ j + n - (b.size - 1) < a.size then
          Cx.toC (a.getD (j + n - (b.size - 1)) 0) * (starRingEnd ℂ) (Cx.toC (b.getD n 0)) else 0 :=
  xcorr_eq_cmplx (libFft lit) (libIfft lit) a b ha hb
    (circCorr_lib lit hl _ (Nat.two_pow_pos _) (two_pow_nextpow2_le _ 31 hle))

/-- **T07.3, `xcorr(arr_real, arr_real)`, UNCONDITIONAL for the library FFT**: entry `j` is `Σ_n a[n+lag]·b[n]`,
`lag = j − (len b − 1)`, every lag. -/
theorem xcorr_eq_total_real (lit : Lits ℝ) (hl : C01.LitsOK lit) (a b : Array ℝ) (ha : 1 ≤ a.size) (hb : 1 ≤ b.size)
    (hle : a.size + b.size - 1 ≤ 2 ^ 31) :
    (xcorrR (libFft lit) (libIfft lit) a b).size = a.size + b.size - 1 ∧
    ∀ j, j < a.size + b.size - 1 → (xcorrR (libFft lit) (libIfft lit) a b).getD j 0 =
      ∑ n ∈ range b.size,
        if b.size - 1 ≤ j + n ∧ j + n - (b.size - 1) < a.size then a.getD (j + n - (b.size - 1)) 0 * b.getD n 0 else 0 :=
  xcorr_eq_real (libFft lit) (libIfft lit) a b ha hb
    (circCorr_lib lit hl _ (Nat.two_pow_pos _) (two_pow_nextpow2_le _ 31 hle))

/-! ## T07.2 across calls -/

/-- **T07.2 (state hand-over), UNCONDITIONAL for the library FFT.**  Two consecutive `process` calls on one `FftFilter`
(from rest; frames `xs` then `ys` of ANY lengths, so blocks straddle the call boundary): together they emit
`⌊(len xs + len ys)/_n⌋·_n` samples, and sample `i` of the SECOND call is the sample `FirFilter<cmplx_t>` produces at
position `(number emitted by the first call) + i` of the concatenated input — `_x`, `_nx`, `_olap` lose nothing. -/
theorem fftfilter_two_calls_total (lit : Lits ℝ) (hl : C01.LitsOK lit) (h : Array (Cx ℝ)) (hm : 1 ≤ h.size)
    (hb : 2 * h.size ≤ 2 ^ 31) (xs ys : Array (Cx ℝ)) :
    (fftProcessC (libFft lit) (libIfft lit) (fftInitC (libFft lit) h) xs).2.size +
      (fftProcessC (libFft lit) (libIfft lit) (fftProcessC (libFft lit) (libIfft lit) (fftInitC (libFft lit) h) xs).1 ys).2.size =
      (xs.size + ys.size) / (2 ^ nextpow2 (2 * h.size) + 1 - h.size) * (2 ^ nextpow2 (2 * h.size) + 1 - h.size) ∧
    ∀ i, i < (fftProcessC (libFft lit) (libIfft lit)
        (fftProcessC (libFft lit) (libIfft lit) (fftInitC (libFft lit) h) xs).1 ys).2.size →
      (fftProcessC (libFft lit) (libIfft lit) (fftProcessC (libFft lit) (libIfft lit) (fftInitC (libFft lit) h) xs).1 ys).2.getD i 0 =
        (firProcessC (firInitC h) (xs ++ ys)).2.getD
          ((fftProcessC (libFft lit) (libIfft lit) (fftInitC (libFft lit) h) xs).2.size + i) 0 := by
  unfold fftProcessC fftInitC firProcessC firInitC
  rw [Cx.zeroC_eq]
  exact fftfilter_two_calls Cx.conj conj_zero _ _ h hm
    (circConv_lib lit hl _ (Nat.two_pow_pos _) (two_pow_nextpow2_le _ 31 hb)) xs ys

/-! ## Non-vacuity: the hypotheses are satisfiable and the conclusions say something at concrete inputs -/
section examples

/-- the two hypotheses of T07.2 / T07.3 hold for the library pair at the exact literals, e.g. at the lengths `8` and `4096` -/
example : CircConv (libFft ⟨√2 / 2, √2 / 2, √3 / 2⟩) (libIfft ⟨√2 / 2, √2 / 2, √3 / 2⟩) 8 ∧
    CircCorr Cx.conj (libFft ⟨√2 / 2, √2 / 2, √3 / 2⟩) (libIfft ⟨√2 / 2, √2 / 2, √3 / 2⟩) 4096 :=
  ⟨circConv_lib _ C01.litsOK_exact 8 (by norm_num) (by norm_num), circCorr_lib _ C01.litsOK_exact 4096 (by norm_num) (by norm_num)⟩

/-- … and at a length that is NOT a power of two (factor tree): the discharge does not depend on the plan -/
example : CircConv (libFft ⟨√2 / 2, √2 / 2, √3 / 2⟩) (libIfft ⟨√2 / 2, √2 / 2, √3 / 2⟩) 1000 :=
  circConv_lib _ C01.litsOK_exact 1000 (by norm_num) (by norm_num)

/-- 3 real taps: `fft_len = 8`, `_n = 6`; any input: `⌊len/6⌋·6` samples come out -/
example (xs : Array ℝ) :
    (fftProcessR (libFft ⟨√2 / 2, √2 / 2, √3 / 2⟩) (libIfft ⟨√2 / 2, √2 / 2, √3 / 2⟩)
      (fftInitR (libFft ⟨√2 / 2, √2 / 2, √3 / 2⟩) #[1, 2, 3]) xs).2.size = xs.size / 6 * 6 := by
  have e : 2 ^ nextpow2 (2 * 3) + 1 - 3 = 6 := by decide
  exact e ▸ (fftfilter_eq_fir_total_real _ C01.litsOK_exact #[1, 2, 3] (by decide) (by decide) xs).1

/-- a concrete value: taps `[1, 2]` (`fft_len = 4`, `_n = 3`), input `[3, 4, 5]`: the overlap-add filter running the
library's size-4 plan and `IfftPlan(4)` emits 3 samples and the last one is `1·5 + 2·4 = 13` -/
example :
    (fftProcessR (libFft ⟨√2 / 2, √2 / 2, √3 / 2⟩) (libIfft ⟨√2 / 2, √2 / 2, √3 / 2⟩)
      (fftInitR (libFft ⟨√2 / 2, √2 / 2, √3 / 2⟩) #[1, 2]) #[3, 4, 5]).2.size = 3 ∧
    (fftProcessR (libFft ⟨√2 / 2, √2 / 2, √3 / 2⟩) (libIfft ⟨√2 / 2, √2 / 2, √3 / 2⟩)
      (fftInitR (libFft ⟨√2 / 2, √2 / 2, √3 / 2⟩) #[1, 2]) #[3, 4, 5]).2.getD 2 0 = 13 := by
  obtain ⟨h1, h2⟩ := fftfilter_eq_fir_total_real _ C01.litsOK_exact #[1, 2] (by decide) (by decide) #[3, 4, 5]
  replace h1 := h1.trans (show 3 / (2 ^ nextpow2 (2 * 2) + 1 - 2) * (2 ^ nextpow2 (2 * 2) + 1 - 2) = 3 by decide)
  -- with the sizes evaluated the last sample is a sum of two terms
  have h3 : _ = ∑ k ∈ range (1 + 1), if k ≤ 2 then (#[1, 2] : Array ℝ).getD k 0 * (#[3, 4, 5] : Array ℝ).getD (2 - k) 0 else 0 :=
    (h2 2 (by rw [h1]; decide)).2.2
  refine ⟨h1, ?_⟩
  rw [h3, Finset.sum_range_succ, Finset.sum_range_one, if_pos (by decide), if_pos (by decide)]
  show (1 : ℝ) * 5 + 2 * 4 = 13
  norm_num

/-- complex taps, any input, through the complex entry point -/
example (xs : Array (Cx ℝ)) (i : ℕ)
    (hi : i < (fftProcessC (libFft ⟨√2 / 2, √2 / 2, √3 / 2⟩) (libIfft ⟨√2 / 2, √2 / 2, √3 / 2⟩)
      (fftInitC (libFft ⟨√2 / 2, √2 / 2, √3 / 2⟩) #[⟨0, 1⟩, ⟨2, -1⟩, ⟨1, 1⟩]) xs).2.size) :
    (fftProcessC (libFft ⟨√2 / 2, √2 / 2, √3 / 2⟩) (libIfft ⟨√2 / 2, √2 / 2, √3 / 2⟩)
      (fftInitC (libFft ⟨√2 / 2, √2 / 2, √3 / 2⟩) #[⟨0, 1⟩, ⟨2, -1⟩, ⟨1, 1⟩]) xs).2.getD i 0 =
    (firProcessC (firInitC #[⟨0, 1⟩, ⟨2, -1⟩, ⟨1, 1⟩]) xs).2.getD i 0 :=
  ((fftfilter_eq_fir_total_cmplx _ C01.litsOK_exact #[⟨0, 1⟩, ⟨2, -1⟩, ⟨1, 1⟩] (by decide) (by decide) xs).2 i hi).2.1

/-- `xcorr([1,2,3], [4,5])` with the library's size-4 transforms: 4 lags; lag 0 (entry 1) is `1·4 + 2·5 = 14`,
lag −1 (entry 0) is `1·5 = 5`, lag 2 (entry 3) is `3·4 = 12` -/
example :
    (xcorrR (libFft ⟨√2 / 2, √2 / 2, √3 / 2⟩) (libIfft ⟨√2 / 2, √2 / 2, √3 / 2⟩) #[1, 2, 3] #[4, 5]).size = 4 ∧
    (xcorrR (libFft ⟨√2 / 2, √2 / 2, √3 / 2⟩) (libIfft ⟨√2 / 2, √2 / 2, √3 / 2⟩) #[1, 2, 3] #[4, 5]).getD 1 0 = 14 ∧
    (xcorrR (libFft ⟨√2 / 2, √2 / 2, √3 / 2⟩) (libIfft ⟨√2 / 2, √2 / 2, √3 / 2⟩) #[1, 2, 3] #[4, 5]).getD 0 0 = 5 ∧
    (xcorrR (libFft ⟨√2 / 2, √2 / 2, √3 / 2⟩) (libIfft ⟨√2 / 2, √2 / 2, √3 / 2⟩) #[1, 2, 3] #[4, 5]).getD 3 0 = 12 := by
  obtain ⟨h1, h2⟩ := xcorr_eq_total_real _ C01.litsOK_exact #[1, 2, 3] #[4, 5] (by decide) (by decide) (by decide)
  -- with the sizes evaluated every lag is a sum of two terms
  replace h2 : ∀ j, j < 4 → _ = ∑ n ∈ range (1 + 1),
      if 1 ≤ j + n ∧ j + n - 1 < 3 then (#[1, 2, 3] : Array ℝ).getD (j + n - 1) 0 * (#[4, 5] : Array ℝ).getD n 0 else 0 := h2
  refine ⟨h1, ?_, ?_, ?_⟩
  · rw [h2 1 (by decide), Finset.sum_range_succ, Finset.sum_range_one, if_pos (by decide), if_pos (by decide)]
    show (1 : ℝ) * 4 + 2 * 5 = 14
    norm_num
  · rw [h2 0 (by decide), Finset.sum_range_succ, Finset.sum_range_one, if_neg (by decide), if_pos (by decide)]
    show (0 : ℝ) + 1 * 5 = 5
    norm_num
  · rw [h2 3 (by decide), Finset.sum_range_succ, Finset.sum_range_one, if_pos (by decide), if_neg (by decide)]
    show (3 : ℝ) * 4 + 0 = 12
    norm_num

/-- complex `xcorr`, any inputs of sizes 5 and 3 (FFT length 8): 7 lags -/
example (a b : Array (Cx ℝ)) (ha : a.size = 5) (hb : b.size = 3) :
    (xcorrC (libFft ⟨√2 / 2, √2 / 2, √3 / 2⟩) (libIfft ⟨√2 / 2, √2 / 2, √3 / 2⟩) a b).size = 7 := by
  have := (xcorr_eq_total_cmplx _ C01.litsOK_exact a b (by omega) (by omega) (by rw [ha, hb]; norm_num)).1
  rw [this, ha, hb]

/-- two calls with frames of 4 and 5 samples through a 2-tap filter (`_n = 3`): 9 samples in, 9 out in total -/
example (xs ys : Array (Cx ℝ)) (hx : xs.size = 4) (hy : ys.size = 5) :
    (fftProcessC (libFft ⟨√2 / 2, √2 / 2, √3 / 2⟩) (libIfft ⟨√2 / 2, √2 / 2, √3 / 2⟩)
        (fftInitC (libFft ⟨√2 / 2, √2 / 2, √3 / 2⟩) #[⟨1, 0⟩, ⟨0, 1⟩]) xs).2.size +
      (fftProcessC (libFft ⟨√2 / 2, √2 / 2, √3 / 2⟩) (libIfft ⟨√2 / 2, √2 / 2, √3 / 2⟩)
        (fftProcessC (libFft ⟨√2 / 2, √2 / 2, √3 / 2⟩) (libIfft ⟨√2 / 2, √2 / 2, √3 / 2⟩)
          (fftInitC (libFft ⟨√2 / 2, √2 / 2, √3 / 2⟩) #[⟨1, 0⟩, ⟨0, 1⟩]) xs).1 ys).2.size = 9 := by
  rw [(fftfilter_two_calls_total _ C01.litsOK_exact #[⟨1, 0⟩, ⟨0, 1⟩] (by decide) (by decide) xs ys).1, hx, hy]
  decide

end examples

end Dsp.C07
