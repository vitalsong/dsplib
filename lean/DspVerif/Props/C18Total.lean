import DspVerif.Props.C18
import DspVerif.Props.C01Total
import DspVerif.Props.C07
import DspVerif.Props.C07Total
/-!
# C18 — `finddelay` and the detector's correlation WITHOUT any transform hypothesis

`Props/C18.lean` proves `finddelay_of_circ_xcorr` for every transform pair satisfying the circular cross-correlation theorem
(`CircXc`) and `callCorr_from_rest` for every pair satisfying C07's circular convolution theorem (`C07.CircConv`).
This file DISCHARGES both hypotheses for the instantiation the driver runs (`Driver/H18.lean`: `fftr18`, `fftc18`, `ifft18` —
the C01 model of the library's plan family `Fft.fftR` / `Fft.fftC` at the length of the argument, and `IfftPlan::solve` =
`Fft.ifftWith` on top of the forward plan of the argument's length), here at `ℝ` (`fftrL`, `fftcL`, `ifftL`), using the
C01 theorems `C01.fftC_getD` / `C01.fftR_getD` / `C01.ifftWith_getD` (`Props/C01Total.lean`).

The only hypotheses left are `LitsOK lit` (the three literals of the small kernels denote `√½`, `√½`, `√¾`; `litsOK_exact`) and
the transform length `< 2^31` (the `int` range).  All statements are exact (`ℝ`/`ℂ` arithmetic): the fft/ifft round trip is
exact only there; rounding is not modelled.  T18.3 is then stated on the correlation SUM of the input samples (`cxcorrC`,
`cxcorrR`), T18.4 on C07's direct filters (`firCorr`), for the FIRST call after construction only.
-/
open Finset Dsp Dsp.Detect Dsp.MathFns Dsp.Fir

namespace Dsp.C18
open Dsp.Fft (Lits Vec)
open Dsp.C01 (LitsOK litsOK_exact)

/-! ## the driver's instantiation of the transform parameters, at `ℝ` -/

/-- `fft(const arr_cmplx&)` as `Driver/H18.lean` instantiates it (`fftc18`): the plan of the argument's length -/
noncomputable def fftcL (lit : Lits ℝ) (x : Array (Cx ℝ)) : Array (Cx ℝ) := Fft.fftC lit x.size x
/-- `fft(const arr_real&)` (`fftr18`) -/
noncomputable def fftrL (lit : Lits ℝ) (x : Array ℝ) : Array (Cx ℝ) := Fft.fftR lit x.size x
/-- `ifft(const arr_cmplx&)` (`ifft18`): `IfftPlan::solve` on top of the forward plan of the argument's length -/
noncomputable def ifftL (lit : Lits ℝ) (x : Array (Cx ℝ)) : Array (Cx ℝ) := Fft.ifftWith (Fft.fftC lit x.size) x.size x

/-! ## array-level statements of C01 for the driver's instantiation (`getD … 0`, the vocabulary of C07 / C18) -/

theorem toC_emb (v : ℝ) : Cx.toC (⟨v, 0⟩ : Cx ℝ) = (v : ℂ) := by apply Complex.ext <;> simp

/-- `fft(arr_cmplx)` of the library model: `N` bins, bin `k` is the DFT of the samples -/
theorem fftcL_spec (lit : Lits ℝ) (hl : LitsOK lit) (N : ℕ) (hN : 0 < N) (hlt : N < 2 ^ 31) (a : Array (Cx ℝ)) (ha : a.size = N) :
    (fftcL lit a).size = N ∧
    ∀ k, k < N → Cx.toC ((fftcL lit a).getD k 0) = dft N (fun m => Cx.toC (a.getD m 0)) k := by
  subst ha
  exact C01.fftC_getD lit hl _ hN hlt.le a

theorem fftrL_spec (lit : Lits ℝ) (hl : LitsOK lit) (N : ℕ) (hN : 0 < N) (hlt : N < 2 ^ 31) (a : Array ℝ) (ha : a.size = N) :
    (fftrL lit a).size = N ∧
    ∀ k, k < N → Cx.toC ((fftrL lit a).getD k 0) = dft N (fun m => ((a.getD m 0 : ℝ) : ℂ)) k := by
  subst ha
  exact C01.fftR_getD lit hl _ hN hlt a

/-- `ifft(arr_cmplx)` of the library model (`IfftPlan::solve` over the library's forward plan): `N` samples, sample `t` is the
inverse DFT of the bins -/
theorem ifftL_spec (lit : Lits ℝ) (hl : LitsOK lit) (N : ℕ) (hN : 0 < N) (hlt : N < 2 ^ 31) (P : Array (Cx ℝ)) (hP : P.size = N) :
    (ifftL lit P).size = N ∧
    ∀ t, t < N → Cx.toC ((ifftL lit P).getD t 0) = C07.idft N (fun k => Cx.toC (P.getD k 0)) t := by
  subst hP
  exact C01.ifftWith_getD lit hl _ hN hlt.le P

/-- `ifft(A * B)` for two spectra of `N` bins whose values are known in `ℂ` -/
theorem ifft_mul_spec (lit : Lits ℝ) (hl : LitsOK lit) (N : ℕ) (hN : 0 < N) (hlt : N < 2 ^ 31) (A B : Array (Cx ℝ))
    (hA : A.size = N) (f g : ℕ → ℂ) (hf : ∀ k, k < N → Cx.toC (A.getD k 0) = f k) (hg : ∀ k, k < N → Cx.toC (B.getD k 0) = g k) :
    (ifftL lit (mulv 0 A B)).size = N ∧
    ∀ t, t < N → Cx.toC ((ifftL lit (mulv 0 A B)).getD t 0) = C07.idft N (fun k => f k * g k) t := by
  have hs : (mulv 0 A B).size = N := by simp [mulv, hA]
  obtain ⟨h1, h2⟩ := ifftL_spec lit hl N hN hlt _ hs
  refine ⟨h1, fun t ht => ?_⟩
  rw [h2 t ht]
  apply C07.idft_congr
  intro k hk
  unfold mulv
  rw [getD_ofFn, dif_pos (by rw [hA]; exact hk), Cx.toC_mul, hf k hk, hg k hk]

/-! ## the hypotheses of `Props/C18.lean`, discharged -/

/-- **C07's `CircConv` for the library's transform pair**, every length `0 < N < 2^31`:
`ifft(fft a · fft b)[t] = Σ_n a[n]·b[(t-n) mod N]` -/
theorem circConv_lib (lit : Lits ℝ) (hl : LitsOK lit) (N : ℕ) (hN : 0 < N) (hlt : N < 2 ^ 31) :
    C07.CircConv (fftcL lit) (ifftL lit) N :=
  C07.circConv_lib lit hl N hN hlt.le

/-- `CircXc` for the library's `ifft` and any forward transform that returns the DFT of the embedded samples:
`ifft(fft a · conj(fft b))[t] = Σ_n a[(n+t) mod N]·conj(b[n])` -/
theorem circXc_of_dft {γ : Type} (zero : γ) (emb : γ → Cx ℝ) (fft : Array γ → Array (Cx ℝ)) (lit : Lits ℝ) (hl : LitsOK lit)
    (N : ℕ) (hN : 0 < N) (hlt : N < 2 ^ 31)
    (hfft : ∀ a : Array γ, a.size = N → (fft a).size = N ∧
      ∀ k, k < N → Cx.toC ((fft a).getD k 0) = dft N (fun m => Cx.toC (emb (a.getD m zero))) k) :
    CircXc zero emb fft (ifftL lit) N := by
  intro a b ha hb
  rw [czero_eq]
  obtain ⟨a1, a2⟩ := hfft a ha
  obtain ⟨_, b2⟩ := hfft b hb
  have b3 : ∀ k, k < N → Cx.toC (((fft b).map Cx.conj).getD k 0) =
      (starRingEnd ℂ) (dft N (fun m => Cx.toC (emb (b.getD m zero))) k) := fun k hk => by
    rw [getD_map' Cx.conj _ k 0 0 C07.conj_zero, Cx.toC_conj, b2 k hk]
  obtain ⟨h1, h2⟩ := ifft_mul_spec lit hl N hN hlt _ _ a1 _ _ a2 b3
  refine ⟨h1, fun t ht => Cx.toC_injective ?_⟩
  rw [h2 t ht, circ_xcorr_dft N hN _ _ t ht, ← Cx.toCHom_apply, map_sum]
  exact Finset.sum_congr rfl fun n _ => by rw [Cx.toCHom_apply, Cx.toC_mul, Cx.toC_conj]

/-- **`CircXc` for `fft(arr_cmplx)` / `ifft` of the library**, every length `0 < N < 2^31` -/
theorem circXc_lib_cmplx (lit : Lits ℝ) (hl : LitsOK lit) (N : ℕ) (hN : 0 < N) (hlt : N < 2 ^ 31) :
    CircXc (czero : Cx ℝ) id (fftcL lit) (ifftL lit) N :=
  circXc_of_dft czero id (fftcL lit) lit hl N hN hlt fun a ha => by
    rw [czero_eq]; exact fftcL_spec lit hl N hN hlt a ha

/-- **`CircXc` for `fft(arr_real)` / `ifft` of the library** (samples embedded as `v + 0i`), every length `0 < N < 2^31` -/
theorem circXc_lib_real (lit : Lits ℝ) (hl : LitsOK lit) (N : ℕ) (hN : 0 < N) (hlt : N < 2 ^ 31) :
    CircXc (0 : ℝ) (fun v => (⟨v, 0⟩ : Cx ℝ)) (fftrL lit) (ifftL lit) N :=
  circXc_of_dft 0 _ (fftrL lit) lit hl N hN hlt fun a ha => by
    simpa only [toC_emb] using fftrL_spec lit hl N hN hlt a ha

/-! ## T18.3 `finddelay` with the library FFT — no transform hypothesis -/

/-- the circular cross-correlation of the zero-padded operands (`nfft = 2^nextpow2(max(len x1, len x2))`), complex samples:
`c(t) = Σ_{n<nfft} s1[(n+t) mod nfft]·conj(s2[n])` — a sum over the INPUT SAMPLES -/
noncomputable def cxcorrC (x1 x2 : Array (Cx ℝ)) (t : ℕ) : Cx ℝ :=
  ∑ n ∈ range (fdLen x1.size x2.size),
    (Fir.zeropad 0 x1 (fdLen x1.size x2.size)).getD ((n + t) % fdLen x1.size x2.size) 0 *
      Cx.conj ((Fir.zeropad 0 x2 (fdLen x1.size x2.size)).getD n 0)

/-- the same for real samples: `c(t) = Σ_{n<nfft} s1[(n+t) mod nfft]·s2[n]` -/
noncomputable def cxcorrR (x1 x2 : Array ℝ) (t : ℕ) : ℝ :=
  ∑ n ∈ range (fdLen x1.size x2.size),
    (Fir.zeropad 0 x1 (fdLen x1.size x2.size)).getD ((n + t) % fdLen x1.size x2.size) 0 *
      (Fir.zeropad 0 x2 (fdLen x1.size x2.size)).getD n 0

theorem getD_zeropad0 {R : Type} [Zero R] (x : Array R) (N i : ℕ) :
    (Fir.zeropad 0 x N).getD i 0 = if i < x.size then x.getD i 0 else 0 := by
  unfold Fir.zeropad
  rw [getD_append]
  split
  · rfl
  · exact getD_replicate _ _ _

theorem fdLen_pos (n1 n2 : ℕ) : 0 < fdLen n1 n2 := by unfold fdLen; positivity

/-- the lag `(-d) mod nfft` as an index of the correlation array -/
theorem lagIndex (n1 n2 : ℕ) (d : ℤ) : ((-d) % (fdLen n1 n2 : ℤ)).toNat < fdLen n1 n2 ∧
    ((((-d) % (fdLen n1 n2 : ℤ)).toNat : ℕ) : ℤ) = (-d) % (fdLen n1 n2 : ℤ) := by
  have hpos : (0 : ℤ) < fdLen n1 n2 := Int.natCast_pos.mpr (fdLen_pos n1 n2)
  have h0 := Int.emod_nonneg (-d) hpos.ne'
  have h1 := Int.emod_lt_of_pos (-d) hpos
  omega

/-- **C18 / T18.3, `finddelay(arr_cmplx, arr_cmplx)` with the library's FFT.**  If the circular
cross-correlation `c(t) = Σ_n s1[(n+t) mod nfft]·conj(s2[n])` of the zero-padded inputs has its strict `|·|²`-maximum at the lag
`m = (-d) mod nfft` of a shift `d` with `-nfft ≤ 2d < nfft`, then `finddelay(x1, x2) = d`.  No hypothesis on the transforms: `fft` is
the C01 model of the library's plan family, `ifft` is `IfftPlan::solve`; only the literals and `nfft < 2^31`. -/
theorem finddelay_total_cmplx (lit : Lits ℝ) (hl : LitsOK lit) (x1 x2 : Array (Cx ℝ)) (hb : fdLen x1.size x2.size < 2 ^ 31)
    (d : ℤ) (m : ℕ) (hm : m < fdLen x1.size x2.size)
    (hpeak : ∀ j, j < fdLen x1.size x2.size → j ≠ m → Cx.abs2 (cxcorrC x1 x2 j) < Cx.abs2 (cxcorrC x1 x2 m))
    (hlag : (m : ℤ) = (-d) % (fdLen x1.size x2.size : ℤ))
    (hd1 : -(fdLen x1.size x2.size : ℤ) ≤ 2 * d) (hd2 : 2 * d < fdLen x1.size x2.size) :
    finddelayC (fftcL lit) (ifftL lit) x1 x2 = d := by
  have H := circXc_lib_cmplx lit hl _ (fdLen_pos x1.size x2.size) hb
  rw [czero_eq] at H
  rw [finddelayC, czero_eq]
  refine finddelay_of_circ_xcorr 0 id (fftcL lit) (ifftL lit) x1 x2 H d m hm (fun j hj hne => ?_) hlag hd1 hd2
  -- the embedding `id` sits under the sum's binder, where the unifier is slow to see through it
  simp only [id]
  exact hpeak j hj hne

/-- the same with the lag index eliminated: the strict maximum is at `(-d) mod nfft` -/
theorem finddelay_total_cmplx' (lit : Lits ℝ) (hl : LitsOK lit) (x1 x2 : Array (Cx ℝ)) (hb : fdLen x1.size x2.size < 2 ^ 31)
    (d : ℤ) (hd1 : -(fdLen x1.size x2.size : ℤ) ≤ 2 * d) (hd2 : 2 * d < fdLen x1.size x2.size)
    (hpeak : ∀ j, j < fdLen x1.size x2.size → j ≠ ((-d) % (fdLen x1.size x2.size : ℤ)).toNat →
      Cx.abs2 (cxcorrC x1 x2 j) < Cx.abs2 (cxcorrC x1 x2 ((-d) % (fdLen x1.size x2.size : ℤ)).toNat)) :
    finddelayC (fftcL lit) (ifftL lit) x1 x2 = d := by
  exact finddelay_total_cmplx lit hl x1 x2 hb d _ (lagIndex _ _ d).1 hpeak (lagIndex _ _ d).2 hd1 hd2

/-- the complex correlation sum of real samples embedded as `v + 0i` is the real sum -/
theorem sum_emb (N : ℕ) (f g : ℕ → ℝ) :
    (∑ n ∈ range N, (⟨f n, 0⟩ : Cx ℝ) * Cx.conj (⟨g n, 0⟩ : Cx ℝ)) = ⟨∑ n ∈ range N, f n * g n, 0⟩ := by
  apply Cx.toC_injective
  rw [← Cx.toCHom_apply, map_sum, toC_emb]
  push_cast
  apply Finset.sum_congr rfl
  intro n _
  rw [Cx.toCHom_apply, Cx.toC_mul, Cx.toC_conj, toC_emb, toC_emb, Complex.conj_ofReal]

/-- **C18 / T18.3, `finddelay(arr_real, arr_real)` with the library's FFT** (hypotheses on the transforms: the literals and
`nfft < 2^31` only).  If the circular cross-correlation
`c(t) = Σ_n s1[(n+t) mod nfft]·s2[n]` of the zero-padded real inputs has its strict maximum of `c(t)²` (what `argmax(arr_cmplx)`
compares, the imaginary parts being zero) at the lag `m = (-d) mod nfft` of a shift `d` with `-nfft ≤ 2d < nfft`, then
`finddelay(x1, x2) = d`. -/
theorem finddelay_total_real (lit : Lits ℝ) (hl : LitsOK lit) (x1 x2 : Array ℝ) (hb : fdLen x1.size x2.size < 2 ^ 31)
    (d : ℤ) (m : ℕ) (hm : m < fdLen x1.size x2.size)
    (hpeak : ∀ j, j < fdLen x1.size x2.size → j ≠ m → cxcorrR x1 x2 j ^ 2 < cxcorrR x1 x2 m ^ 2)
    (hlag : (m : ℤ) = (-d) % (fdLen x1.size x2.size : ℤ))
    (hd1 : -(fdLen x1.size x2.size : ℤ) ≤ 2 * d) (hd2 : 2 * d < fdLen x1.size x2.size) :
    finddelayR (fftrL lit) (ifftL lit) x1 x2 = d := by
  have H := circXc_lib_real lit hl _ (fdLen_pos x1.size x2.size) hb
  have h0 : (Fn.ofNat 0 : ℝ) = 0 := by simp
  unfold finddelayR
  rw [h0]
  refine finddelay_of_circ_xcorr 0 (fun v => (⟨v, 0⟩ : Cx ℝ)) (fftrL lit) (ifftL lit) x1 x2 H d m hm ?_ hlag hd1 hd2
  intro j hj hne
  -- stated for the concrete sums: as a rewrite rule `sum_emb` would have to be matched under the binder, which is slow
  have e : ∀ t, (∑ n ∈ range (fdLen x1.size x2.size),
      (⟨(Fir.zeropad 0 x1 (fdLen x1.size x2.size)).getD ((n + t) % fdLen x1.size x2.size) 0, 0⟩ : Cx ℝ) *
        Cx.conj (⟨(Fir.zeropad 0 x2 (fdLen x1.size x2.size)).getD n 0, 0⟩ : Cx ℝ)) = ⟨cxcorrR x1 x2 t, 0⟩ := fun t => sum_emb _ _ _
  rw [e j, e m]
  simpa [Cx.abs2, sq] using hpeak j hj hne

theorem finddelay_total_real' (lit : Lits ℝ) (hl : LitsOK lit) (x1 x2 : Array ℝ) (hb : fdLen x1.size x2.size < 2 ^ 31)
    (d : ℤ) (hd1 : -(fdLen x1.size x2.size : ℤ) ≤ 2 * d) (hd2 : 2 * d < fdLen x1.size x2.size)
    (hpeak : ∀ j, j < fdLen x1.size x2.size → j ≠ ((-d) % (fdLen x1.size x2.size : ℤ)).toNat →
      cxcorrR x1 x2 j ^ 2 < cxcorrR x1 x2 ((-d) % (fdLen x1.size x2.size : ℤ)).toNat ^ 2) :
    finddelayR (fftrL lit) (ifftL lit) x1 x2 = d := by
  exact finddelay_total_real lit hl x1 x2 hb d _ (lagIndex _ _ d).1 hpeak (lagIndex _ _ d).2 hd1 hd2

/-! ## T18.4 the detector's correlation with the library FFT — no transform hypothesis -/

/-- the normalised correlation written with the DIRECT filters of C07 only:
`|FirFilter(flip(h)/(rms(h)·nh))(sig)[i]|² / (FirFilter(nh taps 1/nh)(|sig|²)[i] + eps)` -/
noncomputable def firCorr (h sig : Array (Cx ℝ)) (i : ℕ) : ℝ :=
  Cx.abs2 ((firProcessC (firInitC (convertImpulse h)) sig).2.getD i 0) /
    ((firProcessR (firInitR (Array.replicate h.size (1 / (h.size : ℝ)))) (sig.map Cx.abs2)).2.getD i 0 + eps)

/-- **C18 / T18.4 (what is correlated, from rest) with the library's FFT.**  For the first call after
construction, every preamble of `nh ≥ 1` taps with `fft_len = 2^nextpow2(2·nh) < 2^31`, every call length that is a multiple of
`frame_len()`: the overlap-add correlation filter (library `fft` / `ifft`) emits as many samples as the call has, and the
normalised correlation at index `i` is `firCorr h sig i` (C07's direct FIR filter of the flipped normalised preamble over C07's
moving average of the power). -/
theorem callCorr_from_rest_total (lit : Lits ℝ) (hl : LitsOK lit) (h : Array (Cx ℝ)) (thr : ℝ) (hm : 1 ≤ h.size)
    (hb : 2 ^ nextpow2 (2 * h.size) < 2 ^ 31) (sig : Array (Cx ℝ))
    (hfl : sig.size % (detInit (fftcL lit) h thr).frameLen = 0) :
    (fftProcessC (fftcL lit) (ifftL lit) (detInit (fftcL lit) h thr).corr sig).2.size = sig.size ∧
    ∀ i, i < sig.size → (callCorr (fftcL lit) (ifftL lit) (detInit (fftcL lit) h thr) sig).getD i 0 = firCorr h sig i :=
  callCorr_from_rest (fftcL lit) (ifftL lit) h thr hm (circConv_lib lit hl _ (Nat.two_pow_pos _) hb) sig hfl

/-- `frame_len()` of the detector does not depend on the transform: `2^nextpow2(2·nh) + 1 - nh` -/
theorem detInit_frameLen (fftc : Array (Cx ℝ) → Array (Cx ℝ)) (h : Array (Cx ℝ)) (thr : ℝ) :
    (detInit fftc h thr).frameLen = 2 ^ nextpow2 (2 * h.size) + 1 - h.size := by
  show 2 ^ nextpow2 (2 * (convertImpulse h).size) + 1 - (convertImpulse h).size = _
  rw [convertImpulse_size]

/-- **C18 / T18.4, first call, end to end with the library's FFT.**  If in the first call the DIRECT normalised correlation
`firCorr` exceeds `threshold²` at the index `e` only, `process` reports `offset = e`, `score = √firCorr[e]` and the last `nh`
samples of the stream up to and including `e` (zeros before the start of the stream). -/
theorem detector_first_call_total (lit : Lits ℝ) (hl : LitsOK lit) (h : Array (Cx ℝ)) (thr : ℝ) (hm : 1 ≤ h.size)
    (hb : 2 ^ nextpow2 (2 * h.size) < 2 ^ 31) (sig : Array (Cx ℝ))
    (hfl : sig.size % (2 ^ nextpow2 (2 * h.size) + 1 - h.size) = 0) (e : ℕ) (he : e < sig.size)
    (honly : ∀ i, i < sig.size → (thr * thr < firCorr h sig i ↔ i = e)) :
    ∃ s' res, detProcess (fftcL lit) (ifftL lit) (detInit (fftcL lit) h thr) sig = .ok (s', some res) ∧ res.offset = e ∧
      res.score = Real.sqrt (firCorr h sig e) ∧ res.preamble.size = h.size ∧
      ∀ j, j < h.size → res.preamble.getD j czero = hist czero (sig.toList.take (e + 1)) (h.size - 1 - j) := by
  have hfl' : sig.size % (detInit (fftcL lit) h thr).frameLen = 0 := by rw [detInit_frameLen]; exact hfl
  obtain ⟨c1, c2⟩ := callCorr_from_rest_total lit hl h thr hm hb sig hfl'
  obtain ⟨i1, i2⟩ := detInit_inv (fftcL lit) h thr hm
  obtain ⟨s', res, r1, r2, r3, r4, r5⟩ := detector_reports_alignment (fftcL lit) (ifftL lit) (detInit (fftcL lit) h thr) sig h.size []
    hfl' i1 c1 e he (fun i hi => by rw [i2, c2 i hi]; exact honly i hi)
  rw [List.nil_append] at r5
  exact ⟨s', res, r1, r2, by rw [r3, c2 e he], r4, r5⟩

/-- … and if `firCorr` never exceeds `threshold²` in the first call, nothing is reported -/
theorem detector_first_call_silent_total (lit : Lits ℝ) (hl : LitsOK lit) (h : Array (Cx ℝ)) (thr : ℝ) (hm : 1 ≤ h.size)
    (hb : 2 ^ nextpow2 (2 * h.size) < 2 ^ 31) (sig : Array (Cx ℝ))
    (hfl : sig.size % (2 ^ nextpow2 (2 * h.size) + 1 - h.size) = 0)
    (hnone : ∀ i, i < sig.size → ¬ thr * thr < firCorr h sig i) :
    ∃ s', detProcess (fftcL lit) (ifftL lit) (detInit (fftcL lit) h thr) sig = .ok (s', none) ∧
      DInv czero s'.delay h.size sig.toList := by
  have hfl' : sig.size % (detInit (fftcL lit) h thr).frameLen = 0 := by rw [detInit_frameLen]; exact hfl
  obtain ⟨c1, c2⟩ := callCorr_from_rest_total lit hl h thr hm hb sig hfl'
  obtain ⟨i1, i2⟩ := detInit_inv (fftcL lit) h thr hm
  obtain ⟨s', r1, r2⟩ := detector_silent (fftcL lit) (ifftL lit) (detInit (fftcL lit) h thr) sig h.size []
    hfl' i1 c1 (fun i hi => by rw [i2, c2 i hi]; exact hnone i hi)
  exact ⟨s', r1, by rwa [List.nil_append] at r2⟩

/-! ## non-vacuity: the hypotheses are satisfiable (`litsOK_exact`), the theorems apply to concrete lengths and inputs -/

/-- the discharged hypotheses at concrete lengths (a power of two, as `finddelay` / the detector use; a composite; a prime) -/
example : C07.CircConv (fftcL ⟨√2 / 2, √2 / 2, √3 / 2⟩) (ifftL ⟨√2 / 2, √2 / 2, √3 / 2⟩) 1024 ∧
    CircXc (0 : Cx ℝ) id (fftcL ⟨√2 / 2, √2 / 2, √3 / 2⟩) (ifftL ⟨√2 / 2, √2 / 2, √3 / 2⟩) 1000 ∧
    CircXc (0 : ℝ) (fun v => (⟨v, 0⟩ : Cx ℝ)) (fftrL ⟨√2 / 2, √2 / 2, √3 / 2⟩) (ifftL ⟨√2 / 2, √2 / 2, √3 / 2⟩) 1009 :=
  ⟨circConv_lib _ litsOK_exact 1024 (by norm_num) (by norm_num),
   czero_eq ▸ circXc_lib_cmplx _ litsOK_exact 1000 (by norm_num) (by norm_num),
   circXc_lib_real _ litsOK_exact 1009 (by norm_num) (by norm_num)⟩

theorem fdLen_4_4 : fdLen 4 4 = 4 := by decide

/-- `finddelay_total_real` at a concrete pair: `x1 = (0,1,2,0)` is `x2 = (1,2,0,0)` delayed by one sample; `nfft = 4`, the circular
correlation is `c = (2, 5, 2, 0)`, strict maximum at lag `1 = (-(-1)) mod 4`: `finddelay(x1, x2) = -1` with the library FFT model -/
example : finddelayR (fftrL ⟨√2 / 2, √2 / 2, √3 / 2⟩) (ifftL ⟨√2 / 2, √2 / 2, √3 / 2⟩) #[0, 1, 2, 0] #[1, 2, 0, 0] = -1 := by
  have hN : fdLen (#[0, 1, 2, 0] : Array ℝ).size (#[1, 2, 0, 0] : Array ℝ).size = 4 := fdLen_4_4
  -- the arrays already have length `nfft = 4`; the correlation is `c = (2, 5, 2, 0)`
  have hc : ∀ t, cxcorrR #[0, 1, 2, 0] #[1, 2, 0, 0] t =
      (#[0, 1, 2, 0] : Array ℝ).getD (t % 4) 0 * 1 + (#[0, 1, 2, 0] : Array ℝ).getD ((1 + t) % 4) 0 * 2 := by
    intro t
    unfold cxcorrR
    rw [hN]
    simp only [Finset.sum_range_succ, Finset.sum_range_zero, Fir.zeropad]
    simp [Array.getD_eq_getD_getElem?]
  refine finddelay_total_real _ litsOK_exact _ _ (by rw [hN]; decide) (-1) 1 (by rw [hN]; decide) ?_
    (by rw [hN]; rfl) (by rw [hN]; decide) (by rw [hN]; decide)
  rw [hN]
  intro j hj hne
  rw [hc, hc]
  match j, hj, hne with
  | 0, _, _ => show (0 * 1 + 1 * 2 : ℝ) ^ 2 < (1 * 1 + 2 * 2) ^ 2; norm_num
  | 1, _, h => exact absurd rfl h
  | 2, _, _ => show (2 * 1 + 0 * 2 : ℝ) ^ 2 < (1 * 1 + 2 * 2) ^ 2; norm_num
  | 3, _, _ => show (0 * 1 + 0 * 2 : ℝ) ^ 2 < (1 * 1 + 2 * 2) ^ 2; norm_num
/-- `finddelay_total_cmplx` at a concrete pair: `x1 = (0, i)`, `x2 = (i, 0)`; `nfft = 2`, `c = (0, i·conj(i)) = (0, 1)`: delay `-1` -/
example : finddelayC (fftcL ⟨√2 / 2, √2 / 2, √3 / 2⟩) (ifftL ⟨√2 / 2, √2 / 2, √3 / 2⟩) #[⟨0, 0⟩, ⟨0, 1⟩] #[⟨0, 1⟩, ⟨0, 0⟩] = -1 := by
  have hN : fdLen (#[⟨0, 0⟩, ⟨0, 1⟩] : Array (Cx ℝ)).size (#[⟨0, 1⟩, ⟨0, 0⟩] : Array (Cx ℝ)).size = 2 := by decide
  refine finddelay_total_cmplx _ litsOK_exact _ _ (by rw [hN]; decide) (-1) 1 (by rw [hN]; decide) ?_
    (by rw [hN]; rfl) (by rw [hN]; decide) (by rw [hN]; decide)
  rw [hN]
  intro j hj hne
  unfold cxcorrC
  rw [hN]
  match j, hj, hne with
  | 0, _, _ => norm_num [Finset.sum_range_succ, Fir.zeropad, Array.getD_eq_getD_getElem?, Cx.abs2, Cx.conj]
  | 1, _, h => exact absurd rfl h

/-- `callCorr_from_rest_total` applies to a concrete preamble (`nh = 2`: `fft_len = 4`, `frame_len() = 3`) and every call of three
samples -/
example (sig : Array (Cx ℝ)) (hs : sig.size = 3) (i : ℕ) (hi : i < 3) :
    (callCorr (fftcL ⟨√2 / 2, √2 / 2, √3 / 2⟩) (ifftL ⟨√2 / 2, √2 / 2, √3 / 2⟩)
      (detInit (fftcL ⟨√2 / 2, √2 / 2, √3 / 2⟩) #[⟨1, 0⟩, ⟨0, 1⟩] (1 / 2)) sig).getD i 0 = firCorr #[⟨1, 0⟩, ⟨0, 1⟩] sig i := by
  have h4 : 2 ^ nextpow2 (2 * (#[⟨1, 0⟩, ⟨0, 1⟩] : Array (Cx ℝ)).size) = 4 := by decide
  refine (callCorr_from_rest_total _ litsOK_exact #[⟨1, 0⟩, ⟨0, 1⟩] (1 / 2) (by simp) (by rw [h4]; norm_num) sig ?_).2 i (by omega)
  rw [detInit_frameLen, h4, hs]
  rfl

/-- the one-tap preamble `h = (1)`: `_convert_impulse(h) = (1)` (`rms = 1`, `nh = 1`) -/
theorem convertImpulse_unit : convertImpulse (#[⟨1, 0⟩] : Array (Cx ℝ)) = #[⟨1, 0⟩] := by
  simp [convertImpulse, MathFns.flip, crms, Cx.divr]
  apply Array.ext <;> simp

theorem eps_pos : (0 : ℝ) < eps := by unfold eps; simp

/-- … for which the direct normalised correlation is `|x[i]|² / (|x[i]|² + eps)` -/
theorem firCorr_unit (sig : Array (Cx ℝ)) (i : ℕ) (hi : i < sig.size) :
    firCorr #[⟨1, 0⟩] sig i = Cx.abs2 (sig.getD i 0) / (Cx.abs2 (sig.getD i 0) + eps) := by
  unfold firCorr
  rw [convertImpulse_unit]
  obtain ⟨_, f2⟩ := C07.fir_eq_cmplx #[⟨1, 0⟩] sig (Nat.le_refl 1)
  obtain ⟨_, g2⟩ := C07.fir_eq_real (Array.replicate (#[⟨1, 0⟩] : Array (Cx ℝ)).size
    (1 / ((#[⟨1, 0⟩] : Array (Cx ℝ)).size : ℝ))) (sig.map Cx.abs2) (Nat.le_refl 1)
  have e1 : Cx.toC ((#[⟨1, 0⟩] : Array (Cx ℝ)).getD 0 0) = 1 := Complex.ext rfl rfl
  have hf : (firProcessC (firInitC #[⟨1, 0⟩]) sig).2.getD i 0 = sig.getD i 0 := Cx.toC_injective (by
    rw [f2 i hi]
    show ∑ k ∈ range 1, _ = _
    rw [Finset.sum_range_one, if_pos (Nat.zero_le i), e1, map_one, one_mul, Nat.sub_zero])
  rw [hf, g2 i (by rw [Array.size_map]; exact hi)]
  show _ / ((∑ k ∈ range 1, _) + eps) = _
  rw [Finset.sum_range_one, if_pos (Nat.zero_le i), Nat.sub_zero,
    getD_map' Cx.abs2 sig i 0 0 (by simp [Cx.abs2])]
  simp [Array.getD_eq_getD_getElem?]

/-- `detector_first_call_total` at a concrete state: preamble `(1)`, threshold `1/2`, first call `(0, 1)` (one frame of
`frame_len() = 2`): `firCorr = (0, 1/(1+eps))` exceeds `1/4` at index 1 only — the detector (library FFT model) reports offset 1 -/
example : ∃ s' res, detProcess (fftcL ⟨√2 / 2, √2 / 2, √3 / 2⟩) (ifftL ⟨√2 / 2, √2 / 2, √3 / 2⟩)
      (detInit (fftcL ⟨√2 / 2, √2 / 2, √3 / 2⟩) #[⟨1, 0⟩] (1 / 2)) #[⟨0, 0⟩, ⟨1, 0⟩] = .ok (s', some res) ∧ res.offset = 1 := by
  have h2 : 2 ^ nextpow2 (2 * (#[⟨1, 0⟩] : Array (Cx ℝ)).size) = 2 := by decide
  have hp : (0 : ℝ) < eps := eps_pos
  have he : (eps : ℝ) < 1 := by unfold eps; norm_num
  obtain ⟨s', res, h, ho, _⟩ := detector_first_call_total _ litsOK_exact #[⟨1, 0⟩] (1 / 2) (Nat.le_refl 1) (by rw [h2]; decide)
    #[⟨0, 0⟩, ⟨1, 0⟩] (by rw [h2]; rfl) 1 (by decide) (fun i hi => by
      rw [firCorr_unit _ i hi]
      match i, hi with
      | 0, _ =>
        have e : Cx.abs2 ((#[⟨0, 0⟩, ⟨1, 0⟩] : Array (Cx ℝ)).getD 0 0) = 0 := by show Cx.abs2 (⟨0, 0⟩ : Cx ℝ) = 0; norm_num [Cx.abs2]
        rw [e, zero_div]; norm_num
      | 1, _ =>
        have e : Cx.abs2 ((#[⟨0, 0⟩, ⟨1, 0⟩] : Array (Cx ℝ)).getD 1 0) = 1 := by show Cx.abs2 (⟨1, 0⟩ : Cx ℝ) = 1; norm_num [Cx.abs2]
        rw [e, lt_div_iff₀ (add_pos one_pos hp)]
        exact ⟨fun _ => rfl, fun _ => by linarith⟩)
  exact ⟨s', res, h, ho⟩
/-- `detector_first_call_silent_total`: the all-zero first call reports nothing -/
example : ∃ s', detProcess (fftcL ⟨√2 / 2, √2 / 2, √3 / 2⟩) (ifftL ⟨√2 / 2, √2 / 2, √3 / 2⟩)
      (detInit (fftcL ⟨√2 / 2, √2 / 2, √3 / 2⟩) #[⟨1, 0⟩] (1 / 2)) #[⟨0, 0⟩, ⟨0, 0⟩] = .ok (s', none) := by
  have h2 : 2 ^ nextpow2 (2 * (#[⟨1, 0⟩] : Array (Cx ℝ)).size) = 2 := by decide
  obtain ⟨s', h, _⟩ := detector_first_call_silent_total _ litsOK_exact #[⟨1, 0⟩] (1 / 2) (Nat.le_refl 1) (by rw [h2]; decide)
    #[⟨0, 0⟩, ⟨0, 0⟩] (by rw [h2]; rfl) (fun i hi => by
      rw [firCorr_unit _ i hi]
      have e : (#[⟨0, 0⟩, ⟨0, 0⟩] : Array (Cx ℝ)).getD i 0 = 0 := by
        match i, hi with
        | 0, _ => rfl
        | 1, _ => rfl
      rw [e]
      simp [Cx.abs2])
  exact ⟨s', h⟩
end Dsp.C18
