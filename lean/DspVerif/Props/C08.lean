import DspVerif.Model.Resample
import DspVerif.Lib.RealFn
import DspVerif.Lib.ArrayGetD
import Mathlib.Algebra.BigOperators.Intervals
import Mathlib.Tactic.Linarith
import Mathlib.Tactic.Ring
import Mathlib.Tactic.SplitIfs
import Mathlib.Tactic.FieldSimp
import Mathlib.Tactic.NormNum
/-!
# C08 — multirate converters equal the zero-stuff / filter / decimate definition

Theorems about `Model/Resample.lean` at `α = ℝ` (exact arithmetic; rounding is measured by the oracle of
`harness/c08.cpp`) and about its integer arithmetic.  Streams: `past` are the samples a converter has
consumed since construction (from rest), `x` is the frame of the current call; every statement is for
every `past`, i.e. for every call of every history, not only for the first call.
-/
open Finset

namespace Dsp.C08
open Dsp Dsp.Resample

/-! ## arrays, loops -/

theorem size_tab {β : Type} (n : ℕ) (f : ℕ → β) : (tab n f).size = n := by simp [tab]

theorem getD_tab {β : Type} (n : ℕ) (f : ℕ → β) (i : ℕ) (d : β) : (tab n f).getD i d = if i < n then f i else d :=
  getD_ofFn_val n f i d

theorem tab_congr {β : Type} (n : ℕ) (f g : ℕ → β) (h : ∀ i, i < n → f i = g i) : tab n f = tab n g := by
  unfold tab
  congr 1
  funext i
  exact h i i.isLt

@[simp] theorem zero_real : (Resample.zero : ℝ) = 0 := by simp [Resample.zero]

theorem elem_def (a : Array ℝ) (i : ℕ) : elem a i = a.getD i 0 := by rw [elem, zero_real]

theorem elem_tab (n : ℕ) (f : ℕ → ℝ) (i : ℕ) : elem (tab n f) i = if i < n then f i else 0 := by
  rw [elem_def, getD_tab]

theorem elem_of_le (a : Array ℝ) (i : ℕ) (h : a.size ≤ i) : elem a i = 0 := by
  rw [elem_def, getD_of_size_le a i 0 h]

theorem elem_append (d x : Array ℝ) (t : ℕ) :
    elem (d ++ x) t = if t < d.size then elem d t else elem x (t - d.size) := by
  simp only [elem_def]; exact getD_append d x t 0

theorem row_tab {β : Type} (n : ℕ) (f : ℕ → Array β) (i : ℕ) (h : i < n) : (tab n f).getD i #[] = f i :=
  (getD_tab n f i #[]).trans (if_pos h)

theorem loopN_eq {σ : Type} (step : ℕ → σ → σ) (S : ℕ → σ) (N : ℕ) (h : ∀ n, n < N → step n (S n) = S (n + 1)) :
    loopN step N (S 0) = S N := by
  suffices ∀ n, n ≤ N → loopN step n (S 0) = S n from this N le_rfl
  intro n
  induction n with
  | zero => intro _; rfl
  | succ n ih => intro hn; rw [loopN, ih (Nat.le_of_succ_le hn), h n hn]

theorem accN_eq (f : ℕ → ℝ) (n : ℕ) (a : ℝ) : accN f n a = a + ∑ j ∈ range n, f j := by
  have := loopN_eq (fun j a => a + f j) (fun j => a + ∑ i ∈ range j, f i) n fun j _ => by
    rw [Finset.sum_range_succ, add_assoc]
  rwa [Finset.sum_range_zero, add_zero] at this

theorem sum_range_mul' {β : Type} [AddCommMonoid β] (n L : ℕ) (f : ℕ → β) :
    ∑ t ∈ range (n * L), f t = ∑ s ∈ range n, ∑ r ∈ range L, f (s * L + r) := by
  induction n with
  | zero => simp
  | succ n ih => rw [Nat.succ_mul, Finset.sum_range_add, ih, Finset.sum_range_succ]

/-! ## zero padding to a multiple of the rate (`polyphase`, `next_size`) -/

theorem paddedLen_spec (n m : ℕ) (hm : 0 < m) :
    n ≤ paddedLen n m ∧ paddedLen n m < n + m ∧ paddedLen n m % m = 0 := by
  unfold paddedLen
  have h1 := Nat.div_add_mod n m
  have h2 := Nat.mod_lt n hm
  split_ifs with h
  · exact ⟨le_refl _, by omega, h⟩
  · refine ⟨?_, ?_, by simp⟩
    · rw [Nat.add_mul, Nat.mul_comm]; omega
    · rw [Nat.add_mul, Nat.mul_comm]; omega

theorem paddedLen_div_mul (n m : ℕ) (hm : 0 < m) : paddedLen n m / m * m = paddedLen n m :=
  Nat.div_mul_cancel (Nat.dvd_of_mod_eq_zero (paddedLen_spec n m hm).2.2)

theorem paddedLen_eq_ceil (n m : ℕ) (hm : 0 < m) : paddedLen n m = m * ((n + m - 1) / m) := by
  obtain ⟨h1, h2, h3⟩ := paddedLen_spec n m hm
  obtain ⟨c, hc⟩ := Nat.dvd_of_mod_eq_zero h3
  rw [hc]
  congr 1
  symm
  apply Nat.div_eq_of_lt_le
  · rw [Nat.mul_comm]; omega
  · rw [Nat.add_mul, Nat.mul_comm]; omega

/-! ## T08.1 — the polyphase decomposition -/

/-- sum of the coefficient vector (the DC gain before normalisation) -/
noncomputable def hsum (h : Array ℝ) : ℝ := ∑ i ∈ range h.size, elem h i

/-- `ĥ`: the zero-padded (`elem` reads 0 past the end), sum-normalised coefficient vector -/
noncomputable def hhat (h : Array ℝ) (t : ℕ) : ℝ := elem h t / hsum h

theorem sum_padded (h : Array ℝ) (m : ℕ) (hm : 0 < m) :
    ∑ i ∈ range (paddedLen h.size m), elem h i = hsum h :=
  (Finset.sum_subset (range_subset_range.2 (paddedLen_spec h.size m hm).1) fun i _ hi =>
    elem_of_le h i (Nat.le_of_not_lt (mt mem_range.2 hi))).symm

/-- `ĥ` has DC gain 1 (so `L·ĥ` has DC gain `L`) — provided the taps do not sum to zero -/
theorem hhat_dc_gain (h : Array ℝ) (m : ℕ) (hm : 0 < m) (hs : hsum h ≠ 0) :
    ∑ t ∈ range (paddedLen h.size m), hhat h t = 1 := by
  unfold hhat
  simp only [div_eq_mul_inv]
  rw [← Finset.sum_mul, sum_padded h m hm, mul_inv_cancel₀ hs]

theorem polyphase_size (h : Array ℝ) (m : ℕ) (gain : ℝ) (flip : Bool) : (polyphase h m gain flip).size = m :=
  size_tab m _

theorem polyphase_row (h : Array ℝ) (m : ℕ) (gain : ℝ) (flip : Bool) (i : ℕ) (hi : i < m) :
    row (polyphase h m gain flip) i =
      tab (paddedLen h.size m / m) fun k =>
        hhat h (i + (if flip then paddedLen h.size m / m - 1 - k else k) * m) * gain := by
  have hm : 0 < m := by omega
  unfold row polyphase
  simp only []
  rw [row_tab _ _ _ hi]
  apply tab_congr
  intro k _
  rw [accN_eq, zero_real, zero_add, sum_padded h m hm, hhat]

/-- **T08.1 (polyphase_spec).**  `polyphase(h, m, gain, flip)` has `m` branches of `n = ⌈|h|/m⌉` taps; branch `i`,
tap `k` is `gain · ĥ(i + k·m)` (`flip`: tap `n-1-k`), `ĥ` the zero-padded sum-normalised `h`. -/
theorem polyphase_spec (h : Array ℝ) (m : ℕ) (gain : ℝ) (flip : Bool) (i k : ℕ) (hi : i < m)
    (hk : k < paddedLen h.size m / m) :
    (polyphase h m gain flip).size = m ∧
    (row (polyphase h m gain flip) i).size = paddedLen h.size m / m ∧
    paddedLen h.size m / m * m = paddedLen h.size m ∧
    elem (row (polyphase h m gain flip) i) k =
      gain * hhat h (i + (if flip then paddedLen h.size m / m - 1 - k else k) * m) := by
  refine ⟨polyphase_size h m gain flip, ?_, paddedLen_div_mul _ _ (by omega), ?_⟩
  · rw [polyphase_row h m gain flip i hi, size_tab]
  · rw [polyphase_row h m gain flip i hi, elem_tab, if_pos hk, mul_comm]

/-! ## the textbook chain -/

/-- insert `L-1` zeros between the samples -/
def up (L : ℕ) (x : ℕ → ℝ) (n : ℕ) : ℝ := if L ∣ n then x (n / L) else 0

/-- causal FIR filter with taps `g 0 … g (nh-1)` on a signal that starts at 0 (from rest) -/
noncomputable def fir (nh : ℕ) (g : ℕ → ℝ) (u : ℕ → ℝ) (n : ℕ) : ℝ :=
  ∑ t ∈ range nh, if t ≤ n then g t * u (n - t) else 0

theorem up_mul (L : ℕ) (hL : 0 < L) (x : ℕ → ℝ) (d : ℕ) : up L x (d * L) = x d := by
  rw [up, if_pos (Dvd.intro_left _ rfl), Nat.mul_div_cancel _ hL]

/-- of the `L` taps `s·L + r` of block `s` only `r = m % L` meets a sample of the zero-stuffed signal -/
theorem fir_up_inner (L : ℕ) (hL : 0 < L) (g x : ℕ → ℝ) (m s : ℕ) :
    (∑ r ∈ range L, if s * L + r ≤ m then g (s * L + r) * up L x (m - (s * L + r)) else 0) =
      if s ≤ m / L then g (m % L + s * L) * x (m / L - s) else 0 := by
  obtain ⟨q, ρ, hρ, rfl⟩ : ∃ q ρ, ρ < L ∧ m = ρ + q * L :=
    ⟨m / L, m % L, Nat.mod_lt _ hL, (Nat.mod_add_div' m L).symm⟩
  rw [Nat.add_mul_div_right _ _ hL, Nat.div_eq_of_lt hρ, Nat.zero_add, Nat.add_mul_mod_self_right, Nat.mod_eq_of_lt hρ,
    Finset.sum_eq_single_of_mem ρ (Finset.mem_range.mpr hρ)]
  · have e : ρ + q * L - (s * L + ρ) = (q - s) * L := by rw [Nat.sub_mul]; omega
    rw [e, up_mul L hL, Nat.add_comm ρ (s * L)]
    exact if_congr (by rw [Nat.add_comm ρ, Nat.add_le_add_iff_right, Nat.mul_le_mul_right_iff hL]) rfl rfl
  · intro r hr hne
    refine ite_eq_right_iff.2 fun hle => ?_
    rw [up, if_neg, mul_zero]
    rintro ⟨c, hc⟩
    have : (ρ + q * L) % L = (r + (s + c) * L) % L := by congr 1; rw [Nat.add_mul, Nat.mul_comm c]; omega
    rw [Nat.add_mul_mod_self_right, Nat.add_mul_mod_self_right, Nat.mod_eq_of_lt hρ,
      Nat.mod_eq_of_lt (Finset.mem_range.mp hr)] at this
    exact hne this.symm

/-- **polyphase identity of the textbook chain**: the `m`-th sample of "insert `L-1` zeros, filter with the
`n·L` taps `g`" is branch `m % L` of the taps applied to the input at `m / L`. -/
theorem fir_up (L : ℕ) (hL : 0 < L) (n : ℕ) (g x : ℕ → ℝ) (m : ℕ) :
    fir (n * L) g (up L x) m = fir n (fun s => g (m % L + s * L)) x (m / L) := by
  unfold fir
  rw [sum_range_mul']
  exact Finset.sum_congr rfl fun s _ => fir_up_inner L hL g x m s

/-! ## the delay line -/

/-- contents of a delay line of `nd` cells after the samples `past` (from rest): the last `nd` samples,
zeros where the stream had not started yet -/
noncomputable def hist (nd : ℕ) (past : Array ℝ) : Array ℝ :=
  tab nd fun t => if past.size + t < nd then 0 else elem past (past.size + t - nd)

theorem hist_size (nd : ℕ) (past : Array ℝ) : (hist nd past).size = nd := size_tab _ _

/-- the constructor's `zeros(nd)` is the delay line of the empty history -/
theorem hist_empty (nd : ℕ) : hist nd #[] = zeros nd := by
  unfold hist zeros
  apply tab_congr
  intro i hi
  simp [hi]

/-- the work buffer `d_ ++ in` is the stream, shifted by `nd`, zero before its start -/
theorem elem_hist_append (nd : ℕ) (past x : Array ℝ) (t : ℕ) :
    elem (hist nd past ++ x) t =
      if past.size + t < nd then 0 else elem (past ++ x) (past.size + t - nd) := by
  rw [elem_append, hist_size]
  by_cases ht : t < nd
  · rw [if_pos ht, hist, elem_tab, if_pos ht]
    split_ifs with h1
    · rfl
    · rw [elem_append, if_pos (by omega)]
  · rw [if_neg ht, if_neg (by omega), elem_append, if_neg (by omega)]
    congr 1; omega

/-- the third `memcpy` of `process` (`d_ := last nd cells of the buffer`) re-establishes the delay line -/
theorem hist_step (nd : ℕ) (past x : Array ℝ) :
    (hist nd past ++ x).extract x.size (x.size + (hist nd past).size) = hist nd (past ++ x) := by
  have hs : (hist nd past ++ x).size = x.size + nd := by rw [Array.size_append, hist_size, Nat.add_comm]
  have he : ((hist nd past ++ x).extract x.size (x.size + nd)).size = nd := by
    rw [Array.size_extract, hs, Nat.min_self, Nat.add_sub_cancel_left]
  rw [hist_size]
  refine ext_getD 0 _ _ (he.trans (hist_size _ _).symm) fun i hi => ?_
  rw [he] at hi
  rw [getD_extract _ _ _ _ _ hs.ge, Nat.add_sub_cancel_left, if_pos hi, ← elem_def, ← elem_def, elem_hist_append,
    hist, elem_tab, if_pos hi, Array.size_append, Nat.add_assoc]

/-- cell `c + t` of the work buffer is stream sample `|past| + c + t - nd`: what all three `process` loops compute -/
theorem hist_fir (nd n d : ℕ) (hn : nd + d + 1 = n) (past x : Array ℝ) (g : ℕ → ℝ) (c : ℕ) :
    ∑ t ∈ range n, elem (hist nd past ++ x) (c + t) * g (n - 1 - t) =
      fir n g (elem (past ++ x)) (past.size + c + d) := by
  rw [fir, eq_comm, ← Finset.sum_range_reflect]
  refine Finset.sum_congr rfl fun t ht => ?_
  have := Finset.mem_range.mp ht
  rw [elem_hist_append]
  by_cases hc : past.size + (c + t) < nd
  · rw [if_pos hc, if_neg (by omega), zero_mul]
  · rw [if_neg hc, if_pos (by omega), mul_comm]
    congr 2; omega

/-- zero taps appended to a filter do not change it -/
theorem fir_extend (n n' : ℕ) (hn : n ≤ n') (g u : ℕ → ℝ) (hg : ∀ t, n ≤ t → g t = 0) (m : ℕ) :
    fir n' g u m = fir n g u m :=
  (Finset.sum_subset (range_subset_range.2 hn) fun t _ ht => by
    rw [hg t (Nat.le_of_not_lt (mt mem_range.2 ht)), zero_mul, ite_self]).symm

/-- **the textbook chain before decimation**: sample `m` of "insert `L-1` zeros between the samples of `X`,
filter with `h` normalised to DC gain `L`" (`X` is zero after its last sample, the filter starts from rest) -/
noncomputable def upfir (L : ℕ) (h X : Array ℝ) (m : ℕ) : ℝ :=
  fir h.size (fun t => (L : ℝ) * hhat h t) (up L (elem X)) m

theorem hhat_of_le (h : Array ℝ) (t : ℕ) (ht : h.size ≤ t) : hhat h t = 0 := by
  rw [hhat, elem_of_le _ _ ht, zero_div]

/-- the chain in polyphase form: branch `m % L` of the zero-padded taps on the input at `m / L` -/
theorem upfir_polyphase (L : ℕ) (hL : 0 < L) (h X : Array ℝ) (m : ℕ) :
    upfir L h X m =
      fir (paddedLen h.size L / L) (fun s => (L : ℝ) * hhat h (m % L + s * L)) (elem X) (m / L) := by
  unfold upfir
  rw [← fir_extend h.size (paddedLen h.size L) (paddedLen_spec _ _ hL).1 _ _
        (fun t ht => by rw [hhat_of_le h t ht, mul_zero]),
      ← paddedLen_div_mul h.size L hL, fir_up L hL, paddedLen_div_mul h.size L hL]

theorem sublen_pos (h : Array ℝ) (L : ℕ) (hL : 0 < L) (hh : 0 < h.size) : 0 < paddedLen h.size L / L :=
  Nat.pos_of_mul_pos_right (b := L) (by
    rw [paddedLen_div_mul h.size L hL]; exact hh.trans_le (paddedLen_spec h.size L hL).1)

/-- one output of the flipped polyphase branch `k` on the work buffer at offset `c` (interpolator, rate converter) -/
theorem branch_fir (L : ℕ) (hL : 0 < L) (h : Array ℝ) (hh : 0 < h.size) (past x : Array ℝ) (c k : ℕ) (hk : k < L) :
    ∑ j ∈ range (paddedLen h.size L / L),
        elem (hist (paddedLen h.size L / L - 1) past ++ x) (c + j) * elem (row (polyphase h L (L : ℝ) true) k) j =
      fir (paddedLen h.size L / L) (fun s => (L : ℝ) * hhat h (k + s * L)) (elem (past ++ x)) (past.size + c) := by
  have := hist_fir (paddedLen h.size L / L - 1) _ 0 (Nat.sub_add_cancel (sublen_pos h L hL hh)) past x
    (fun s => (L : ℝ) * hhat h (k + s * L)) c
  rw [Nat.add_zero] at this
  rw [← this, polyphase_row h L (L : ℝ) true k hk]
  apply Finset.sum_congr rfl
  intro j hj
  rw [elem_tab, if_pos (Finset.mem_range.mp hj), if_pos rfl, mul_comm (hhat h _)]

/-! ## T08.2 — FIRInterpolator -/

/-- the interpolator object after it has consumed the samples `past` -/
noncomputable def interpAt (L : ℕ) (h past : Array ℝ) : Interp ℝ :=
  { L := L, sub := paddedLen h.size L / L, h := polyphase h L (L : ℝ) true,
    d := hist (paddedLen h.size L / L - 1) past }

theorem interp_init (L : ℕ) (hL : 0 < L) (h : Array ℝ) : Interp.init L h = interpAt L h #[] := by
  unfold Interp.init interpAt
  simp only [fn_ofNat]
  rw [polyphase_row h L (L : ℝ) true 0 hL, size_tab, hist_empty]

/-- **T08.2 (interp_eq).**  Every call of `FIRInterpolator(L, h)::process`, after any history `past`, returns
`|x|·L` samples: exactly the next samples of the textbook chain (zero-stuff by `L`, filter with `h` normalised to
DC gain `L`) — phase 0, no decimation — and leaves the object in the state "has consumed `past ++ x`".  `_hs` is not used here
nor in T08.3 / T08.5: it records that for taps summing to zero the C++ divides by zero (while `ĥ = 0` in `ℝ`). -/
theorem interp_eq (L : ℕ) (hL : 0 < L) (h : Array ℝ) (hh : 0 < h.size) (_hs : hsum h ≠ 0) (past x : Array ℝ) :
    (interpAt L h past).process x =
      (interpAt L h (past ++ x), tab (x.size * L) fun o => upfir L h (past ++ x) (past.size * L + o)) := by
  unfold Interp.process
  simp only [interpAt]
  refine Prod.ext ?_ ?_
  · simp only [hist_step]
  · simp only []
    apply tab_congr
    intro o _
    have e1 : (past.size * L + o) / L = past.size + o / L := by
      rw [Nat.add_comm, Nat.add_mul_div_right _ _ hL, Nat.add_comm]
    have e2 : (past.size * L + o) % L = o % L := by
      rw [Nat.add_comm, Nat.add_mul_mod_self_right]
    rw [accN_eq, zero_real, zero_add, upfir_polyphase L hL, e1, e2]
    exact branch_fir L hL h hh past x (o / L) (o % L) (Nat.mod_lt _ hL)

/-! ## T08.3 — FIRDecimator -/

theorem loopN_accN (f : ℕ → ℕ → ℝ) (n M : ℕ) (a : ℝ) :
    loopN (fun k acc => accN (f k) n acc) M a = a + ∑ k ∈ range M, ∑ j ∈ range n, f k j := by
  simp only [accN_eq]
  exact accN_eq (fun k => ∑ j ∈ range n, f k j) M a

/-- the zero-padded, normalised filter read backwards (`ĥᶠ`) -/
noncomputable def hflip (h : Array ℝ) (M : ℕ) (t : ℕ) : ℝ :=
  if t < paddedLen h.size M then hhat h (paddedLen h.size M - 1 - t) else 0

/-- the `M` branches together are the whole padded filter -/
theorem polyphase_dot (h : Array ℝ) (M : ℕ) (hM : 0 < M) (u : ℕ → ℝ) :
    ∑ k ∈ range M, ∑ j ∈ range (paddedLen h.size M / M), u (k + j * M) * elem (row (polyphase h M 1 false) k) j =
      ∑ t ∈ range (paddedLen h.size M), u t * hhat h t := by
  conv_rhs => rw [← paddedLen_div_mul h.size M hM, sum_range_mul']
  rw [Finset.sum_comm]
  apply Finset.sum_congr rfl
  intro j hj
  apply Finset.sum_congr rfl
  intro k hk
  rw [polyphase_row h M 1 false k (Finset.mem_range.mp hk), elem_tab, if_pos (Finset.mem_range.mp hj),
    if_neg Bool.false_ne_true, mul_one, Nat.add_comm]

theorem hflip_reflect (h : Array ℝ) (M t : ℕ) (ht : t < paddedLen h.size M) :
    hflip h M (paddedLen h.size M - 1 - t) = hhat h t := by
  rw [hflip, if_pos (by omega)]; congr 1; omega

theorem decim_hist_len (M S : ℕ) (hM : 0 < M) (hS : 0 < S) : M * (S - 1) + (M - 1) + 1 = S * M := by
  obtain ⟨S, rfl⟩ := Nat.exists_eq_succ_of_ne_zero hS.ne'
  rw [Nat.succ_sub_one, Nat.succ_mul, Nat.mul_comm]
  omega

/-- the decimator object after it has consumed the samples `past` -/
noncomputable def decimAt (M : ℕ) (h past : Array ℝ) : Decim ℝ :=
  { M := M, sub := paddedLen h.size M / M, h := polyphase h M 1 false,
    d := hist (M * (paddedLen h.size M / M - 1)) past }

theorem decim_init (M : ℕ) (hM : 0 < M) (h : Array ℝ) : Decim.init M h = decimAt M h #[] := by
  unfold Decim.init decimAt
  simp only [fn_ofNat, Nat.cast_one]
  rw [polyphase_row h M 1 false 0 hM, size_tab, hist_empty]

/-- **T08.3 (decim_eq).**  Every call of `FIRDecimator(M, h)::process` on a frame whose length is a multiple of
`M`, after any history `past`, returns `|x|/M` samples: the samples `|past| + i·M + (M-1)`, i.e. at phase `M-1`, of "filter
with `ĥᶠ`, keep every `M`-th sample", `ĥᶠ` the zero-padded filter normalised to DC gain 1 and read backwards (for a linear-phase `h`: `ĥ` delayed by the padding, `hflip_symmetric`). -/
theorem decim_eq (M : ℕ) (hM : 0 < M) (h : Array ℝ) (hh : 0 < h.size) (_hs : hsum h ≠ 0)
    (past x : Array ℝ) (hx : x.size % M = 0) :
    (decimAt M h past).process x =
      .ok (decimAt M h (past ++ x),
        tab (x.size / M) fun i =>
          fir (paddedLen h.size M) (hflip h M) (elem (past ++ x)) (past.size + i * M + (M - 1))) := by
  have hlen := decim_hist_len M _ hM (sublen_pos h M hM hh)
  rw [paddedLen_div_mul h.size M hM] at hlen
  unfold Decim.process
  simp only [decimAt, hx, ne_eq, not_true_eq_false, ↓reduceIte]
  congr 1
  refine Prod.ext ?_ ?_
  · simp only [hist_step]
  · simp only []
    apply tab_congr
    intro i _
    have := hist_fir _ _ _ hlen past x (hflip h M) (i * M)
    rw [loopN_accN, zero_real, zero_add, ← this]
    simp only [Nat.add_assoc]
    rw [polyphase_dot h M hM fun t => elem (hist (M * (paddedLen h.size M / M - 1)) past ++ x) (i * M + t)]
    exact Finset.sum_congr rfl fun t ht => by rw [hflip_reflect h M t (Finset.mem_range.mp ht)]

/-! ## T08.4 — the branch schedule of FIRRateConverter -/

/-- output phase `r` of a rate converter reads the interpolated stream at position `(r+1)M-1`:
branch `((r+1)M-1) % L`, input offset `((r+1)M-1) / L` -/
def phasePair (L M r : ℕ) : ℕ × ℕ := (((r + 1) * M - 1) % L, ((r + 1) * M - 1) / L)

/-- state of the constructor's double loop after `t` executions of its body -/
def schedState (L M t : ℕ) : ℕ × List (ℕ × ℕ) := (t % M, (List.range (t / M)).map (phasePair L M))

theorem schedStep_state (L M : ℕ) (hL : 0 < L) (hM : 0 < M) (i k : ℕ) (hk : k < L) :
    schedStep M k i (schedState L M (i * L + k)) = schedState L M (i * L + k + 1) := by
  have h1 := Nat.div_add_mod (i * L + k) M
  have h2 := Nat.mod_lt (i * L + k) hM
  unfold schedStep schedState
  simp only []
  split_ifs with h
  · have ht : i * L + k + 1 = ((i * L + k) / M + 1) * M := by rw [Nat.add_mul, Nat.mul_comm _ M]; omega
    rw [ht, Nat.mul_mod_left, Nat.mul_div_cancel _ hM, List.range_succ, List.map_append, List.map_singleton]
    congr 2
    rw [phasePair, ← ht, Nat.add_sub_cancel, Nat.add_comm (i * L) k, Nat.add_mul_mod_self_right, Nat.mod_eq_of_lt hk,
      Nat.add_mul_div_right _ _ hL, Nat.div_eq_of_lt hk, Nat.zero_add]
  · obtain ⟨e2, e1⟩ := (Nat.div_mod_unique hM (a := i * L + k + 1)).mpr
      ⟨(by omega : (i * L + k) % M + 1 + M * ((i * L + k) / M) = i * L + k + 1), by omega⟩
    rw [e1, e2]

/-- **T08.4 (rateconv_schedule).**  The constructor's double loop pushes, for the output phases `r = 0 … L-1` in
this order, branch `k_r = ((r+1)M-1) mod L` and input offset `i_r = ((r+1)M-1) / L` — for every `L, M ≥ 1`. -/
theorem rateconv_schedule (L M : ℕ) (hL : 0 < L) (hM : 0 < M) :
    schedule L M = (List.range L).map (phasePair L M) := by
  have inner : ∀ i, loopN (fun k s => schedStep M k i s) L (schedState L M (i * L)) = schedState L M ((i + 1) * L) :=
    fun i => (loopN_eq _ (fun k => schedState L M (i * L + k)) L fun k hk => schedStep_state L M hL hM i k hk).trans
      (by rw [Nat.succ_mul])
  have outer := loopN_eq (fun i s => loopN (fun k s => schedStep M k i s) L s) (fun i => schedState L M (i * L)) M
    fun i _ => inner i
  rw [Nat.zero_mul] at outer
  rw [schedule, show ((0 : ℕ), ([] : List (ℕ × ℕ))) = schedState L M 0 by simp [schedState], outer, schedState, Nat.mul_comm,
    Nat.mul_div_cancel _ hM]

/-- every offset of the schedule is below `M` (so the element type of `xidxs_`, `int`, holds it, and the
reads of `process` stay inside the buffer: `rateconv_in_bounds`) -/
theorem phasePair_lt (L M r : ℕ) (hL : 0 < L) (hM : 0 < M) (hr : r < L) :
    (phasePair L M r).1 < L ∧ (phasePair L M r).2 < M := by
  refine ⟨Nat.mod_lt _ hL, ?_⟩
  unfold phasePair
  simp only []
  apply Nat.div_lt_of_lt_mul
  have : (r + 1) * M ≤ L * M := Nat.mul_le_mul_right M hr
  have : 0 < (r + 1) * M := Nat.mul_pos (by omega) hM
  omega

example : schedule 3 5 = [(1, 1), (0, 3), (2, 4)] := by decide

/-! ## T08.5 — FIRRateConverter -/

/-- the rate converter object after it has consumed the samples `past` -/
noncomputable def rateAt (L M : ℕ) (h past : Array ℝ) : RateConv ℝ :=
  { L := L, M := M, sub := paddedLen h.size L / L,
    h := ((schedule L M).map fun p => row (polyphase h L (L : ℝ) true) p.1).toArray,
    xi := ((schedule L M).map fun p => p.2).toArray,
    d := hist (paddedLen h.size L / L - 1) past }

theorem rateconv_init (L M : ℕ) (hL : 0 < L) (h : Array ℝ) : RateConv.init L M h = rateAt L M h #[] := by
  unfold RateConv.init rateAt
  simp only [fn_ofNat]
  rw [polyphase_row h L (L : ℝ) true 0 hL, size_tab, hist_empty]

theorem rateAt_sched (L M : ℕ) (hL : 0 < L) (hM : 0 < M) (h past : Array ℝ) (r : ℕ) (hr : r < L) :
    row (rateAt L M h past).h r = row (polyphase h L (L : ℝ) true) (phasePair L M r).1 ∧
    (rateAt L M h past).xi.getD r 0 = (phasePair L M r).2 := by
  unfold rateAt row
  simp only [rateconv_schedule L M hL hM, List.map_map]
  simp [hr]

/-- position `(O+1)M-1` of the interpolated stream, `O = (|past|/M)·L + i·L + r`, in branch / offset form -/
theorem phase_position (L M : ℕ) (hL : 0 < L) (hM : 0 < M) (P i r : ℕ) (hP : P % M = 0) :
    ((P / M * L + (i * L + r) + 1) * M - 1) / L = P + (i * M + (phasePair L M r).2) ∧
    ((P / M * L + (i * L + r) + 1) * M - 1) % L = (phasePair L M r).1 := by
  have hX : (P / M * L + (i * L + r) + 1) * M - 1 = ((r + 1) * M - 1) + (P + i * M) * L := by
    rw [show (P / M * L + (i * L + r) + 1) * M = (P / M * M + i * M) * L + (r + 1) * M by ring,
      Nat.div_mul_cancel (Nat.dvd_of_mod_eq_zero hP), Nat.add_sub_assoc (Nat.mul_pos r.succ_pos hM), Nat.add_comm]
  refine ⟨?_, ?_⟩
  · rw [hX, Nat.add_mul_div_right _ _ hL, Nat.add_comm, Nat.add_assoc]; rfl
  · rw [hX, Nat.add_mul_mod_self_right]; rfl

/-- **T08.5 (rateconv_eq).**  Every call of `FIRRateConverter(L, M, h)::process` on a frame whose length is a
multiple of `M`, after any history `past` of accepted frames, returns `|x|/M·L` samples: output number `O`
(counted from construction) is sample `(O+1)·M - 1` of the textbook chain "insert `L-1` zeros, filter with `h`
normalised to DC gain `L`" — i.e. "keep every `M`-th sample" at the fixed phase `M-1`.  Exact, every `L, M ≥ 1`
(reduced or not), every `h`, every input. -/
theorem rateconv_eq (L M : ℕ) (hL : 0 < L) (hM : 0 < M) (h : Array ℝ) (hh : 0 < h.size) (_hs : hsum h ≠ 0)
    (past x : Array ℝ) (hP : past.size % M = 0) (hx : x.size % M = 0) :
    (rateAt L M h past).process x =
      .ok (rateAt L M h (past ++ x),
        tab (x.size / M * L) fun o => upfir L h (past ++ x) ((past.size / M * L + o + 1) * M - 1)) := by
  unfold RateConv.process
  have hM' : (rateAt L M h past).M = M := rfl
  have hL' : (rateAt L M h past).L = L := rfl
  have hS' : (rateAt L M h past).sub = paddedLen h.size L / L := rfl
  have hd' : (rateAt L M h past).d = hist (paddedLen h.size L / L - 1) past := rfl
  simp only [hM', hL', hS', hd', hx, ne_eq, not_true_eq_false, ↓reduceIte]
  congr 1
  refine Prod.ext ?_ ?_
  · simp only [hist_step]; rfl
  · simp only []
    apply tab_congr
    intro o _
    have ho := Nat.div_add_mod' o L
    have hr : o % L < L := Nat.mod_lt _ hL
    obtain ⟨hrow, hxi⟩ := rateAt_sched L M hL hM h past _ hr
    rw [accN_eq, zero_real, zero_add, upfir_polyphase L hL, hrow, hxi]
    generalize o / L = i at *
    generalize o % L = r at *
    subst ho
    obtain ⟨e1, e2⟩ := phase_position L M hL hM past.size i r hP
    rw [e1, e2]
    exact branch_fir L hL h hh past x (i * M + (phasePair L M r).2) (phasePair L M r).1
      (phasePair_lt L M r hL hM hr).1

/-! ## T08.6 — lengths per call, rejected frames (every state of the objects, not only reachable ones) -/

/-- `FIRInterpolator::process` returns `|x|·L` samples -/
theorem interp_len (s : Interp ℝ) (x : Array ℝ) : (s.process x).2.size = x.size * s.L :=
  size_tab _ _

/-- `FIRDecimator::process` rejects every frame whose length is not a multiple of `M` … -/
theorem decim_reject (s : Decim ℝ) (x : Array ℝ) (hx : x.size % s.M ≠ 0) : ∃ e, s.process x = .error e := by
  unfold Decim.process; rw [if_pos hx]; exact ⟨_, rfl⟩

/-- … and returns `|x|/M` samples for the others -/
theorem decim_len (s : Decim ℝ) (x : Array ℝ) (hx : x.size % s.M = 0) :
    ∃ s' y, s.process x = .ok (s', y) ∧ y.size = x.size / s.M ∧ s'.M = s.M := by
  unfold Decim.process
  rw [if_neg (by simpa using hx)]
  exact ⟨_, _, rfl, size_tab _ _, rfl⟩

/-- `FIRRateConverter::process` rejects every frame whose length is not a multiple of `M` … -/
theorem rateconv_reject (s : RateConv ℝ) (x : Array ℝ) (hx : x.size % s.M ≠ 0) : ∃ e, s.process x = .error e := by
  unfold RateConv.process; rw [if_pos hx]; exact ⟨_, rfl⟩

/-- … and returns `|x|/M·L = |x|·L/M` samples for the others -/
theorem rateconv_len (s : RateConv ℝ) (x : Array ℝ) (hx : x.size % s.M = 0) :
    ∃ s' y, s.process x = .ok (s', y) ∧ y.size = x.size / s.M * s.L ∧ y.size = x.size * s.L / s.M ∧
      s'.M = s.M ∧ s'.L = s.L := by
  unfold RateConv.process
  rw [if_neg (by simpa using hx)]
  refine ⟨_, _, rfl, size_tab _ _, ?_, rfl, rfl⟩
  rw [size_tab]
  exact Nat.div_mul_right_comm (Nat.dvd_of_mod_eq_zero hx) _

/-! ## FIRResampler: which converter a reduced ratio selects -/

theorem simplify_coprime (p q : ℕ) (hc : Nat.Coprime p q) : simplify p q = (p, q) := by
  unfold simplify
  rw [Nat.Coprime.gcd_eq_one hc, Nat.div_one, Nat.div_one]

/-- the three `if`s of the `FIRResampler` constructor are exhaustive on reduced ratios `p ≠ q` -/
theorem rs_init_cases (p q : ℕ) (hp : 0 < p) (hq : 0 < q) (hc : Nat.Coprime p q) (hne : p ≠ q) (h : Array ℝ) :
    (p = 1 ∧ 1 < q ∧ Rs.init p q h = .dec (Decim.init q h)) ∨
    (q = 1 ∧ 1 < p ∧ Rs.init p q h = .int (Interp.init p h)) ∨
    (1 < p ∧ 1 < q ∧ Rs.init p q h = .rc (RateConv.init p q h)) := by
  unfold Rs.init
  rw [simplify_coprime p q hc]
  simp only [hne, if_false]
  by_cases h1 : q > 1 ∧ p = 1
  · left; rw [if_pos h1]; exact ⟨h1.2, h1.1, rfl⟩
  · rw [if_neg h1]
    by_cases h2 : q = 1 ∧ p > 1
    · right; left; rw [if_pos h2]; exact ⟨h2.1, h2.2, rfl⟩
    · right; right; rw [if_neg h2]
      refine ⟨?_, ?_, rfl⟩ <;> omega

/-- a frame whose length is a multiple of `q` is accepted by `FIRResampler(p, q, h)` and gives `|x|/q·p` samples -/
theorem rs_process_len (p q : ℕ) (hp : 0 < p) (hq : 0 < q) (hc : Nat.Coprime p q) (hne : p ≠ q) (h x : Array ℝ)
    (hx : x.size % q = 0) :
    ∃ s' y, (Rs.init p q h).process x = .ok (s', y) ∧ y.size = x.size / q * p := by
  rcases rs_init_cases p q hp hq hc hne h with ⟨h1, _, e⟩ | ⟨h1, _, e⟩ | ⟨_, _, e⟩
  · rw [e]
    obtain ⟨s', y, hy, hs, _⟩ := decim_len (Decim.init q h) x hx
    refine ⟨.dec s', y, ?_, ?_⟩
    · simp only [Rs.process, hy]; rfl
    · rw [hs, h1, Nat.mul_one]; rfl
  · rw [e]
    refine ⟨.int ((Interp.init p h).process x).1, ((Interp.init p h).process x).2, rfl, ?_⟩
    rw [interp_len, h1, Nat.div_one]; rfl
  · rw [e]
    obtain ⟨s', y, hy, hs, _⟩ := rateconv_len (RateConv.init p q h) x hx
    refine ⟨.rc s', y, ?_, ?_⟩
    · simp only [Rs.process, hy]; rfl
    · rw [hs]; rfl

/-! ## T08.7 / T08.8 — `resample(x, p, q, h)`: output length, enough padding, identity -/

/-- **the padded input is long enough** (the inequality whose failure was the "Right slice index out of range"
defect): with `mdl = ⌈dl·q/p⌉` extra input samples, `process` yields at least `dl + ny` outputs — for EVERY
value `dl` of `delay()`. -/
theorem resample_room (len p q dl : ℕ) (hp : 0 < p) (hq : 0 < q) :
    dl + paddedLen len q / q * p ≤ paddedLen (paddedLen len q + (dl * q + p - 1) / p) q / q * p := by
  have ha := paddedLen_div_mul len q hq
  have hc := paddedLen_div_mul (paddedLen len q + (dl * q + p - 1) / p) q hq
  have h1 := (paddedLen_spec (paddedLen len q + (dl * q + p - 1) / p) q hq).1
  have h2 := Nat.lt_div_mul_add (a := dl * q + p - 1) hp
  generalize paddedLen (paddedLen len q + (dl * q + p - 1) / p) q / q = c at *
  generalize (dl * q + p - 1) / p = mdl at *
  generalize paddedLen len q / q = a at *
  rw [← hc, ← ha] at h1
  have h3 : q * (dl + a * p) ≤ q * (c * p) := by
    calc q * (dl + a * p) = dl * q + (a * q) * p := by ring
      _ ≤ mdl * p + (a * q) * p := by omega
      _ = (a * q + mdl) * p := by ring
      _ ≤ (c * q) * p := Nat.mul_le_mul_right p h1
      _ = q * (c * p) := by ring
  exact Nat.le_of_mul_le_mul_left h3 hq

theorem simplify_spec (p q : ℕ) (hp : 0 < p) (hq : 0 < q) :
    0 < (simplify p q).1 ∧ 0 < (simplify p q).2 ∧ Nat.Coprime (simplify p q).1 (simplify p q).2 := by
  unfold simplify
  have hg : 0 < Nat.gcd p q := Nat.gcd_pos_of_pos_left q hp
  refine ⟨Nat.div_pos (Nat.le_of_dvd hp (Nat.gcd_dvd_left p q)) hg,
    Nat.div_pos (Nat.le_of_dvd hq (Nat.gcd_dvd_right p q)) hg, Nat.coprime_div_gcd_div_gcd hg⟩

theorem sliceOf_ok (y : Array ℝ) (i n : ℕ) (hn : 0 < n) (h : i + n ≤ y.size) :
    ∃ z, sliceOf y i (i + n) = .ok z ∧ z.size = n := by
  unfold sliceOf
  rw [if_neg (by omega), if_neg (by omega), if_neg (by omega)]
  exact ⟨_, rfl, by rw [Array.size_extract]; omega⟩

theorem resample_len_reduced (x h : Array ℝ) (p q : ℕ) (hp : 0 < p) (hq : 0 < q) (hc : Nat.Coprime p q) :
    ∃ y, resample x p q h = .ok y ∧ y.size = p * ((x.size + q - 1) / q) := by
  unfold resample
  rw [simplify_coprime p q hc]
  simp only []
  by_cases hpq : p = q
  · subst hpq
    rw [if_pos rfl]
    refine ⟨x, rfl, ?_⟩
    rw [(Nat.coprime_self p).mp hc, Nat.one_mul, Nat.add_sub_cancel, Nat.div_one]
  rw [if_neg hpq]
  by_cases hx0 : x.size = 0
  · rw [if_pos hx0]
    refine ⟨x, rfl, ?_⟩
    rw [hx0, Nat.zero_add, Nat.div_eq_of_lt (by omega), Nat.mul_zero]
  rw [if_neg hx0]
  unfold resampleSizes nextSize
  rw [simplify_coprime p q hc]
  simp only []
  generalize (Rs.init p q h).delay = dl
  have hroom := resample_room x.size p q dl hp hq
  generalize (dl * q + p - 1) / p = mdl at hroom ⊢
  obtain ⟨hnx1, _, _⟩ := paddedLen_spec x.size q hq
  obtain ⟨hnn1, _, hnn3⟩ := paddedLen_spec (paddedLen x.size q + mdl) q hq
  generalize paddedLen (paddedLen x.size q + mdl) q = nn at hroom hnn1 hnn3 ⊢
  have hle : ¬ (x.size > nn) := by omega
  rw [if_neg hle]
  have hxx : (x ++ (zeros (nn - x.size) : Array ℝ)).size = nn := by
    rw [Array.size_append]; unfold zeros; rw [size_tab]; omega
  obtain ⟨s', y, hy, hs⟩ := rs_process_len p q hp hq hc hpq h (x ++ zeros (nn - x.size)) (by rw [hxx]; exact hnn3)
  rw [hy]
  simp only []
  rw [hxx] at hs
  obtain ⟨z, hz, hzs⟩ := sliceOf_ok y dl _ (Nat.mul_pos (sublen_pos x q hq (Nat.pos_of_ne_zero hx0)) hp) (hroom.trans_eq hs.symm)
  refine ⟨z, hz, ?_⟩
  rw [hzs, paddedLen_eq_ceil x.size q hq, Nat.mul_div_cancel_left _ hq, Nat.mul_comm]

/-- **T08.7 (resample_len).**  For every `p, q ≥ 1` (reduced or not), every coefficient vector and EVERY input
(every length, the empty signal included) `resample(x, p, q, h)` does not throw and returns `p'·⌈len/q'⌉`
samples, `p'/q'` the reduced ratio.  (`int` is unbounded here: see `resample_no_overflow`.) -/
theorem resample_len (x h : Array ℝ) (p q : ℕ) (hp : 0 < p) (hq : 0 < q) :
    ∃ y, resample x p q h = .ok y ∧
      y.size = (simplify p q).1 * ((x.size + (simplify p q).2 - 1) / (simplify p q).2) := by
  obtain ⟨h1, h2, h3⟩ := simplify_spec p q hp hq
  have := resample_len_reduced x h (simplify p q).1 (simplify p q).2 h1 h2 h3
  have e : resample x p q h = resample x (simplify p q).1 (simplify p q).2 h := by
    unfold resample
    rw [simplify_coprime _ _ h3]
  rw [e]; exact this

/-- **T08.8 (resample_id).**  `resample(x, p, q, h)` returns `x` itself when `p = q`. -/
theorem resample_id (x h : Array ℝ) (p : ℕ) (hp : 0 < p) : resample x p p h = .ok x := by
  unfold resample simplify
  rw [Nat.gcd_self, Nat.div_self hp]
  simp

/-! ## linear-phase coefficient vectors: the decimator's flipped filter is the filter itself, delayed by the padding -/

theorem hflip_symmetric (h : Array ℝ) (M : ℕ) (hM : 0 < M)
    (hsym : ∀ t, t < h.size → elem h t = elem h (h.size - 1 - t)) (t : ℕ) :
    hflip h M t = if paddedLen h.size M - h.size ≤ t then hhat h (t - (paddedLen h.size M - h.size)) else 0 := by
  obtain ⟨pad, hp⟩ := Nat.exists_eq_add_of_le (paddedLen_spec h.size M hM).1
  rw [hflip, hp, Nat.add_sub_cancel_left]
  by_cases ht : pad ≤ t
  · rw [if_pos ht]
    by_cases ht' : t < h.size + pad
    · rw [if_pos ht', hhat, hhat, hsym _ (by omega)]
      congr 2; omega
    · rw [if_neg ht', hhat_of_le _ _ (by omega)]
  · rw [if_neg ht, if_pos (by omega), hhat_of_le _ _ (by omega)]

/-- a filter delayed by `pad` taps = the filter, read `pad` samples earlier -/
theorem fir_delay (nh n pad : ℕ) (hnh : nh = pad + n) (g u : ℕ → ℝ) (m : ℕ) (hm : pad ≤ m) :
    fir nh (fun t => if pad ≤ t then g (t - pad) else 0) u m = fir n g u (m - pad) := by
  subst hnh
  unfold fir
  rw [Finset.sum_range_add]
  have : (∑ x ∈ range pad, if x ≤ m then (if pad ≤ x then g (x - pad) else 0) * u (m - x) else 0) = 0 := by
    apply Finset.sum_eq_zero
    intro i hi
    rw [if_neg (Nat.not_le.mpr (Finset.mem_range.mp hi)), zero_mul, ite_self]
  rw [this, zero_add]
  apply Finset.sum_congr rfl
  intro s _
  dsimp only
  rw [if_pos (Nat.le_add_right pad s), Nat.add_sub_cancel_left, Nat.sub_add_eq]
  exact if_congr (Nat.le_sub_iff_add_le' hm).symm rfl rfl

/-- **T08.3 for the property's linear-phase `h`.**  With a symmetric coefficient vector the decimator emits the
samples at the fixed phase `M-1-pad` (`pad = ` number of padding zeros `< M`) of "filter with `h` normalised to DC
gain 1, keep every `M`-th sample". -/
theorem decim_eq_linear_phase (M : ℕ) (hM : 0 < M) (h : Array ℝ) (hh : 0 < h.size) (hs : hsum h ≠ 0)
    (hsym : ∀ t, t < h.size → elem h t = elem h (h.size - 1 - t))
    (past x : Array ℝ) (hx : x.size % M = 0) :
    paddedLen h.size M - h.size < M ∧
    (decimAt M h past).process x =
      .ok (decimAt M h (past ++ x),
        tab (x.size / M) fun i =>
          fir h.size (hhat h) (elem (past ++ x)) (past.size + i * M + (M - 1 - (paddedLen h.size M - h.size)))) := by
  obtain ⟨h1, h2, _⟩ := paddedLen_spec h.size M hM
  have hle : paddedLen h.size M - h.size ≤ M - 1 := by omega
  refine ⟨by omega, ?_⟩
  rw [decim_eq M hM h hh hs past x hx]
  refine congrArg (fun y => Except.ok (decimAt M h (past ++ x), y)) (tab_congr _ _ _ fun i _ => ?_)
  rw [funext (hflip_symmetric h M hM hsym), fir_delay _ h.size _ (Nat.sub_add_cancel h1).symm (hhat h) _ _
    (le_trans hle (Nat.le_add_left _ _)), Nat.add_sub_assoc hle]

/-! ## memory safety of the three `process` loops: every read is inside the work buffer `d_ ++ in` -/

/-- interpolator: `px[i + j]`, `i = o / L < |x|`, `j < sublen`, buffer length `sublen - 1 + |x|` -/
theorem interp_in_bounds (L S nx o j : ℕ) (ho : o < nx * L) (hj : j < S) :
    o / L + j < (S - 1) + nx := by
  have : o / L < nx := Nat.div_lt_of_lt_mul (by rw [Nat.mul_comm]; exact ho)
  omega

/-- decimator: `px[k + j M]` with `px = x + i M`, buffer length `M (sublen - 1) + |x|` -/
theorem decim_in_bounds (M S nx i k j : ℕ) (hx : nx % M = 0) (hi : i < nx / M) (hk : k < M) (hj : j < S) :
    i * M + k + j * M < M * (S - 1) + nx := by
  have h1 : (i + 1) * M ≤ nx / M * M := Nat.mul_le_mul_right M hi
  have h2 : nx / M * M = nx := Nat.div_mul_cancel (Nat.dvd_of_mod_eq_zero hx)
  have h3 : j * M ≤ (S - 1) * M := Nat.mul_le_mul_right M (by omega)
  rw [Nat.add_mul] at h1
  rw [Nat.mul_comm M (S - 1)]
  omega

/-- rate converter: `x[i M + xidxs_[r] + j]`, `xidxs_[r] < M` (`phasePair_lt`), buffer length `sublen - 1 + |x|` -/
theorem rateconv_in_bounds (L M S nx o j : ℕ) (hL : 0 < L) (hM : 0 < M) (hx : nx % M = 0) (ho : o < nx / M * L) (hj : j < S) :
    o / L * M + (phasePair L M (o % L)).2 + j < (S - 1) + nx := by
  have hi : o / L < nx / M := Nat.div_lt_of_lt_mul (by rw [Nat.mul_comm]; exact ho)
  have h1 : (o / L + 1) * M ≤ nx / M * M := Nat.mul_le_mul_right M hi
  have h2 : nx / M * M = nx := Nat.div_mul_cancel (Nat.dvd_of_mod_eq_zero hx)
  have h3 := (phasePair_lt L M (o % L) hL hM (Nat.mod_lt _ hL)).2
  rw [Nat.add_mul] at h1
  omega

/-! ## delay() of the rate converter -/

/-- `FIRRateConverter::delay()` is the integer nearest to the group delay `c / M` in output samples,
`c = sublen·L/2 + 1 - M` the distance (in interpolated samples) between output 0 and the filter centre -/
theorem rateconv_delay_nearest (S L M : ℕ) (hM : 0 < M) (hc : M < S * L / 2 + 1) :
    2 * M * rateConvDelay S L M ≤ 2 * (S * L / 2 + 1 - M) + M ∧
    2 * (S * L / 2 + 1 - M) + M < 2 * M * (rateConvDelay S L M + 1) := by
  rw [rateConvDelay, if_neg (Nat.not_le.mpr hc)]
  exact ⟨Nat.mul_div_le _ _, Nat.lt_mul_div_succ _ (Nat.mul_pos Nat.two_pos hM)⟩

theorem rateconv_delay_zero (S L M : ℕ) (hc : S * L / 2 + 1 ≤ M) : rateConvDelay S L M = 0 := by
  unfold rateConvDelay; rw [if_pos hc]

/-! ## 32-bit `int`: which intermediates of `resample` exist and how large they get -/

/-- Every `int` that `resample(x, p, q, h)` computes (with `ny = nx / q * p`) is one of
`nx, ny, dl·q, dl·q + p, dl·q + p - 1, mdl, nx + mdl, nn, nn - len, dl + ny`, a length/index of the work buffer (`≤ nn + nd`), or
the length `nn/q·p` of the array `process` returns.  They are bounded by the three quantities below; so
`resample` is free of overflow iff `dl·q + p < 2^31`, `nn + nd < 2^31` and `nn/q·p < 2^31`, which holds whenever
`len + mdl + 2q + nd < 2^31` and `((len + mdl)/q + 2)·p < 2^31` (`mdl ≤ dl·q/p + 1`, `nd` = state length). -/
theorem resample_no_overflow (len p q dl nx ny mdl nn : ℕ) (hp : 0 < p) (hq : 0 < q)
    (hnx : nx = paddedLen len q) (hny : ny = nx / q * p) (hmdl : mdl = (dl * q + p - 1) / p)
    (hnn : nn = paddedLen (nx + mdl) q) :
    len ≤ nx ∧ nx + mdl ≤ nn ∧ nn < len + mdl + 2 * q ∧ dl + ny ≤ nn / q * p ∧
      nn / q * p ≤ ((len + mdl) / q + 2) * p ∧ mdl ≤ dl * q / p + 1 := by
  subst hnx hny hmdl hnn
  obtain ⟨a1, a2, _⟩ := paddedLen_spec len q hq
  obtain ⟨b1, b2, _⟩ := paddedLen_spec (paddedLen len q + (dl * q + p - 1) / p) q hq
  exact ⟨a1, b1, by omega, resample_room len p q dl hp hq,
    Nat.mul_le_mul_right p ((Nat.div_le_div_right (by omega)).trans_eq (Nat.add_mul_div_right _ 2 hq)),
    (Nat.div_le_div_right (by omega)).trans_eq (Nat.add_mul_div_right _ 1 hp)⟩

/-! ## the first call after construction ("from rest") -/

/-- T08.2 for the first call: `FIRInterpolator(L, h).process(x)` from rest -/
theorem interp_eq_from_rest (L : ℕ) (hL : 0 < L) (h : Array ℝ) (hh : 0 < h.size) (hs : hsum h ≠ 0) (x : Array ℝ) :
    ((Interp.init L h).process x).2 = tab (x.size * L) fun o => upfir L h x o := by
  rw [interp_init L hL, interp_eq L hL h hh hs #[] x]
  simp only [Array.empty_append, Array.size_empty, Nat.zero_mul, Nat.zero_add]

/-- T08.3 for the first call -/
theorem decim_eq_from_rest (M : ℕ) (hM : 0 < M) (h : Array ℝ) (hh : 0 < h.size) (hs : hsum h ≠ 0)
    (x : Array ℝ) (hx : x.size % M = 0) :
    ∃ s', (Decim.init M h).process x =
      .ok (s', tab (x.size / M) fun i => fir (paddedLen h.size M) (hflip h M) (elem x) (i * M + (M - 1))) := by
  rw [decim_init M hM, decim_eq M hM h hh hs #[] x hx]
  refine ⟨decimAt M h (#[] ++ x), ?_⟩
  simp only [Array.empty_append, Array.size_empty, Nat.zero_add]

/-- **T08.5 for the first call**: `FIRRateConverter(L, M, h).process(x)` from rest is
`y[o] = L·(ĥ ⋆ up_L x)((o+1)M - 1)` -/
theorem rateconv_eq_from_rest (L M : ℕ) (hL : 0 < L) (hM : 0 < M) (h : Array ℝ) (hh : 0 < h.size) (hs : hsum h ≠ 0)
    (x : Array ℝ) (hx : x.size % M = 0) :
    ∃ s', (RateConv.init L M h).process x =
      .ok (s', tab (x.size / M * L) fun o => upfir L h x ((o + 1) * M - 1)) := by
  rw [rateconv_init L M hL, rateconv_eq L M hL hM h hh hs #[] x (by simp) hx]
  refine ⟨rateAt L M h (#[] ++ x), ?_⟩
  simp only [Array.empty_append, Array.size_empty, Nat.zero_div, Nat.zero_mul, Nat.zero_add]

/-! ## FIRResampler -/

/-- **FIRResampler(p, q, h)** (reduced ratio `p ≠ q`, first call from rest; later calls: the three `*_eq` theorems
through `rs_init_cases`): a frame that is a multiple of `q` gives exactly the samples at a fixed phase of the textbook
chain — for `p = 1` the decimator's (flipped padded filter, phase `q-1`), otherwise sample `(o+1)q - 1` of
"insert `p-1` zeros, filter with `h` normalised to DC gain `p`" (for `q = 1` this is phase 0 with no decimation). -/
theorem resampler_eq_from_rest (p q : ℕ) (hp : 0 < p) (hq : 0 < q) (hc : Nat.Coprime p q) (hne : p ≠ q)
    (h : Array ℝ) (hh : 0 < h.size) (hs : hsum h ≠ 0) (x : Array ℝ) (hx : x.size % q = 0) :
    ∃ s', (Rs.init p q h).process x =
      .ok (s', if p = 1 then tab (x.size / q) fun i => fir (paddedLen h.size q) (hflip h q) (elem x) (i * q + (q - 1))
               else tab (x.size / q * p) fun o => upfir p h x ((o + 1) * q - 1)) := by
  rcases rs_init_cases p q hp hq hc hne h with ⟨h1, _, e⟩ | ⟨h1, h2, e⟩ | ⟨h1, _, e⟩
  · obtain ⟨s', hs'⟩ := decim_eq_from_rest q hq h hh hs x hx
    refine ⟨.dec s', ?_⟩
    rw [e, if_pos h1]
    simp only [Rs.process, hs']
    rfl
  · refine ⟨.int ((Interp.init p h).process x).1, ?_⟩
    rw [e, if_neg (by omega)]
    simp only [Rs.process]
    rw [interp_eq_from_rest p hp h hh hs x]
    subst h1
    simp
  · obtain ⟨s', hs'⟩ := rateconv_eq_from_rest p q hp hq h hh hs x hx
    refine ⟨.rc s', ?_⟩
    rw [e, if_neg (by omega)]
    simp only [Rs.process, hs']
    rfl

/-! ## non-vacuity: the hypotheses hold at concrete non-trivial points, and the chain is not trivially zero -/

theorem hsum_121 : hsum #[1, 2, 1] = 4 := by
  show ∑ i ∈ range 3, elem #[(1 : ℝ), 2, 1] i = 4
  rw [Finset.sum_range_succ, Finset.sum_range_succ, Finset.sum_range_one]
  show (1 : ℝ) + 2 + 1 = 4
  norm_num

theorem hhat_121 : hhat #[1, 2, 1] 0 = 1 / 4 ∧ hhat #[1, 2, 1] 1 = 1 / 2 ∧ hhat #[1, 2, 1] 2 = 1 / 4 := by
  simp only [hhat, hsum_121]
  refine ⟨?_, ?_, ?_⟩
  · show (1 : ℝ) / 4 = _; rfl
  · show (2 : ℝ) / 4 = _; norm_num
  · show (1 : ℝ) / 4 = _; rfl

example : hsum #[1, 2, 1] ≠ 0 := by
  rw [hsum_121]; norm_num

/-- `L = 2`, `h = [1,2,1]` (DC gain 4, normalised to 2), impulse in: the chain's first samples are `½, 1, ½, 0` -/
example : upfir 2 #[1, 2, 1] #[1, 0] 0 = 1 / 2 ∧ upfir 2 #[1, 2, 1] #[1, 0] 1 = 1 ∧
    upfir 2 #[1, 2, 1] #[1, 0] 2 = 1 / 2 ∧ upfir 2 #[1, 2, 1] #[1, 0] 3 = 0 := by
  have hx : elem #[(1 : ℝ), 0] 0 = 1 ∧ elem #[(1 : ℝ), 0] 1 = 0 := ⟨rfl, rfl⟩
  have hp : paddedLen (#[(1 : ℝ), 2, 1]).size 2 / 2 = 2 := by decide
  have h3 : hhat #[(1 : ℝ), 2, 1] 3 = 0 := hhat_of_le _ 3 (by decide)
  simp only [upfir_polyphase 2 (by decide), hp, fir, Finset.sum_range_succ, Finset.sum_range_zero]
  norm_num [hx, hhat_121, h3]

/-- the rate converter 2/3 on a frame of 3 samples is accepted and returns 2 samples … -/
example : ∃ s', (RateConv.init 2 3 #[(1 : ℝ), 2, 1]).process #[1, 0, 0] =
    .ok (s', tab 2 fun o => upfir 2 #[1, 2, 1] #[1, 0, 0] ((o + 1) * 3 - 1)) :=
  rateconv_eq_from_rest 2 3 (by norm_num) (by norm_num) #[1, 2, 1] (by decide) (by rw [hsum_121]; norm_num) #[1, 0, 0] rfl

/-- … a frame of 4 samples is rejected -/
example : ∃ e, (RateConv.init 2 3 #[(1 : ℝ), 2, 1]).process #[1, 0, 0, 0] = .error e :=
  rateconv_reject _ _ (by simp [RateConv.init])

example : paddedLen 7 3 = 9 ∧ paddedLen 9 3 = 9 ∧ simplify 441 160 = (441, 160) ∧ simplify 48000 44100 = (160, 147) := by
  decide

/-- the defect's ratio 5/2 with a delay of 7 outputs: 3 extra input samples (rounded up), 12 + 4 = 16 inputs,
40 outputs ≥ 7 + 30 -/
example : resampleSizes 11 5 2 7 = (12, 30, 3, 16) := by decide

end Dsp.C08
