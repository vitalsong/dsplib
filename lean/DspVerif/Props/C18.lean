import DspVerif.Model.Detect
import DspVerif.Props.C17
import DspVerif.Props.C07
/-!
# C18 — delay estimators and the preamble detector recover the true offset

Theorems about `Model/Detect.lean` (`peakloc`, `finddelay`, `gccphat`, `PreambleDetector`; tied to `lib/utils.cpp`,
`lib/gccphat.cpp`, `lib/detector.cpp` by the correspondence run of `harness/c18.cpp`) and about `MathFns.delayseq`
(`Model/MathFns.lean`, shared with C17).

All statements are EXACT (`ℝ`) or structural (every element / scalar type); rounding is not modelled.

* **T18.1** `delayseq` shifts by exactly `d` samples with zero fill (`|d| ≥ N` ⇒ zeros) — for every element type.
  The index theorem is `C17.delayseq_getElem`; it is restated here as the clause of this property.
* **T18.2** `peakloc` (real overload) returns the vertex of the parabola through the three samples around `idx`
  (cyclic neighbours); hypothesis `a ≠ 0` (three collinear samples have no vertex: the code divides by `2a`; the excluded point
  is an input class of the harness).  The COMPLEX overload is a different three-point interpolator: on real-valued data its
  offset from `idx` is `-2×` the vertex offset (`peaklocC_real_data`) — the parabola clause is about the real overload.
* **T18.3** lag unwrapping: if the correlation array `ifft(fft(x1)·conj(fft(x2)))` has its strict maximum (by `|·|²`, what
  `argmax(arr_cmplx)` compares) at index `(-d) mod nfft` and `-nfft ≤ 2d < nfft`, `finddelay` returns `d` — for EVERY
  transform pair (the transforms are parameters).  For `gccphat` the clause is proved of its lag-to-`tau` step `gccTau` on an
  ARBITRARY array `R` of length `M` (`gccTau_spec`; that `R` is the PHAT correlation is not used): strict maximum at `d mod M`,
  `2|d|+1 < M`, interpolation offset at most half a sample ⇒ `tau·fs = d + offset`.  `finddelay_of_circ_xcorr` restates the
  first on the circular cross-correlation sum itself, for every pair satisfying the correlation theorem (`CircXc`, an explicit
  hypothesis; `circ_xcorr_dft` shows it is the identity the exact DFT pair satisfies; fft = DFT is C01/C02).  That a white signal of ≥ 128
  samples puts the maximum there (and that the offset is small) is a statistical hypothesis: measured by the ORACLE.
* **T18.4** detector structure, for every state whose delay line holds the end of the stream (`DInv`) and every call of a
  multiple of `frame_len()` samples on which the correlation filter emits as many samples as it got (hypothesis `hsz`; true from
  rest by `callCorr_from_rest`): `process` reports the FIRST index of the call whose normalised
  correlation `abs2(cx)/(pwx + eps)` exceeds `threshold²`, the returned samples are the last `nh` samples of the stream up to and
  including that index, in order (`CDelay`), the score is the square root of that correlation value; nothing is reported iff no
  index exceeds.  Hence, UNDER THE HYPOTHESIS that the normalised correlation exceeds the threshold only at alignment:
  offset = index of the preamble's last sample, preamble = the aligned samples (`detector_reports_alignment`).
  From rest, `cx` is C07's `FirFilter` with the flipped normalised preamble and `pwx` C07's moving average (`callCorr_from_rest`,
  for every transform pair satisfying the circular convolution theorem).
-/
open Finset Dsp Dsp.Detect Dsp.MathFns Dsp.Fir

namespace Dsp.C18

/-! ## T18.1 `delayseq` -/
section delayseq
variable {β : Type}

/-- **T18.1** (`C17.delayseq_size` / `C17.delayseq_getElem`, restated as the clause of this property) -/
theorem delayseq_exact (zero : β) (x : Array β) (d : Int) :
    (delayseq zero x d).size = x.size ∧
    ∀ (i : Nat) (hi : i < (delayseq zero x d).size), (delayseq zero x d)[i] =
      if h : 0 ≤ (i : Int) - d ∧ (i : Int) - d < x.size then x[((i : Int) - d).toNat]'(by omega) else zero :=
  ⟨C17.delayseq_size zero x d, C17.delayseq_getElem zero x d⟩

theorem delayseq_zero_shift (zero : β) (x : Array β) : delayseq zero x 0 = x := if_pos rfl

theorem delayseq_all_zero (zero : β) (x : Array β) (d : Int) (hd : x.size ≤ d.natAbs) (h0 : d ≠ 0) :
    delayseq zero x d = Array.replicate x.size zero := by
  rw [delayseq, if_neg h0, if_pos hd]

end delayseq

/-! ## T18.2 `peakloc` -/

theorem peak_arith (yl yk yr i : ℝ) (h : yl - 2 * yk + yr ≠ 0) :
    i + -(yk - ((yr - yk) + (yl - yk)) / 2 - yl) / (2 * (((yr - yk) + (yl - yk)) / 2)) - 1 =
      i + (yl - yr) / (2 * (yl - 2 * yk + yr)) := by
  have h3 : (yr - yk) + (yl - yk) = yl - 2 * yk + yr := by ring
  rw [h3, mul_div_cancel₀ _ (two_ne_zero' ℝ), add_sub_assoc, add_right_inj, div_sub_one h, div_eq_div_iff h (mul_ne_zero two_ne_zero h)]
  ring

theorem edge_false (cyclic : Bool) (idx n : ℕ) (hc : cyclic = true ∨ (idx ≠ 0 ∧ idx + 1 ≠ n)) :
    (!cyclic && (idx == 0 || idx + 1 == n)) = false := by
  rcases hc with h | ⟨h1, h2⟩
  · rw [h]; rfl
  · rw [beq_false_of_ne h1, beq_false_of_ne h2, Bool.or_false, Bool.and_false]

theorem peaklocR_formula (x : Array ℝ) (idx : ℕ) (cyclic : Bool) (hc : cyclic = true ∨ (idx ≠ 0 ∧ idx + 1 ≠ x.size))
    (hcurv : x.getD ((idx + x.size - 1) % x.size) 0 - 2 * x.getD idx 0 + x.getD ((idx + 1) % x.size) 0 ≠ 0) :
    peaklocR x idx cyclic = idx +
      (x.getD ((idx + x.size - 1) % x.size) 0 - x.getD ((idx + 1) % x.size) 0) /
        (2 * (x.getD ((idx + x.size - 1) % x.size) 0 - 2 * x.getD idx 0 + x.getD ((idx + 1) % x.size) 0)) := by
  unfold peaklocR
  simp only [edge_false cyclic idx x.size hc, Bool.false_eq_true, if_false, fn_ofNat, Nat.cast_ofNat, Nat.cast_one, Nat.cast_zero]
  exact peak_arith _ _ _ (idx : ℝ) hcurv

theorem peakloc_vertex (x : Array ℝ) (idx : ℕ) (cyclic : Bool) (hc : cyclic = true ∨ (idx ≠ 0 ∧ idx + 1 ≠ x.size))
    (a b c : ℝ) (ha : a ≠ 0)
    (hl : a * ((idx : ℝ) - 1) ^ 2 + b * ((idx : ℝ) - 1) + c = x.getD ((idx + x.size - 1) % x.size) 0)
    (hk : a * (idx : ℝ) ^ 2 + b * (idx : ℝ) + c = x.getD idx 0)
    (hr : a * ((idx : ℝ) + 1) ^ 2 + b * ((idx : ℝ) + 1) + c = x.getD ((idx + 1) % x.size) 0) :
    peaklocR x idx cyclic = -b / (2 * a) := by
  have hcurv : x.getD ((idx + x.size - 1) % x.size) 0 - 2 * x.getD idx 0 + x.getD ((idx + 1) % x.size) 0 = 2 * a := by
    rw [← hl, ← hk, ← hr]; ring
  have h2a : 2 * a ≠ 0 := mul_ne_zero two_ne_zero ha
  have hd : x.getD ((idx + x.size - 1) % x.size) 0 - x.getD ((idx + 1) % x.size) 0 = 2 * (2 * a) * (-(idx : ℝ)) + 2 * (-b) := by
    rw [← hl, ← hr]; ring
  rw [peaklocR_formula x idx cyclic hc (by rw [hcurv]; exact h2a), hcurv, hd, add_div,
    mul_div_cancel_left₀ _ (mul_ne_zero two_ne_zero h2a), mul_div_mul_left _ _ two_ne_zero, add_neg_cancel_left]

theorem peakloc_noncyclic_edge (x : Array ℝ) (idx : ℕ) (h : idx = 0 ∨ idx + 1 = x.size) :
    peaklocR x idx false = idx := by
  unfold peaklocR
  rcases h with h | h <;> simp [h]

theorem parabola_vertex_form (a b c t : ℝ) (ha : a ≠ 0) :
    a * t ^ 2 + b * t + c = a * (t - (-b / (2 * a))) ^ 2 + (c - b ^ 2 / (4 * a)) := by
  field_simp
  ring

/-- on REAL-valued data the complex overload is not the parabola vertex: its offset from `idx` is `-2` times the vertex's -/
theorem peaklocC_real_data (x : Array ℝ) (idx : ℕ) (cyclic : Bool) (hc : cyclic = true ∨ (idx ≠ 0 ∧ idx + 1 ≠ x.size))
    (hcurv : x.getD ((idx + x.size - 1) % x.size) 0 - 2 * x.getD idx 0 + x.getD ((idx + 1) % x.size) 0 ≠ 0) :
    peaklocC (x.map fun v => (⟨v, 0⟩ : Cx ℝ)) idx cyclic - idx = -2 * (peaklocR x idx cyclic - idx) := by
  have hg : ∀ i, (x.map fun v => (⟨v, 0⟩ : Cx ℝ)).getD i czero = ⟨x.getD i 0, 0⟩ := fun i =>
    getD_map' (fun v => (⟨v, 0⟩ : Cx ℝ)) x i 0 czero (by simp [czero])
  rw [peaklocR_formula x idx cyclic hc hcurv, peaklocC]
  simp only [Array.size_map, edge_false cyclic idx x.size hc, Bool.false_eq_true, if_false, hg, fn_ofNat]
  generalize x.getD ((idx + x.size - 1) % x.size) 0 = yl at *
  generalize x.getD idx 0 = yk at *
  generalize x.getD ((idx + 1) % x.size) 0 = yr at *
  have hD : yk * 2 - yl - yr ≠ 0 := fun e => hcurv (by linarith)
  have hre : ∀ (p q : Cx ℝ), (p / q).re = (p.re * q.re + p.im * q.im) / (q.re * q.re + q.im * q.im) := fun _ _ => rfl
  rw [hre]
  simp only [Cx.sub_re, Cx.sub_im, Cx.rmul, Cx.mulr, sub_self, mul_zero, zero_mul, add_zero]
  push_cast
  rw [show yl - 2 * yk + yr = -(yk * 2 - yl - yr) by ring]
  generalize yk * 2 - yl - yr = D at *
  field_simp
  ring

/-! ## T18.3 lag unwrapping of `finddelay` and `gccphat` -/

/-- a strict unique maximum (by key) at position `m` is what `std::max_element` returns -/
theorem argmax_unique {δ γ : Type} [LinearOrder γ] (key : δ → γ) (l : List δ) (m : ℕ) (hm : m < l.length)
    (hmax : ∀ j (hj : j < l.length), j ≠ m → key l[j] < key l[m]) :
    argmax (C17.ltK key) l = m := by
  obtain ⟨mv, h1, h2, _⟩ := C17.argmax_spec key l (List.ne_nil_of_length_pos (Nat.zero_lt_of_lt hm))
  have hlt := C17.getElem?_lt h1
  rw [List.getElem?_eq_getElem hlt, Option.some.injEq] at h1
  by_contra hne
  exact absurd (lt_of_lt_of_le (hmax _ hlt hne) (h1 ▸ h2 _ (List.getElem_mem hm))) (lt_irrefl _)

theorem argmax_abs2_unique (R : Array (Cx ℝ)) (m : ℕ) (hm : m < R.size)
    (hpeak : ∀ j, j < R.size → j ≠ m → Cx.abs2 (R.getD j czero) < Cx.abs2 (R.getD m czero)) :
    argmax clt R.toList = m := by
  rw [C17.clt_eq]
  refine argmax_unique _ _ m (by simpa using hm) ?_
  intro j hj hne
  have hj' : j < R.size := by simpa using hj
  have := hpeak j hj' hne
  simpa [Array.getD_eq_getD_getElem?, hj', hm] using this

theorem unwrapLag_spec (nfft : ℕ) (d : ℤ) (h1 : -(nfft : ℤ) ≤ 2 * d) (h2 : 2 * d < nfft)
    (k : ℕ) (hk : (k : ℤ) = (-d) % (nfft : ℤ)) : unwrapLag nfft k = d := by
  show -(if k > nfft / 2 then -((nfft : ℤ) - k) else (k : ℤ)) = d
  rcases le_or_gt d 0 with hd | hd
  · rw [Int.emod_eq_of_lt (by omega) (by omega)] at hk
    rw [if_neg (by omega)]; omega
  · rw [← Int.add_emod_right, Int.emod_eq_of_lt (by omega) (by omega)] at hk
    rw [if_pos (by omega)]; omega

theorem finddelay_unwrap {γ : Type} (zero : γ) (fft : Array γ → Array (Cx ℝ)) (ifft : Array (Cx ℝ) → Array (Cx ℝ))
    (x1 x2 : Array γ) (d : ℤ) (m : ℕ)
    (hm : m < (fdCorr zero fft ifft x1 x2).size)
    (hpeak : ∀ j, j < (fdCorr zero fft ifft x1 x2).size → j ≠ m →
      Cx.abs2 ((fdCorr zero fft ifft x1 x2).getD j czero) < Cx.abs2 ((fdCorr zero fft ifft x1 x2).getD m czero))
    (hlag : (m : ℤ) = (-d) % (fdLen x1.size x2.size : ℤ))
    (hd1 : -(fdLen x1.size x2.size : ℤ) ≤ 2 * d) (hd2 : 2 * d < fdLen x1.size x2.size) :
    finddelay zero fft ifft x1 x2 = d := by
  rw [finddelay, argmax_abs2_unique _ m hm hpeak]
  exact unwrapLag_spec _ d hd1 hd2 m hlag

/-- what `finddelay` needs from the transform pair at length `N`: the circular cross-correlation theorem
`ifft(fft a · conj(fft b))[t] = Σ_n a[(n+t) mod N]·conj(b[n])` (`emb` embeds the sample type: `id` for `cmplx_t`, `v ↦ v + 0i` for `real_t`) -/
def CircXc {γ : Type} (zero : γ) (emb : γ → Cx ℝ) (fft : Array γ → Array (Cx ℝ)) (ifft : Array (Cx ℝ) → Array (Cx ℝ)) (N : ℕ) : Prop :=
  ∀ a b : Array γ, a.size = N → b.size = N →
    (ifft (mulv czero (fft a) ((fft b).map Cx.conj))).size = N ∧
    ∀ t, t < N → (ifft (mulv czero (fft a) ((fft b).map Cx.conj))).getD t czero =
      ∑ n ∈ range N, emb (a.getD ((n + t) % N) zero) * Cx.conj (emb (b.getD n zero))

theorem zeropad_size {γ : Type} (zero : γ) (x : Array γ) (N : ℕ) (h : x.size ≤ N) : (Fir.zeropad zero x N).size = N := by
  simp [Fir.zeropad]; omega

/-- **T18.3 (stated on the circular cross-correlation itself).**  For every transform pair satisfying the circular
cross-correlation theorem at `nfft`: if `c(t) = Σ_n s1[(n+t) mod nfft]·conj(s2[n])` (`s1`, `s2` the zero-padded operands) has its strict
`|·|²`-maximum at the lag `t = (-d) mod nfft` of a shift `d` with `-nfft ≤ 2d < nfft`, then `finddelay(x1, x2) = d`. -/
theorem finddelay_of_circ_xcorr {γ : Type} (zero : γ) (emb : γ → Cx ℝ) (fft : Array γ → Array (Cx ℝ)) (ifft : Array (Cx ℝ) → Array (Cx ℝ))
    (x1 x2 : Array γ) (H : CircXc zero emb fft ifft (fdLen x1.size x2.size)) (d : ℤ) (m : ℕ) (hm : m < fdLen x1.size x2.size)
    (hpeak : ∀ j, j < fdLen x1.size x2.size → j ≠ m →
      Cx.abs2 (∑ n ∈ range (fdLen x1.size x2.size),
          emb ((Fir.zeropad zero x1 (fdLen x1.size x2.size)).getD ((n + j) % fdLen x1.size x2.size) zero) *
            Cx.conj (emb ((Fir.zeropad zero x2 (fdLen x1.size x2.size)).getD n zero))) <
      Cx.abs2 (∑ n ∈ range (fdLen x1.size x2.size),
          emb ((Fir.zeropad zero x1 (fdLen x1.size x2.size)).getD ((n + m) % fdLen x1.size x2.size) zero) *
            Cx.conj (emb ((Fir.zeropad zero x2 (fdLen x1.size x2.size)).getD n zero))))
    (hlag : (m : ℤ) = (-d) % (fdLen x1.size x2.size : ℤ))
    (hd1 : -(fdLen x1.size x2.size : ℤ) ≤ 2 * d) (hd2 : 2 * d < fdLen x1.size x2.size) :
    finddelay zero fft ifft x1 x2 = d := by
  have hN : max x1.size x2.size ≤ fdLen x1.size x2.size := C07.le_two_pow_nextpow2 _
  obtain ⟨hs, hv⟩ := H (Fir.zeropad zero x1 _) (Fir.zeropad zero x2 _)
    (zeropad_size zero x1 _ (le_trans (le_max_left _ _) hN)) (zeropad_size zero x2 _ (le_trans (le_max_right _ _) hN))
  -- `fdCorr` is that `ifft (mulv …)` by `rfl`
  refine finddelay_unwrap zero fft ifft x1 x2 d m (hs.symm ▸ hm) (fun j hj hne => ?_) hlag hd1 hd2
  have := hpeak j (hs ▸ hj) hne
  rwa [← hv j (hs ▸ hj), ← hv m hm] at this

/-- the identity `CircXc` asks of the transform pair IS the correlation theorem of the exact DFT pair
(`dft`, `idft` of `Lib/Dft.lean` / `Lib/C07Dft.lean`): `idft(dft a · conj(dft b))[t] = Σ_n a[(n+t) mod N]·conj(b[n])` -/
theorem circ_xcorr_dft (N : ℕ) (hN : 0 < N) (a b : ℕ → ℂ) (t : ℕ) (ht : t < N) :
    C07.idft N (fun k => dft N a k * (starRingEnd ℂ) (dft N b k)) t =
      ∑ n ∈ range N, a ((n + t) % N) * (starRingEnd ℂ) (b n) := by
  have h := C07.circ_corr_dft N hN b a t ht
  have h2 := congrArg (starRingEnd ℂ) h
  rw [Complex.conj_conj, map_sum] at h2
  rw [C07.idft_congr N _ (fun k => (starRingEnd ℂ) (dft N b k) * dft N a k) (fun k _ => mul_comm _ _) t, h2]
  apply Finset.sum_congr rfl
  intro n _
  rw [map_mul, Complex.conj_conj, mul_comm]

/-- where the lag index `m = d mod M` of a shift with `2|d| + 1 < M` lies: `d` itself in the lower half, `d + M` in the upper -/
theorem lag_half (M m : ℕ) (d : ℤ) (hlag : (m : ℤ) = d % (M : ℤ)) (hd : 2 * |d| + 1 < (M : ℤ)) :
    ((m : ℤ) = d ∧ m + 1 ≤ M / 2) ∨ ((m : ℤ) = d + M ∧ M / 2 + 1 ≤ m) := by
  rcases le_or_gt 0 d with h0 | h0
  · rw [abs_of_nonneg h0] at hd
    rw [Int.emod_eq_of_lt h0 (by omega)] at hlag
    exact .inl ⟨hlag, by omega⟩
  · rw [abs_of_neg h0] at hd
    rw [← Int.add_emod_right, Int.emod_eq_of_lt (by omega) (by omega)] at hlag
    exact .inr ⟨hlag, by omega⟩

theorem gccTau_spec (R : Array (Cx ℝ)) (fs : ℤ) (hfs : fs ≠ 0) (d : ℤ) (m : ℕ) (hm : m < R.size)
    (hpeak : ∀ j, j < R.size → j ≠ m → Cx.abs2 (R.getD j czero) < Cx.abs2 (R.getD m czero))
    (hlag : (m : ℤ) = d % (R.size : ℤ)) (hd : 2 * |d| + 1 < (R.size : ℤ))
    (δ : ℝ) (hδ : peaklocC R m true = m + δ) (hδ' : |δ| ≤ 1 / 2) :
    gccTau R fs * (fs : ℝ) = d + δ := by
  obtain ⟨hδ1, hδ2⟩ := abs_le.mp hδ'
  have hts : ∀ p : ℝ, p * (((1 : ℕ) : ℝ) / fs) * fs = p := fun p => by
    rw [Nat.cast_one, mul_assoc, one_div_mul_cancel (Int.cast_ne_zero.mpr hfs), mul_one]
  unfold gccTau
  simp only [argmax_abs2_unique R m hm hpeak, hδ, fn_ofNat, fn_ofInt]
  -- a peak in the lower half is returned as it is, from one in the upper half `M` is subtracted
  rcases lag_half R.size m d hlag hd with ⟨hmd, hlt⟩ | ⟨hmd, hge⟩
  · have hlt' : (m : ℝ) + 1 ≤ ((R.size / 2 : ℕ) : ℝ) := by exact_mod_cast hlt
    rw [if_pos (by linarith only [hlt', hδ2]), hts, ← hmd, Int.cast_natCast]
  · have hge' : ((R.size / 2 : ℕ) : ℝ) + 1 ≤ (m : ℝ) := by exact_mod_cast hge
    rw [if_neg (not_lt.mpr (by linarith only [hge', hδ1])), hts, ← sub_eq_iff_eq_add.mpr hmd]
    push_cast
    ring

/-! ## T18.4 detector structure -/
section cdelay
variable {γ : Type}

/-- the sample `back` positions before the end of the stream `S` (`zero` before its start) -/
def hist (zero : γ) (S : List γ) (back : ℕ) : γ := if back < S.length then S.getD (S.length - 1 - back) zero else zero

theorem hist_nil (zero : γ) (b : ℕ) : hist zero [] b = zero := by simp [hist]

theorem hist_snoc_zero (zero : γ) (S : List γ) (v : γ) : hist zero (S ++ [v]) 0 = v := by
  rw [hist, if_pos (by rw [List.length_append]; exact Nat.succ_pos _), List.length_append, List.length_singleton,
    Nat.add_sub_cancel, Nat.sub_zero, List.getD_eq_getElem?_getD, List.getElem?_concat_length, Option.getD_some]

theorem hist_snoc_succ (zero : γ) (S : List γ) (v : γ) (b : ℕ) : hist zero (S ++ [v]) (b + 1) = hist zero S b := by
  unfold hist
  rw [List.length_append, List.length_singleton, Nat.add_sub_cancel, Nat.sub_add_eq, Nat.sub_right_comm]
  by_cases h : b < S.length
  · rw [if_pos (Nat.succ_lt_succ h), if_pos h, List.getD_eq_getElem?_getD, List.getD_eq_getElem?_getD,
      List.getElem?_append_left (by omega)]
  · rw [if_neg (fun h' => h (Nat.lt_of_succ_lt_succ h')), if_neg h]

theorem add_mod_ne {i k n : ℕ} (hi : i < n) (hk0 : 0 < k) (hk : k < n) : (i + k) % n ≠ i := by
  by_cases h : i + k < n
  · rw [Nat.mod_eq_of_lt h]; omega
  · rw [Nat.mod_eq_sub_mod (Nat.le_of_not_lt h), Nat.mod_eq_of_lt (by omega)]; omega

/-- `_buf`/`_idx` hold the last `nh` samples of the pushed stream `S`, oldest at `_idx` -/
def DInv (zero : γ) (d : CDelay γ) (nh : ℕ) (S : List γ) : Prop :=
  d.buf.size = nh ∧ d.idx < nh ∧ ∀ j, j < nh → d.buf.getD ((d.idx + j) % nh) zero = hist zero S (nh - 1 - j)

theorem dinv_init (zero : γ) (nh : ℕ) (hn : 0 < nh) : DInv zero (CDelay.init zero nh) nh [] :=
  ⟨Array.size_replicate, hn, fun j _ => (getD_replicate _ _ _).trans (hist_nil zero _).symm⟩

theorem dinv_push (zero : γ) (d : CDelay γ) (nh : ℕ) (S : List γ) (v : γ) (h : DInv zero d nh S) :
    DInv zero (d.push v) nh (S ++ [v]) := by
  obtain ⟨hs, hi, hb⟩ := h
  have hidx : (d.push v).idx = (d.idx + 1) % nh := by
    show (if d.idx + 1 = d.buf.size then 0 else d.idx + 1) = _
    rw [hs]
    by_cases h1 : d.idx + 1 = nh
    · rw [if_pos h1, h1, Nat.mod_self]
    · rw [if_neg h1, Nat.mod_eq_of_lt (Nat.lt_of_le_of_ne hi h1)]
  refine ⟨(Array.size_setIfInBounds ..).trans hs, by rw [hidx]; exact Nat.mod_lt _ (Nat.zero_lt_of_lt hi), fun j hj => ?_⟩
  show (d.buf.setIfInBounds d.idx v).getD (((d.push v).idx + j) % nh) zero = _
  rw [getD_setIfInBounds_lt d.buf d.idx _ v zero (hs ▸ hi), hidx, Nat.mod_add_mod, Nat.add_assoc, Nat.add_comm 1 j]
  by_cases hlast : j + 1 = nh
  · -- the newest sample went into the slot the oldest one had
    rw [hlast, Nat.add_mod_right, Nat.mod_eq_of_lt hi, if_pos rfl, ← hlast, Nat.add_sub_cancel, Nat.sub_self, hist_snoc_zero]
  · have hj1 : j + 1 < nh := Nat.lt_of_le_of_ne hj hlast
    rw [if_neg (add_mod_ne hi (Nat.succ_pos j) hj1), hb (j + 1) hj1, ← hist_snoc_succ zero S v]
    congr 1
    omega

theorem dinv_foldl (zero : γ) (nh : ℕ) (L : List γ) (d : CDelay γ) (S : List γ) (h : DInv zero d nh S) :
    DInv zero (L.foldl CDelay.push d) nh (S ++ L) := by
  induction L generalizing d S with
  | nil => simpa using h
  | cons v L ih =>
    have := ih (d.push v) (S ++ [v]) (dinv_push zero d nh S v h)
    simpa [List.append_assoc] using this

/-- **T18.4 (`CDelay::extract`).** the last `nh` pushed samples, oldest first -/
theorem extract_spec (zero : γ) (d : CDelay γ) (nh : ℕ) (S : List γ) (h : DInv zero d nh S) :
    (d.extract zero).size = nh ∧ ∀ j, j < nh → (d.extract zero).getD j zero = hist zero S (nh - 1 - j) := by
  obtain ⟨hs, _, hb⟩ := h
  refine ⟨Array.size_ofFn.trans hs, fun j hj => ?_⟩
  rw [CDelay.extract, getD_ofFn, dif_pos (hs ▸ hj)]
  simp only [hs]
  exact hb j hj

end cdelay

section scan
variable {α : Type} [Sub α] [LT α] [LE α] [Fn α]
  [DecidableRel (· < · : α → α → Prop)] [DecidableRel (· ≤ · : α → α → Prop)]

/-- the test of the sample loop: `corr[i] > _threshold && _is_valid(corr[i])` -/
def hit (thr2 c : α) : Bool := decide (thr2 < c) && isValid c

/-- **T18.4 (sample loop).** For every scalar type: the loop reports the FIRST position whose value passes the test
(offset counted from `i0`), having pushed exactly the samples up to and including it; or reports nothing, having pushed all. -/
theorem scan_spec (thr2 : α) (L : List (Cx α × α)) (i0 : ℕ) (d : CDelay (Cx α)) :
    (∃ k, ∃ hk : k < L.length, hit thr2 L[k].2 = true ∧ (∀ j (hj : j < k), hit thr2 (L[j]'(by omega)).2 = false) ∧
      scan thr2 L i0 d = (((L.take (k + 1)).map Prod.fst).foldl CDelay.push d, some (i0 + k, L[k].2))) ∨
    ((∀ j (hj : j < L.length), hit thr2 L[j].2 = false) ∧ scan thr2 L i0 d = ((L.map Prod.fst).foldl CDelay.push d, none)) := by
  induction L generalizing i0 d with
  | nil => exact .inr ⟨fun j hj => absurd hj (Nat.not_lt_zero j), rfl⟩
  | cons p L ih =>
    obtain ⟨v, c⟩ := p
    have hs : scan thr2 ((v, c) :: L) i0 d = if hit thr2 c = true then (d.push v, some (i0, c)) else scan thr2 L (i0 + 1) (d.push v) := rfl
    by_cases hh : hit thr2 c = true
    · exact .inl ⟨0, Nat.succ_pos _, hh, fun j hj => absurd hj (Nat.not_lt_zero j), by rw [hs, if_pos hh]; rfl⟩
    · rw [hs, if_neg hh]
      rcases ih (i0 + 1) (d.push v) with ⟨k, hk, h1, h2, h3⟩ | ⟨h1, h3⟩
      · refine .inl ⟨k + 1, Nat.succ_lt_succ hk, h1, fun j hj => ?_, by rw [h3, Nat.add_assoc, Nat.add_comm 1 k]; rfl⟩
        cases j with
        | zero => exact Bool.eq_false_iff.mpr hh
        | succ j => exact h2 j (Nat.lt_of_succ_lt_succ hj)
      · refine .inr ⟨fun j hj => ?_, h3⟩
        cases j with
        | zero => exact Bool.eq_false_iff.mpr hh
        | succ j => exact h1 j (Nat.lt_of_succ_lt_succ hj)
end scan

theorem isValid_real (c : ℝ) : isValid c = true := by simp [isValid]

theorem hit_real (thr2 c : ℝ) : hit thr2 c = decide (thr2 < c) := by simp [hit, isValid_real]

/-- the normalised correlation of one call: `abs2(cx) / (pwx + eps())` with `cx` the output of the correlation `FftFilter`
and `pwx` the output of the power `MAFilter` on this call's samples -/
noncomputable def callCorr (fftc ifft : Array (Cx ℝ) → Array (Cx ℝ)) (s : DetState ℝ) (sig : Array (Cx ℝ)) : Array ℝ :=
  normCorr (fftProcessC fftc ifft s.corr sig).2 (maProcessR s.pow (sig.map Cx.abs2)).2

theorem detProcess_of_scan (fftc ifft : Array (Cx ℝ) → Array (Cx ℝ)) (s : DetState ℝ) (sig : Array (Cx ℝ)) (hfl : sig.size % s.frameLen = 0)
    (d' : CDelay (Cx ℝ)) (r : Option (ℕ × ℝ))
    (h : scan s.thr2 (sig.toList.zip (callCorr fftc ifft s sig).toList) 0 s.delay = (d', r)) :
    detProcess fftc ifft s sig =
      .ok (⟨(fftProcessC fftc ifft s.corr sig).1, (maProcessR s.pow (sig.map Cx.abs2)).1, s.thr2, d'⟩,
        r.map fun p => ⟨p.1, d'.extract czero, Real.sqrt p.2⟩) := by
  unfold callCorr at h
  unfold detProcess
  rw [if_neg (by simpa using hfl)]
  simp only [h]
  cases r <;> rfl

/-- **T18.4 (one call of `process`).**  Any state with `DInv` on the delay line; `hsz` (the correlation filter emits as many
samples as the call has) is the only thing asked of the transforms. -/
theorem detProcess_spec (fftc ifft : Array (Cx ℝ) → Array (Cx ℝ)) (s : DetState ℝ) (sig : Array (Cx ℝ)) (nh : ℕ) (S : List (Cx ℝ))
    (hfl : sig.size % s.frameLen = 0) (hinv : DInv czero s.delay nh S)
    (hsz : (fftProcessC fftc ifft s.corr sig).2.size = sig.size) :
    ∃ s' r, detProcess fftc ifft s sig = .ok (s', r) ∧
      s'.corr = (fftProcessC fftc ifft s.corr sig).1 ∧ s'.pow = (maProcessR s.pow (sig.map Cx.abs2)).1 ∧ s'.thr2 = s.thr2 ∧
      match r with
      | none => (∀ i, i < sig.size → ¬ s.thr2 < (callCorr fftc ifft s sig).getD i 0) ∧ DInv czero s'.delay nh (S ++ sig.toList)
      | some res =>
        res.offset < sig.size ∧ s.thr2 < (callCorr fftc ifft s sig).getD res.offset 0 ∧
        (∀ j, j < res.offset → ¬ s.thr2 < (callCorr fftc ifft s sig).getD j 0) ∧
        res.score = Real.sqrt ((callCorr fftc ifft s sig).getD res.offset 0) ∧
        res.preamble.size = nh ∧
        (∀ j, j < nh → res.preamble.getD j czero = hist czero (S ++ sig.toList.take (res.offset + 1)) (nh - 1 - j)) ∧
        DInv czero s'.delay nh (S ++ sig.toList.take (res.offset + 1)) := by
  have hcs : (callCorr fftc ifft s sig).size = sig.size := by rw [callCorr, normCorr, Array.size_ofFn, hsz]
  set corr := callCorr fftc ifft s sig with hcorr
  set L := sig.toList.zip corr.toList with hL
  have hLlen : L.length = sig.size := by
    rw [hL, List.length_zip, Array.length_toList, Array.length_toList, hcs, Nat.min_self]
  have hfst : L.map Prod.fst = sig.toList :=
    List.map_fst_zip (by rw [Array.length_toList, Array.length_toList, hcs])
  have hget : ∀ k (hk : k < L.length), (L[k]).2 = corr.getD k 0 := by
    intro k hk
    simp only [hL, List.getElem_zip, Array.getElem_toList, getD_of_lt 0 corr (show k < corr.size by rw [hcs, ← hLlen]; exact hk)]
  rcases scan_spec s.thr2 L 0 s.delay with ⟨k, hk, h1, h2, h3⟩ | ⟨h1, h3⟩
  · refine ⟨_, _, detProcess_of_scan fftc ifft s sig hfl _ _ h3, rfl, rfl, rfl, ?_⟩
    have hpush : ((L.take (k + 1)).map Prod.fst) = sig.toList.take (k + 1) := by rw [List.map_take, hfst]
    have hinv' := dinv_foldl czero nh (sig.toList.take (k + 1)) s.delay S hinv
    obtain ⟨e1, e2⟩ := extract_spec czero _ nh _ hinv'
    simp only [Option.map_some, Nat.zero_add, hpush]
    refine ⟨hLlen ▸ hk, ?_, ?_, ?_, e1, e2, hinv'⟩
    · rw [hit_real, hget k hk] at h1; exact of_decide_eq_true h1
    · intro j hj
      have := h2 j hj
      rw [hit_real, hget j (hj.trans hk)] at this; exact of_decide_eq_false this
    · rw [hget k hk]
  · refine ⟨_, _, detProcess_of_scan fftc ifft s sig hfl _ _ h3, rfl, rfl, rfl, ?_, ?_⟩
    · intro i hi
      have := h1 i (hLlen.symm ▸ hi)
      rw [hit_real, hget i (hLlen.symm ▸ hi)] at this; exact of_decide_eq_false this
    · rw [hfst]; exact dinv_foldl czero nh sig.toList s.delay S hinv


/-- `process` rejects a call whose length is not a multiple of `frame_len()` -/
theorem detProcess_bad_length (fftc ifft : Array (Cx ℝ) → Array (Cx ℝ)) (s : DetState ℝ) (sig : Array (Cx ℝ))
    (h : sig.size % s.frameLen ≠ 0) : ∃ e, detProcess fftc ifft s sig = .error e := by
  unfold detProcess
  rw [if_pos h]
  exact ⟨_, rfl⟩

/-- **T18.4 ⇒ the property's detector clause, under its hypothesis.**  If, in this call, the normalised correlation exceeds
`threshold²` at the index `e` ONLY (`e` = position of the preamble's last sample: "single-sample correlation peak"), then `process`
reports, with `offset = e`, the last `nh` samples of the stream ending at `e` (the aligned preamble samples when the delay line
has followed the stream, `DInv`), and `score = √corr[e]`. -/
theorem detector_reports_alignment (fftc ifft : Array (Cx ℝ) → Array (Cx ℝ)) (s : DetState ℝ) (sig : Array (Cx ℝ)) (nh : ℕ)
    (S : List (Cx ℝ)) (hfl : sig.size % s.frameLen = 0) (hinv : DInv czero s.delay nh S)
    (hsz : (fftProcessC fftc ifft s.corr sig).2.size = sig.size) (e : ℕ) (he : e < sig.size)
    (honly : ∀ i, i < sig.size → (s.thr2 < (callCorr fftc ifft s sig).getD i 0 ↔ i = e)) :
    ∃ s' res, detProcess fftc ifft s sig = .ok (s', some res) ∧ res.offset = e ∧
      res.score = Real.sqrt ((callCorr fftc ifft s sig).getD e 0) ∧ res.preamble.size = nh ∧
      ∀ j, j < nh → res.preamble.getD j czero = hist czero (S ++ sig.toList.take (e + 1)) (nh - 1 - j) := by
  obtain ⟨s', r, h0, _, _, _, h4⟩ := detProcess_spec fftc ifft s sig nh S hfl hinv hsz
  cases r with
  | none =>
    exact absurd ((honly e he).2 rfl) (h4.1 e he)
  | some res =>
    obtain ⟨h5, h6, _, h8, h9, h10, _⟩ := h4
    obtain rfl : res.offset = e := (honly res.offset h5).1 h6
    exact ⟨s', res, h0, rfl, h8, h9, h10⟩

/-- **T18.4 ⇒ "a stream without it reports nothing"**, under its hypothesis: if the normalised correlation of the call never
exceeds `threshold²`, nothing is reported and the delay line has taken in the whole call. -/
theorem detector_silent (fftc ifft : Array (Cx ℝ) → Array (Cx ℝ)) (s : DetState ℝ) (sig : Array (Cx ℝ)) (nh : ℕ)
    (S : List (Cx ℝ)) (hfl : sig.size % s.frameLen = 0) (hinv : DInv czero s.delay nh S)
    (hsz : (fftProcessC fftc ifft s.corr sig).2.size = sig.size)
    (hnone : ∀ i, i < sig.size → ¬ s.thr2 < (callCorr fftc ifft s sig).getD i 0) :
    ∃ s', detProcess fftc ifft s sig = .ok (s', none) ∧ DInv czero s'.delay nh (S ++ sig.toList) := by
  obtain ⟨s', r, h0, _, _, _, h4⟩ := detProcess_spec fftc ifft s sig nh S hfl hinv hsz
  cases r with
  | none => exact ⟨s', h0, h4.2⟩
  | some res => exact absurd h4.2.1 (hnone _ h4.1)

/-- the constructor leaves the delay line in the state the invariant starts from (`nh = h.size ≥ 1`) -/
theorem detInit_inv (fftc : Array (Cx ℝ) → Array (Cx ℝ)) (h : Array (Cx ℝ)) (thr : ℝ) (hm : 1 ≤ h.size) :
    DInv czero (detInit fftc h thr).delay h.size [] ∧ (detInit fftc h thr).thr2 = thr * thr :=
  ⟨dinv_init czero h.size hm, rfl⟩

theorem czero_eq : (czero : Cx ℝ) = 0 := by apply Cx.ext' <;> simp [czero]

theorem convertImpulse_size (h : Array (Cx ℝ)) : (convertImpulse h).size = h.size := by
  simp [convertImpulse, MathFns.flip]

/-- **T18.4 (what is correlated, from rest).**  For the first call after construction (any length that is a multiple of
`frame_len()`), for every preamble `h` with `nh ≥ 1` taps and every transform pair satisfying the circular convolution theorem
at `fft_len` (C07's hypothesis, discharged there for the exact DFT pair): the correlation filter emits as many samples as
the call has, and the normalised correlation at index `i` is
`|FirFilter(flip(h) / (rms(h)·nh))(sig)[i]|² / (FirFilter(nh taps 1/nh)(|sig|²)[i] + eps)` — C07's direct FIR filter
(`C07.fir_eq_cmplx`: `Σ_k conj(c[k])·x[i-k]`) of the flipped normalised preamble over C07's moving average of the power. -/
theorem callCorr_from_rest (fftc ifft : Array (Cx ℝ) → Array (Cx ℝ)) (h : Array (Cx ℝ)) (thr : ℝ) (hm : 1 ≤ h.size)
    (H : C07.CircConv fftc ifft (2 ^ nextpow2 (2 * h.size))) (sig : Array (Cx ℝ))
    (hfl : sig.size % (detInit fftc h thr).frameLen = 0) :
    (fftProcessC fftc ifft (detInit fftc h thr).corr sig).2.size = sig.size ∧
    ∀ i, i < sig.size → (callCorr fftc ifft (detInit fftc h thr) sig).getD i 0 =
      Cx.abs2 ((firProcessC (firInitC (convertImpulse h)) sig).2.getD i 0) /
        ((firProcessR (firInitR (Array.replicate h.size (1 / (h.size : ℝ)))) (sig.map Cx.abs2)).2.getD i 0 + eps) := by
  have hcs := convertImpulse_size h
  obtain ⟨f1, f2⟩ := C07.fftfilter_eq_fir_cmplx fftc ifft (convertImpulse h) (hcs.symm ▸ hm) (hcs.symm ▸ H) sig
  -- `(detInit fftc h thr).corr` is `fftInitC fftc (convertImpulse h)` and `frameLen` its `n`, by `rfl`
  have hsz : (fftProcessC fftc ifft (detInit fftc h thr).corr sig).2.size = sig.size :=
    f1.trans (Nat.div_mul_cancel (Nat.dvd_of_mod_eq_zero hfl))
  refine ⟨hsz, fun i hi => ?_⟩
  have f2' : (fftProcessC fftc ifft (detInit fftc h thr).corr sig).2.getD i 0 = _ := f2 i (hsz ▸ hi)
  have hma : (maProcessR (detInit fftc h thr).pow (sig.map Cx.abs2)).2 = _ := C07.ma_eq_fir_real h.size hm (sig.map Cx.abs2)
  rw [callCorr, normCorr, getD_ofFn, dif_pos (hsz.symm ▸ hi), czero_eq, f2', hma, fn_ofNat, Nat.cast_zero]

/-! ## non-vacuity: the hypotheses of the theorems hold at concrete inputs -/

/-- T18.1 at a concrete array (delay, advance, `|d| ≥ N`) -/
example : delayseq 0 #[1, 2, 3, 4, 5] 2 = #[0, 0, 1, 2, 3] ∧ delayseq 0 #[1, 2, 3, 4, 5] (-2) = #[3, 4, 5, 0, 0] ∧
    delayseq 0 #[1, 2, 3, 4, 5] 5 = #[0, 0, 0, 0, 0] ∧ delayseq 0 #[1, 2, 3, 4, 5] (-7) = #[0, 0, 0, 0, 0] := by decide

/-- T18.2: the samples `1, 3, 2` around `idx = 1` lie on `-(3/2)t² + (7/2)t + 1` (vertex `7/6`) -/
theorem peaklocR_132 : peaklocR (#[1, 3, 2] : Array ℝ) 1 true = 7 / 6 :=
  (peakloc_vertex (#[1, 3, 2] : Array ℝ) 1 true (Or.inl rfl) (-3 / 2) (7 / 2) 1 (by norm_num)
    (by norm_num [Array.getD_eq_getD_getElem?]) (by norm_num [Array.getD_eq_getD_getElem?])
    (by norm_num [Array.getD_eq_getD_getElem?])).trans (by norm_num)

example : peaklocR (#[1, 3, 2] : Array ℝ) 1 true = 7 / 6 := peaklocR_132

/-- the complex overload on the same (real-valued) samples lands on the OTHER side of `idx`: `1 - 2·(7/6 - 1) = 2/3` -/
example : peaklocC ((#[1, 3, 2] : Array ℝ).map fun v => (⟨v, 0⟩ : Cx ℝ)) 1 true = 2 / 3 := by
  have h := peaklocC_real_data (#[1, 3, 2] : Array ℝ) 1 true (Or.inl rfl) (by show (1 : ℝ) - 2 * 3 + 2 ≠ 0; norm_num)
  rw [peaklocR_132] at h
  push_cast at h
  linarith

/-- T18.3: the unwrapping on `nfft = 8`: every admissible shift `-4 ≤ d < 4` is recovered from its lag index -/
example : unwrapLag 8 0 = 0 ∧ unwrapLag 8 7 = 1 ∧ unwrapLag 8 5 = 3 ∧ unwrapLag 8 1 = -1 ∧ unwrapLag 8 3 = -3 ∧ unwrapLag 8 4 = -4 := by
  decide

/-- T18.4: `CDelay` of size 3 after 5 pushes holds the last three samples, oldest first -/
example : (([1, 2, 3, 4, 5] : List Nat).foldl CDelay.push (CDelay.init 0 3)).extract 0 = #[3, 4, 5] := by decide

/-- T18.4: the sample loop stops at the first hit (index 2 of the values `0.1, 0.2, 0.9, 0.95` against `thr² = 0.25`) -/
example : (scan (1 / 4 : ℝ) [(⟨1, 0⟩, 1 / 10), (⟨2, 0⟩, 1 / 5), (⟨3, 0⟩, 9 / 10), (⟨4, 0⟩, 19 / 20)] 0 (CDelay.init ⟨0, 0⟩ 2)).2 =
    some (2, 9 / 10) := by
  norm_num [scan, isValid_real]

end Dsp.C18
