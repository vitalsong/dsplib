import DspVerif.Lib.C01Fft
import DspVerif.Props.C01Kernels
import Mathlib.Tactic.IntervalCases
/-!
# C01 — forward transforms equal the DFT for every length and input

Exact theorems (over `ℂ`, no rounding) about the functions of `Model/Fft.lean` instantiated at `ℝ` — the
very definitions the driver runs at `Float` against `lib/fft/*` in the correspondence run.
`seq x i = toC (rd x i)` is the complex sequence a vector denotes, `dft n x k = ∑_{m<n} x m · ω n (m·k)`.
The plan-selection theorems (`fftC_eq_partial`, `fftR_eq_partial`, T01.10) take the components proved in other modules
(butterfly network T01.3, Bluestein T01.6, well-formedness of `mkPlan`) as hypotheses, each only on the branch that uses it.
-/
open Finset Complex
namespace Dsp.C01
open Dsp Dsp.Fft Dsp.Primes

/-! ## T01.4 general Cooley–Tukey over a factor tree -/

/-- well-formed factor tree: positive leaf sizes, every node's children have the sizes it records -/
def Plan.WF : Plan → Prop
  | .leaf n => 0 < n
  | .node P Q p q => p.size = P ∧ q.size = Q ∧ Plan.WF p ∧ Plan.WF q

def Plan.leaves : Plan → List Nat
  | .leaf n => [n]
  | .node _ _ p q => Plan.leaves p ++ Plan.leaves q

theorem Plan.size_pos : ∀ (pl : Plan), Plan.WF pl → 0 < pl.size
  | .leaf n, h => h
  | .node P Q p q, ⟨hp, hq, wp, wq⟩ => by
    have h1 := Plan.size_pos p wp
    have h2 := Plan.size_pos q wq
    simp only [Plan.size]
    rw [hp] at h1; rw [hq] at h2
    exact Nat.mul_pos h1 h2

/-- T01.4 (clause "return the length-n discrete Fourier transform", composite lengths): for EVERY well-formed
    factor tree whose size divides the head length, every twiddle table holding `ω headN i`, and every leaf
    solver that is a DFT on the leaf sizes, `_facfft` computes the DFT of its input. -/
theorem facfft_eq (leaf : Nat → Vec ℝ → Vec ℝ) (tw : Vec ℝ) (headN : ℕ) (hN : 0 < headN)
    (htw : ∀ i < headN, Cx.toC (rd tw i) = ω headN i) :
    ∀ (plan : Plan), Plan.WF plan → plan.size ∣ headN →
    (∀ n ∈ Plan.leaves plan, ∀ (x : Vec ℝ) (k : ℕ), k < n → Cx.toC (rd (leaf n x) k) = dft n (seq x) k) →
    ∀ (x : Vec ℝ) (k : ℕ), k < plan.size →
      Cx.toC (rd (facfft leaf tw headN plan x) k) = dft plan.size (seq x) k
  | .leaf n, _, _, hleaf, x, k, hk => by
    simp only [facfft, Plan.size] at *
    exact hleaf n (by simp [Plan.leaves]) x k hk
  | .node P Q p q, ⟨hp, hq, wp, wq⟩, hdiv, hleaf, x, k, hk => by
    simp only [Plan.size] at hk hdiv ⊢
    have hPpos : 0 < P := by rw [← hp]; exact Plan.size_pos p wp
    have hQpos : 0 < Q := by rw [← hq]; exact Plan.size_pos q wq
    have hkP : k % P < P := Nat.mod_lt _ hPpos
    have hkQ : k / P < Q := by
      rw [Nat.div_lt_iff_lt_mul hPpos]; rw [Nat.mul_comm]; exact hk
    have ihp := facfft_eq leaf tw headN hN htw p wp (by rw [hp]; exact Dvd.dvd.trans (Dvd.intro _ rfl) hdiv)
      (fun n hn => hleaf n (by simp [Plan.leaves, hn]))
    have ihq := facfft_eq leaf tw headN hN htw q wq (by rw [hq]; exact Dvd.dvd.trans (Dvd.intro_left _ rfl) hdiv)
      (fun n hn => hleaf n (by simp [Plan.leaves, hn]))
    rw [hp] at ihp; rw [hq] at ihq
    obtain ⟨decim, hdec⟩ := hdiv
    have hdpos : 0 < decim := Nat.pos_of_ne_zero (by rintro rfl; omega)
    have hdecim : headN / (P * Q) = decim := by
      rw [hdec]; exact Nat.mul_div_cancel_left _ (Nat.mul_pos hPpos hQpos)
    simp only [facfft]
    rw [rd_mk_lt _ _ _ hk, rd2_mkRows _ _ _ _ hkP, ihq _ _ hkQ]
    have hk' : k = (k / P) * P + k % P := by rw [Nat.mul_comm]; exact (Nat.div_add_mod k P).symm
    conv_rhs => rw [hk', cooley_tukey P Q hPpos hQpos]
    unfold dft
    apply Finset.sum_congr rfl
    intro j hj
    have hjQ : j < Q := Finset.mem_range.mp hj
    congr 1
    simp only [seq]
    rw [rd_mk_lt _ _ _ hjQ, rd2_mkRows _ _ _ _ hjQ]
    have hin : Cx.toC (rd (facfft leaf tw headN p (mk P fun i => rd x (i * Q + j))) (k % P))
        = ∑ i ∈ range P, Cx.toC (rd x (i * Q + j)) * ω P (i * (k % P)) := by
      rw [ihp _ _ hkP]
      exact dft_congr P _ _ (fun i hi => by unfold seq; rw [rd_mk_lt _ _ _ hi]) _
    unfold twMul
    by_cases hc : 1 ≤ k % P ∧ 1 ≤ j
    · rw [if_pos hc, Cx.toC_mul, hin, hdecim]
      have hlt : j * (k % P) * decim < headN := by
        rw [hdec]
        have : j * (k % P) < P * Q := by
          rw [Nat.mul_comm P Q]; exact Nat.mul_lt_mul'' hjQ hkP
        exact Nat.mul_lt_mul_of_pos_right this hdpos
      rw [htw _ hlt, hdec, ω_scale (P * Q) decim _ hdpos]
      ring
    · rw [if_neg hc, hin]
      have hz : j * (k % P) = 0 := by
        by_contra h
        exact hc ⟨Nat.pos_of_ne_zero (right_ne_zero_of_mul h), Nat.pos_of_ne_zero (left_ne_zero_of_mul h)⟩
      rw [hz, ω_zero]; ring


/-! ## T01.5 direct DFT for small primes -/

theorem sumLoop_eq (x : Vec ℝ) : ∀ i, Cx.toC (sumLoop x i) = ∑ m ∈ range i, seq x m
  | 0 => by simp [sumLoop]
  | i + 1 => by
    rw [sumLoop, Cx.toC_add, sumLoop_eq x i, Finset.sum_range_succ]; rfl

theorem dftSlowLoop_inv (n k : ℕ) (hn : 0 < n) (hk : k < n) (tw x : Vec ℝ)
    (htw : ∀ i < n, Cx.toC (rd tw i) = ω n i) :
    ∀ i, (dftSlowLoop n k x tw i).2 = (i * k) % n ∧
      Cx.toC (dftSlowLoop n k x tw i).1 = ∑ m ∈ range i, seq x m * ω n (m * k)
  | 0 => by simp [dftSlowLoop, Nat.zero_mod]
  | i + 1 => by
    obtain ⟨h2, h1⟩ := dftSlowLoop_inv n k hn hk tw x htw i
    have hlt : (i * k) % n < n := Nat.mod_lt _ hn
    constructor
    · simp only [dftSlowLoop]
      rw [h2]
      have e : (i + 1) * k % n = ((i * k) % n + k) % n := by
        rw [Nat.add_mul, Nat.one_mul, Nat.add_mod, Nat.mod_eq_of_lt hk]
      rw [e]
      generalize (i * k) % n = r at hlt ⊢
      split
      · rename_i h; exact (Nat.mod_eq_of_lt h).symm
      · rename_i h
        have h' : n ≤ r + k := Nat.le_of_not_lt h
        rw [Nat.mod_eq_sub_mod h', Nat.mod_eq_of_lt (by omega)]
    · simp only [dftSlowLoop]
      rw [Cx.toC_add, Cx.toC_mul, h1, h2, htw _ hlt, ω_mod _ _ hn, Finset.sum_range_succ]
      rfl

/-- T01.5 (clause "return the length-n DFT", prime lengths ≤ 41): `_dft_slow`, whose twiddle index is the running
    `iw += k; iw = iw < n ? iw : iw - n`, computes the DFT for every `n ≥ 1` (no primality needed). -/
theorem dftSlow_eq (n : ℕ) (hn : 0 < n) (tw x : Vec ℝ) (htw : ∀ i < n, Cx.toC (rd tw i) = ω n i)
    (k : ℕ) (hk : k < n) : Cx.toC (rd (dftSlow n tw x) k) = dft n (seq x) k := by
  unfold dftSlow
  rw [rd_mk_lt _ _ _ hk]
  by_cases h0 : k = 0
  · subst h0
    rw [if_pos rfl, sumLoop_eq]
    unfold dft
    apply Finset.sum_congr rfl
    intro m _
    rw [Nat.mul_zero, ω_zero, mul_one]
  · rw [if_neg h0, (dftSlowLoop_inv n k hn hk tw x htw n).2]
    rfl


/-! ## T01.7 packed real transform -/

section packed
variable (h : ℕ) (x : Array ℝ)

/-- DFT of the even / odd samples -/
noncomputable def Ev (k : ℕ) : ℂ := dft h (fun i => ((rdR x (2 * i) : ℝ) : ℂ)) k
noncomputable def Od (k : ℕ) : ℂ := dft h (fun i => ((rdR x (2 * i + 1) : ℝ) : ℂ)) k

/-- the packed half-length input `z[i] = (x[2i] + i x[2i+1]) / 2` -/
@[reducible] noncomputable def zvec : Vec ℝ := mk h (fun i => Cx.mulr ⟨rdR x (2 * i), rdR x (2 * i + 1)⟩ (Fn.ofNat 1 / Fn.ofNat 2))

theorem seq_zvec (i : ℕ) (hi : i < h) :
    seq (zvec h x) i = (((rdR x (2 * i) : ℝ) : ℂ) + I * ((rdR x (2 * i + 1) : ℝ) : ℂ)) / 2 := by
  unfold seq zvec
  rw [rd_mk_lt _ _ _ hi, Cx.toC_mulr]
  apply Complex.ext <;> simp <;> ring

theorem Z_val (k : ℕ) : dft h (seq (zvec h x)) k = (Ev h x k + I * Od h x k) / 2 := by
  unfold Ev Od dft
  rw [Finset.mul_sum, ← Finset.sum_add_distrib, div_eq_mul_inv, Finset.sum_mul]
  apply Finset.sum_congr rfl
  intro i hi
  rw [seq_zvec h x i (Finset.mem_range.mp hi)]
  ring

theorem Z_conj (hh : 0 < h) (j k : ℕ) (hd : h ∣ j + k) :
    (starRingEnd ℂ) (dft h (seq (zvec h x)) j) = (Ev h x k - I * Od h x k) / 2 := by
  unfold Ev Od dft
  rw [map_sum, Finset.mul_sum, ← Finset.sum_sub_distrib, div_eq_mul_inv, Finset.sum_mul]
  apply Finset.sum_congr rfl
  intro i hi
  rw [seq_zvec h x i (Finset.mem_range.mp hi), map_mul, ω_conj_of_dvd h (i * j) (i * k) hh
    (by rw [← Nat.mul_add]; exact Dvd.dvd.mul_left hd i)]
  simp only [map_div₀, map_add, map_mul, Complex.conj_ofReal, Complex.conj_I]
  have : (starRingEnd ℂ) (2 : ℂ) = 2 := by
    have := Complex.conj_ofReal 2
    simpa using this
  rw [this]
  ring

/-- radix-2 decimation in time of the length-`2h` transform of the real signal -/
theorem split2 (k : ℕ) :
    dft (h * 2) (seqR x) k = Ev h x k + ω (h * 2) k * Od h x k := by
  unfold dft
  rw [sum_range_mul h 2, Finset.sum_range_succ, Finset.sum_range_one]
  unfold Ev Od dft
  rw [Finset.mul_sum]
  congr 1
  · apply Finset.sum_congr rfl
    intro i _
    simp only [seqR, Nat.add_zero]
    rw [Nat.mul_comm i 2, Nat.mul_comm 2 i, Nat.mul_assoc, Nat.mul_comm 2 k, ← Nat.mul_assoc, ω_scale h 2 _ (by norm_num)]
  · apply Finset.sum_congr rfl
    intro i _
    simp only [seqR]
    rw [Nat.mul_comm i 2, Nat.add_mul, Nat.one_mul, ω_add]
    rw [Nat.mul_comm 2 i, Nat.mul_assoc, Nat.mul_comm 2 k, ← Nat.mul_assoc, ω_scale h 2 _ (by norm_num)]
    ring

end packed

/-- T01.8 (clause "the transform of a real input … is conjugate-symmetric"): `X[k] = conj X[n-k]`. -/
theorem dft_real_conj_symm (n : ℕ) (hn : 0 < n) (x : Array ℝ) (k : ℕ) (hk : k ≤ n) :
    dft n (seqR x) k = (starRingEnd ℂ) (dft n (seqR x) (n - k)) :=
  (dft_conj_symm n hn (fun m => rdR x m) k hk).symm

/-- T01.7: the packed real transform (`RealFftPlan::solve`) of an even length `n = 2h` is the DFT of the real input -/
theorem rfftPacked_eq (fwd : Vec ℝ → Vec ℝ) (h : ℕ) (hh : 0 < h) (w : Vec ℝ) (x : Array ℝ)
    (hfwd : ∀ (z : Vec ℝ) (k : ℕ), k < h → Cx.toC (rd (fwd z) k) = dft h (seq z) k)
    (hw : ∀ i < h, Cx.toC (rd w i) = ω (h * 2) i)
    (k : ℕ) (hk : k < h * 2) :
    Cx.toC (rd (rfftPacked fwd (h * 2) w x) k) = dft (h * 2) (seqR x) k := by
  have hI : I * I = -1 := Complex.I_mul_I
  have hZ : ∀ j < h, Cx.toC (rd (fwd (zvec h x)) j) = (Ev h x j + I * Od h x j) / 2 := by
    intro j hj; rw [hfwd _ _ hj, Z_val]
  have hdiv : h * 2 / 2 = h := Nat.mul_div_cancel h (by norm_num)
  unfold rfftPacked
  simp only [hdiv]
  rw [rd_mk_lt _ _ _ hk]
  -- the lower half, named before its cells are looked at
  generalize hF : mk (α := ℝ) h (fun i => Cx.mk _ _) = lower
  have hlow : ∀ i < h, Cx.toC (rd lower i) = Ev h x i + ω (h * 2) i * Od h x i := by
    intro i hi
    rw [← hF, rd_mk_lt _ _ _ hi, toC_untangle, Cx.toC_add, Cx.toC_mul, Cx.toC_sub, Cx.toC_conj, hZ i hi, hw i hi]
    have hidx : (if i = 0 then 0 else h - i) < h := by split <;> omega
    have hdv : h ∣ (if i = 0 then 0 else h - i) + i := by
      split
      · rename_i h0; subst h0; simp
      · have : h - i + i = h := Nat.sub_add_cancel hi.le
        rw [this]
    rw [hfwd _ _ hidx, Z_conj h x hh _ i hdv]
    linear_combination (-(Od h x i * ω (h * 2) i)) * hI
  by_cases h1 : k < h
  · rw [if_pos h1]
    rw [split2 h x k]
    exact hlow k h1
  · rw [if_neg h1]
    by_cases h2 : k = h
    · rw [if_pos h2]
      subst h2
      rw [toC_ofReal, split2 k x k, ω_half k hh]
      -- `Z[0] = (Ev 0 + i·Od 0)/2` with both sums real, so its parts are half of them
      have hz := hZ 0 hh
      simp only [Ev, Od, dft_period k hh, dft_zero_ofReal] at hz ⊢
      have r := congrArg Complex.re hz
      have i := congrArg Complex.im hz
      simp at r i
      simp only [Cx.conj, Cx.add_re, Cx.sub_im, r, i]
      push_cast; ring
    · rw [if_neg h2]
      have hk2 : h * 2 - k < h := by omega
      have hl := hlow (h * 2 - k) hk2
      rw [← split2 h x] at hl
      rw [dft_real_conj_symm (h * 2) (by omega) x k hk.le, ← hl]
      apply Complex.ext
      · simp only [Cx.toC_re, Complex.conj_re]
      · simp only [Cx.toC_im, Complex.conj_im]


/-! ## T01.8 real input -/

/-- `complex(x)` denotes the same sequence as the real array `x` -/
theorem seq_complexify (x : Array ℝ) (i : ℕ) : seq (complexify x) i = seqR x i := by
  unfold seq seqR complexify
  rw [rd_mk]
  split
  · rw [toC_ofReal]
  · rename_i h
    have h' : x.size ≤ i := Nat.le_of_not_lt h
    have : rdR x i = 0 := by
      unfold rdR
      simp [Array.getD, h]
    rw [this, toC_zero]; simp

/-- T01.8 (clause "the transform of a real input equals the transform of the same values given as complex
    numbers"): the two input forms denote the same sequence, hence have the same DFT. -/
theorem dft_real_eq_cmplx (n : ℕ) (x : Array ℝ) (k : ℕ) : dft n (seq (complexify x)) k = dft n (seqR x) k :=
  dft_congr n _ _ (fun i _ => seq_complexify x i) k

/-! ## T01.10 plan selection -/

/-- the literals of the source denote `√½` and `√¾` (Props/C01Kernels.lean shows the written digits do, to 2⁻⁴⁸) -/
structure LitsOK (lit : Lits ℝ) : Prop where
  c8 : 2 * lit.c8 ^ 2 = 1
  c8pos : 0 < lit.c8
  c8r : 2 * lit.c8r ^ 2 = 1
  c8rpos : 0 < lit.c8r
  d3 : 4 * lit.d3 ^ 2 = 3
  d3pos : 0 < lit.d3

/-- "solver `f` of size `n` is the DFT" -/
def IsDft (n : ℕ) (f : Vec ℝ → Vec ℝ) : Prop :=
  ∀ (x : Vec ℝ) (k : ℕ), k < n → Cx.toC (rd (f x) k) = dft n (seq x) k

theorem isSmall_iff (n : ℕ) : isSmall n = true ↔ n = 1 ∨ n = 2 ∨ n = 4 ∨ n = 8 := by
  simp [isSmall, Bool.or_eq_true, beq_iff_eq, or_assoc]

/-- T01.1 → plans: `SmallFftPow2C::solve` is the DFT for n = 1, 2, 4, 8; only the last size reads a literal -/
theorem smallC_isDft (lit : Lits ℝ) (n : ℕ) (hs : isSmall n = true) (h8 : n = 8 → 2 * lit.c8 ^ 2 = 1 ∧ 0 < lit.c8) :
    IsDft n (smallC lit n) := by
  intro x k hk
  rcases (isSmall_iff n).mp hs with h | h | h | h <;> subst h <;> simp only [smallC] <;> norm_num <;>
    rw [rd_mk_lt _ _ _ hk]
  · obtain rfl : k = 0 := by omega
    simp [dft, ω_zero, seq]
  · exact C01K.fft2_eq (rd x) k hk
  · exact C01K.fft4_eq (rd x) k hk
  · exact C01K.fft8_eq lit.c8 (h8 rfl).1 (h8 rfl).2 (rd x) k hk

theorem smallC_eq (lit : Lits ℝ) (hl : LitsOK lit) (n : ℕ) (hs : isSmall n = true) : IsDft n (smallC lit n) :=
  smallC_isDft lit n hs fun _ => ⟨hl.c8, hl.c8pos⟩

/-- `SmallFftPow2R::solve` is the DFT of the real input for n = 1, 2, 4, 8 -/
theorem smallR_eq (lit : Lits ℝ) (hl : LitsOK lit) (n : ℕ) (hs : isSmall n = true) (x : Array ℝ) (k : ℕ) (hk : k < n) :
    Cx.toC (rd (smallR lit n x) k) = dft n (seqR x) k := by
  rcases (isSmall_iff n).mp hs with h | h | h | h <;> subst h <;> simp only [smallR] <;> norm_num <;>
    rw [rd_mk_lt _ _ _ hk]
  · obtain rfl : k = 0 := by omega
    rw [toC_ofReal]
    simp [dft, ω_zero, seqR]
  · exact C01K.rfft2_eq (rdR x) k hk
  · exact C01K.rfft4_eq (rdR x) k hk
  · exact C01K.rfft8_eq lit.c8r hl.c8r hl.c8rpos (rdR x) k hk

/-- the CZT instance `PrimesFftC` builds for a prime `n > 41` (T01.6, Bluestein, is NOT proved here) -/
noncomputable def cztPrime (lit : Lits ℝ) (n : ℕ) : Vec ℝ → Vec ℝ :=
  czt (fftPow2 lit) n n (expj (Fn.ofInt (-2) * Fn.pi / Fn.ofNat n)) ⟨Fn.ofNat 1, Fn.ofNat 0⟩ true

/-- `PrimesFftC::solve`: `_dft_n3`, `_dft_slow` (n ≤ 41) are DFTs outright; above 41 iff the CZT instance is -/
theorem fftPrime_eq (lit : Lits ℝ) (hl : LitsOK lit) (n : ℕ) (hn : 0 < n)
    (hczt : Gen.maxDftSize < n → IsDft n (cztPrime lit n)) : IsDft n (fftPrime lit n) := by
  intro x k hk
  unfold fftPrime
  by_cases h3 : n = 3
  · subst h3
    rw [if_pos rfl, rd_mk_lt _ _ _ hk]
    exact C01K.dft3_eq lit.d3 hl.d3 hl.d3pos (rd x) k hk
  · rw [if_neg h3]
    by_cases h41 : n ≤ Gen.maxDftSize
    · rw [if_pos h41]
      exact dftSlow_eq n hn _ x (fun i hi => by rw [rd_mk_lt _ _ _ hi, toC_twiddle]) k hk
    · rw [if_neg h41]
      exact hczt (Nat.lt_of_not_le h41) x k hk

/-- the solver of a `PlanTree` leaf (`create_fft_plan`): small kernel, prime solver, else `Pow2FftPlan` -/
theorem fftLeaf_eq (lit : Lits ℝ) (hl : LitsOK lit) (n : ℕ) (hn : 0 < n)
    (hczt : isSmall n = false → isprime n = true → Gen.maxDftSize < n → IsDft n (cztPrime lit n))
    (hpow2 : isSmall n = false → isprime n = false → IsDft n (pow2fft n)) : IsDft n (fftLeaf lit n) := by
  unfold fftLeaf
  cases hs : isSmall n
  · cases hp : isprime n
    · simpa using hpow2 hs hp
    · simpa using fftPrime_eq lit hl n hn (hczt hs hp)
  · simpa using smallC_eq lit hl n hs

/-- `FactorFFTPlan::solve` given a well-formed plan with correct leaves -/
theorem fftFactor_eq (lit : Lits ℝ) (n : ℕ) (hn : 0 < n)
    (hwf : Plan.WF (mkPlan 32 n)) (hsize : (mkPlan 32 n).size = n)
    (hleaf : ∀ m ∈ Plan.leaves (mkPlan 32 n), IsDft m (fftLeaf lit m)) : IsDft n (fftFactor lit n) := by
  intro x k hk
  unfold fftFactor
  have := facfft_eq (fftLeaf lit) (mk n (twiddle n)) n hn
    (fun i hi => by rw [rd_mk_lt _ _ _ hi, toC_twiddle]) (mkPlan 32 n) hwf (by rw [hsize]) hleaf x k (by rw [hsize]; exact hk)
  rw [hsize] at this
  exact this

/-- T01.10 (partial): `fft(arr_cmplx)` / `FftPlan(n)` is the DFT for every `n ≥ 1`, GIVEN the components not proved here,
    each needed only on the branch that uses it:
    `hczt` Bluestein for a prime `n > 41` (T01.6), `hpow2` the butterfly network for a power of two ≥ 16 (T01.3/T01.2),
    `hfac` for composite non-powers of two: `mkPlan` well-formed of size `n` with DFT leaves (`fftLeaf_eq` reduces the
    leaves to the same two components).  All three are discharged in `Props/C01Total.lean` (`fftC_eq`, for `n < 2^31`). -/
theorem fftC_eq_partial (lit : Lits ℝ) (hl : LitsOK lit) (n : ℕ) (hn : 0 < n)
    (hczt : isSmall n = false → isprime n = true → Gen.maxDftSize < n → IsDft n (cztPrime lit n))
    (hpow2 : isSmall n = false → isprime n = false → ispow2 n = true → IsDft n (pow2fft n))
    (hfac : isSmall n = false → isprime n = false → ispow2 n = false →
      Plan.WF (mkPlan 32 n) ∧ (mkPlan 32 n).size = n ∧ ∀ m ∈ Plan.leaves (mkPlan 32 n), IsDft m (fftLeaf lit m)) :
    IsDft n (fftC lit n) := by
  unfold fftC
  cases hs : isSmall n
  · cases hp : isprime n
    · cases h2 : ispow2 n
      · obtain ⟨a, b, c⟩ := hfac hs hp h2
        simpa using fftFactor_eq lit n hn a b c
      · simpa using hpow2 hs hp h2
    · simpa using fftPrime_eq lit hl n hn (hczt hs hp)
  · simpa using smallC_eq lit hl n hs

/-- unconditional: n = 1, 2, 4, 8 -/
theorem fftC_eq_small (lit : Lits ℝ) (hl : LitsOK lit) (n : ℕ) (hs : isSmall n = true) : IsDft n (fftC lit n) := by
  have hn : 0 < n := by rcases (isSmall_iff n).mp hs with h | h | h | h <;> omega
  exact fftC_eq_partial lit hl n hn (by simp [hs]) (by simp [hs]) (by simp [hs])

/-- unconditional: every length the code treats as prime up to 41 (3, 5, 7, …, 41) -/
theorem fftC_eq_prime41 (lit : Lits ℝ) (hl : LitsOK lit) (n : ℕ) (hn : 0 < n) (hp : isprime n = true)
    (h41 : n ≤ Gen.maxDftSize) : IsDft n (fftC lit n) := by
  apply fftC_eq_partial lit hl n hn
  · intro _ _ h; omega
  · intro _ h; rw [hp] at h; cases h
  · intro _ h; rw [hp] at h; cases h

/-- T01.10 (partial), real input: `fft(arr_real)` / `rfft` / `FftPlanR(n)`; `hhalf`: the complex plan of size n/2 used by
    the packed transform, `hcx`: the complex plan of size n used for primes and odd composites. -/
theorem fftR_eq_partial (lit : Lits ℝ) (hl : LitsOK lit) (n : ℕ) (hn : 0 < n)
    (hprime : isSmall n = false → isprime n = true → IsDft n (fftPrime lit n))
    (hhalf : isSmall n = false → isprime n = false → n % 2 = 0 → IsDft (n / 2) (fftC lit (n / 2)))
    (hodd : isSmall n = false → isprime n = false → n % 2 ≠ 0 → IsDft n (fftFactor lit n))
    (x : Array ℝ) (k : ℕ) (hk : k < n) : Cx.toC (rd (fftR lit n x) k) = dft n (seqR x) k := by
  unfold fftR
  cases hs : isSmall n
  · cases hp : isprime n
    · by_cases he : n % 2 = 0
      · simp only [Bool.false_eq_true, if_false, if_pos he]
        have hn2 : n / 2 * 2 = n := Nat.div_mul_cancel (Nat.dvd_of_mod_eq_zero he)
        have h2pos : 0 < n / 2 := Nat.div_pos (Nat.le_of_dvd hn (Nat.dvd_of_mod_eq_zero he)) two_pos
        have key := rfftPacked_eq (fftC lit (n / 2)) (n / 2) h2pos (mk (n / 2) (twiddle n)) x (hhalf hs hp he)
          (fun i hi => by rw [rd_mk_lt _ _ _ hi, toC_twiddle, hn2]) k (hn2.symm ▸ hk)
        rw [hn2] at key
        exact key
      · simp only [Bool.false_eq_true, if_false, if_neg he]
        rw [hodd hs hp he _ k hk]; exact dft_real_eq_cmplx n x k
    · simp only [Bool.false_eq_true, if_false, if_true]
      rw [hprime hs hp _ k hk]; exact dft_real_eq_cmplx n x k
  · simp only [if_true]
    exact smallR_eq lit hl n hs x k hk

/-! ## T01.9 pad / truncate -/

/-- the sequence `x` zero-padded or truncated to `n'` samples -/
noncomputable def padSeq (n' : ℕ) (x : Vec ℝ) : ℕ → ℂ := fun i => if i < x.size ∧ i < n' then seq x i else 0

/-- T01.9 (clause "fft(x, n) equals the transform of x zero-padded or truncated to n samples"): whenever the plan of
    size `n'` is a DFT, `fft(x, n')` is the DFT of the padded / truncated input — all three branches of the code. -/
theorem fftCN_eq (lit : Lits ℝ) (n' : ℕ) (hfft : IsDft n' (fftC lit n')) (x : Vec ℝ) (k : ℕ) (hk : k < n') :
    Cx.toC (rd (fftCN lit n' x) k) = dft n' (padSeq n' x) k := by
  unfold fftCN
  by_cases h : n' = x.size
  · rw [if_pos h, ← h, hfft x k hk]
    apply dft_congr
    intro i hi
    simp [padSeq, hi, ← h]
  · rw [if_neg h, hfft _ k hk]
    apply dft_congr
    intro i hi
    unfold seq padTrunc padSeq
    rw [rd_mk_lt _ _ _ hi]
    by_cases hx : i < x.size
    · simp [hx, hi]; rfl
    · simp [hx]

/-- real counterpart: the padded / truncated real sequence -/
noncomputable def padSeqR (n' : ℕ) (x : Array ℝ) : ℕ → ℂ := fun i => if i < x.size ∧ i < n' then seqR x i else 0

/-- T01.9 for `fft(arr_real, n')` / `rfft(x, n')` -/
theorem fftRN_eq (lit : Lits ℝ) (n' : ℕ)
    (hfft : ∀ (y : Array ℝ) (k : ℕ), k < n' → Cx.toC (rd (fftR lit n' y) k) = dft n' (seqR y) k)
    (x : Array ℝ) (k : ℕ) (hk : k < n') : Cx.toC (rd (fftRN lit n' x) k) = dft n' (padSeqR n' x) k := by
  unfold fftRN
  by_cases h : n' = x.size
  · rw [if_pos h, ← h, hfft x k hk]
    apply dft_congr
    intro i hi
    simp [padSeqR, hi, ← h]
  · rw [if_neg h, hfft _ k hk]
    apply dft_congr
    intro i hi
    unfold seqR padTruncR padSeqR
    have : rdR (Array.ofFn (n := n') fun j => if j.val < x.size then rdR x j.val else (Fn.ofNat 0 : ℝ)) i
        = if i < x.size then rdR x i else 0 := by
      unfold rdR; simp [Array.getD, hi]
    rw [this]
    by_cases hx : i < x.size
    · simp [hx, hi]; rfl
    · simp [hx]

/-! ## T01.2 coefficient table of the power-of-two plan -/

theorem cosTab_eq (n i : ℕ) : cosTab (α := ℝ) n i = (ω n i).re := by
  rw [C01K.ω_re]; unfold cosTab; simp

/-- the one symmetry the quarter-wave table uses: the cosine at a difference of two indices, in terms of the roots of
    unity at the two (`cos (s - t)`); it is symmetric in the two indices, so it serves `m - k` and `k - m` alike -/
theorem cosTab_sub (n a b : ℕ) (h : b ≤ a) :
    cosTab (α := ℝ) n (a - b) = (ω n a).re * (ω n b).re + (ω n a).im * (ω n b).im := by
  rw [C01K.ω_re, C01K.ω_re, C01K.ω_im, C01K.ω_im, neg_mul_neg, ← Real.cos_sub]
  unfold cosTab
  simp only [fn_cos, fn_ofNat, fn_pi, Nat.cast_sub h]
  congr 1; ring

/-- T01.2: every cell of `_gen_coeffs_table(n)` (`4 ∣ n`) holds `exp(-2πi k/n)` — each cell gets its real part from
    one loop iteration and its imaginary part from another, through the quarter-wave symmetries of the cosine -/
theorem coeffs_eq (n : ℕ) (h4 : 4 ∣ n) (hn : 0 < n) (k : ℕ) (hk : k < n) :
    Cx.toC (coeffs (α := ℝ) n k) = ω n k := by
  obtain ⟨q, rfl⟩ := h4
  have hq : 0 < q := by omega
  -- the roots at the four quarter points, about which the table reflects
  have v1 : ω (4 * q) q = -I := by rw [← C01K.ω4_1, ← ω_scale 4 q 1 hq, Nat.one_mul]
  have v2 : ω (4 * q) (2 * q) = -1 := by rw [two_mul, ω_add, v1, neg_mul_neg, I_mul_I]
  have v3 : ω (4 * q) (3 * q) = I := by rw [Nat.succ_mul 2 q, ω_add, v1, v2, neg_mul_neg, one_mul]
  have v4 : ω (4 * q) (4 * q) = 1 := by rw [← ω_self_mul (4 * q) 1 hn, Nat.mul_one]
  have e4 : 4 * q / 4 = q := Nat.mul_div_cancel_left q (by norm_num)
  have e2 : 4 * q / 2 = 2 * q := by omega
  have e3 : 3 * (4 * q) / 4 = 3 * q := by omega
  unfold coeffs
  simp only [e4, e2, e3]
  -- (`split_ifs` is very slow on this cascade)
  by_cases h0 : k = 0
  · rw [if_pos h0, h0, ω_zero]; apply Complex.ext <;> simp
  by_cases h1 : k = q
  · rw [if_neg h0, if_pos h1, h1, v1]; apply Complex.ext <;> simp
  by_cases h2 : k = 2 * q
  · rw [if_neg h0, if_neg h1, if_pos h2, h2, v2]; apply Complex.ext <;> simp
  by_cases h3 : k = 3 * q
  · rw [if_neg h0, if_neg h1, if_neg h2, if_pos h3, h3, v3]; apply Complex.ext <;> simp
  rw [if_neg h0, if_neg h1, if_neg h2, if_neg h3]
  by_cases l1 : k < q
  · rw [if_pos l1, cosTab_eq, cosTab_sub _ q k l1.le, v1]; apply Complex.ext <;> simp
  by_cases l2 : k < 2 * q
  · rw [if_neg l1, if_pos l2, cosTab_sub _ (2 * q) k l2.le, cosTab_sub _ k q (not_lt.mp l1), v1, v2]
    apply Complex.ext <;> simp
  by_cases l3 : k < 3 * q
  · rw [if_neg l1, if_neg l2, if_pos l3, cosTab_sub _ k (2 * q) (not_lt.mp l2), cosTab_sub _ (3 * q) k l3.le, v2, v3]
    apply Complex.ext <;> simp
  rw [if_neg l1, if_neg l2, if_neg l3, cosTab_sub _ (4 * q) k hk.le, cosTab_sub _ k (3 * q) (not_lt.mp l3), v3, v4]
  apply Complex.ext <;> simp

/-! ## unconditional instances (non-vacuity of every hypothesis used above) -/

theorem plan60 : mkPlan 32 60 = .node 3 20 (.leaf 3) (.node 4 5 (.leaf 4) (.leaf 5)) := by decide +kernel

/-- the hypotheses `LitsOK` are satisfiable: the exact values the literals approximate -/
theorem litsOK_exact : LitsOK ⟨√2 / 2, √2 / 2, √3 / 2⟩ := by
  have h2 : 2 * (√2 / 2 : ℝ) ^ 2 = 1 := by rw [div_pow, Real.sq_sqrt (by norm_num)]; norm_num
  have h3 : 4 * (√3 / 2 : ℝ) ^ 2 = 3 := by rw [div_pow, Real.sq_sqrt (by norm_num)]; norm_num
  exact ⟨h2, by positivity, h2, by positivity, h3, by positivity⟩

/-- unconditional instance with a genuine two-level tree: n = 60 = 3 · (4 · 5), leaves `_dft_n3`, `_fft_n4`, `_dft_slow(5)` -/
theorem fftC_eq_60 (lit : Lits ℝ) (hl : LitsOK lit) : IsDft 60 (fftC lit 60) := by
  apply fftC_eq_partial lit hl 60 (by norm_num)
  · intro _ h _; exact absurd h (by decide)
  · intro _ _ h; exact absurd h (by decide)
  · intro _ _ _
    rw [plan60]
    refine ⟨by simp [Plan.WF, Plan.size], by simp [Plan.size], ?_⟩
    intro m hm
    simp only [Plan.leaves, List.cons_append, List.nil_append, List.mem_cons, List.not_mem_nil, or_false] at hm
    rcases hm with h | h | h <;> subst h
    · exact fftLeaf_eq lit hl 3 (by norm_num) (fun _ _ h => absurd h (by decide)) (fun _ h => absurd h (by decide))
    · exact fftLeaf_eq lit hl 4 (by norm_num) (fun h => absurd h (by decide)) (fun h => absurd h (by decide))
    · exact fftLeaf_eq lit hl 5 (by norm_num) (fun _ _ h => absurd h (by decide)) (fun _ h => absurd h (by decide))

/-- the plan of `n = 60` is well formed (instance of the hypotheses of `facfft_eq`) -/
example : Plan.WF (mkPlan 32 60) ∧ (mkPlan 32 60).size = 60 := by rw [plan60]; simp [Plan.WF, Plan.size]

/-- unconditional: real input of length 120 — packed transform on top of the complex plan of size 60 -/
theorem fftR_eq_120 (lit : Lits ℝ) (hl : LitsOK lit) (x : Array ℝ) (k : ℕ) (hk : k < 120) :
    Cx.toC (rd (fftR lit 120 x) k) = dft 120 (seqR x) k := by
  apply fftR_eq_partial lit hl 120 (by norm_num) _ _ _ x k hk
  · intro _ h; exact absurd h (by decide)
  · intro _ _ _; exact fftC_eq_60 lit hl
  · intro _ _ h; exact absurd rfl h

/-- unconditional: `fft(x, 60)` of an input of ANY length is the DFT of its padded / truncated version -/
theorem fftCN_eq_60 (lit : Lits ℝ) (hl : LitsOK lit) (x : Vec ℝ) (k : ℕ) (hk : k < 60) :
    Cx.toC (rd (fftCN lit 60 x) k) = dft 60 (padSeq 60 x) k :=
  fftCN_eq lit 60 (fftC_eq_60 lit hl) x k hk

end Dsp.C01
