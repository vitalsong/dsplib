import DspVerif.Props.C07
import DspVerif.Gen.StepsFir
import DspVerif.Gen.CtorFir
import DspVerif.Gen.StepsFftFilter
import DspVerif.Lib.RealFn
import DspVerif.Lib.GenBridge
import DspVerif.Lib.GenSlice
/-!
# C07 — bridge: the hand-written `FirFilter` model IS the regenerated code of `lib/fir.cpp` / `include/dsplib/fir.h`

`Gen/StepsFir.lean` is written by `tools/cxx2lean.py` on every check run (both instantiations, `T = real_t`, `cmplx_t`):
* `_conv<T>(const T* x, const T* h, T* r, int nh, int nx)` as `Gen.fir?ConvKernel` with its two nested loops
  (`r[i] = 0; r[i] += x[i + k] * conj(h[nh - k - 1])`: `fir?ConvKernel_loop1/2`), the raw pointers as the arrays they point into.
  The row lemmas `convR_row` / `convC_row` accept BOTH ways of writing the inner sum — accumulate into the cell `r[i]`, or
  accumulate into a local (`T acc = 0; … acc += px[k] * …; r[i] = acc;`, also through a shifted pointer `px = x + i`, which the
  translator turns into (array, offset)) — so that behaviour-preserving rewrite (false-alarm control `benign-conv-acc`) keeps
  PROOF green, while another tap index, sample index, start value, loop bound or a dropped `conj` breaks it in either style;
* `FirFilter<T>::conv(x, h)` as `Gen.fir?Conv` (`arr r(x.size() - h.size() + 1)`, the kernel call on `r.data()`);
* `FirFilter<T>::process(s)` as `Gen.fir?Process`: `x = _d | s` (`arrConcat`, pinned `operator|`), `r = conv(x, _h)`,
  `nd = _h.size() - 1`, `nx = x.size()`, and the history hand-over `_d = x.slice(nx - nd, nx)` as `arrSlice`
  (`Gen/StepsSlice.lean`), whose acceptance test is the REGENERATED slice constructor `Gen.BaseSlice.ctor` of unit `Slice` —
  so the generated `process` is `Except`-valued.
`Gen/StepsFftFilter.lean` carries the constructors and `process` of `FftFilter` (range-based sample loop, results emitted
through a moving raw pointer `pr += _n` into the result array allocated at its final length); the transforms, `nextpow2` and
`fft(x, n)` are parameters.

Proved here, over ℝ / `Cx ℝ`: generated `conv` = `Fir.conv` for every pair of arrays; for EVERY tap vector, every history of
`nh - 1` samples and every frame the generated `FirFilter<T>::process` does not throw and equals `Fir.process` (a one-tap
filter keeps no history: the guard `if (nd > 0)` around the hand-over is what keeps its slice `x.slice(nx, nx)` from being
rejected on every call); the generated `FftFilter` constructor and `process` are `fftInit` / `fftProcess`; T07.1 / T07.2
transported to the arrays the generated code returns.
-/
namespace Dsp.C07Gen
open Dsp Dsp.Fir Dsp.GenBridge

set_option linter.unusedSectionVars false
set_option linter.unusedSimpArgs false

theorem acc_eq_foldl {β : Type} [Add β] (z : β) (n : Nat) (f : Nat → β) :
    Fir.acc z n f = (List.range n).foldl (fun a i => a + f i) z := by
  induction n with
  | zero => rfl
  | succ n ih => simp [Fir.acc, ih, List.range_succ]

/-- `for (k < n) a[i] = g(a[i], k);` for ANY loop body `f` that does this on the counter values `k < n`: the cell ends up holding the
value accumulated from its old content (the accumulate-into-the-cell way of writing a sum) -/
theorem foldl_range_acc_cell {β : Type} (d : β) (g : β → Nat → β) (i n : Nat) (f : Array β → Nat → Array β)
    (h : ∀ a k, k < n → f a k = a.setIfInBounds i (g (a.getD i d) k)) (a : Array β) :
    (List.range n).foldl f a = a.setIfInBounds i ((List.range n).foldl g (a.getD i d)) := by
  rw [foldl_range_congr f _ n h, foldl_acc_cell d g i]

/-- `a[i] = z; for (k ∈ l) a[i] = g(a[i], k);` leaves the array that `acc = z; for (k ∈ l) acc = g(acc, k); a[i] = acc;` leaves
(accumulate-into-the-cell = accumulate-into-a-local-then-store), also when `i` is outside the array (both leave it alone) -/
theorem set_foldl_acc_init {β : Type} (d z : β) (r : Array β) (i : Nat) (g : β → Nat → β) (l : List Nat) :
    (r.setIfInBounds i z).setIfInBounds i (l.foldl g ((r.setIfInBounds i z).getD i d)) = r.setIfInBounds i (l.foldl g z) := by
  rw [Array.setIfInBounds_setIfInBounds]
  by_cases hi : i < r.size
  · rw [getD_setIfInBounds]; simp [hi]
  · rw [Array.setIfInBounds_eq_of_size_le (Nat.le_of_not_lt hi), Array.setIfInBounds_eq_of_size_le (Nat.le_of_not_lt hi)]

/-- `for (i < nr) r[i] = Σ_k …` on the freshly allocated result, for either sample type: a loop body that writes row `i` as `_conv`
specifies computes `Fir.conv` -/
theorem conv_of_rows {β : Type} [Add β] [Mul β] (z : β) (cj : β → β) (x h : Array β) (row : Array β → ℕ → Array β)
    (hrow : ∀ r i, row r i = r.setIfInBounds i (Fir.acc z h.size fun k => x.getD (i + k) z * cj (h.getD (h.size - k - 1) z))) :
    (List.range (x.size + 1 - h.size)).foldl row (Array.replicate (x.size + 1 - h.size) z) = Fir.conv z cj x h := by
  rw [show row = fun r i => r.setIfInBounds i
      ((fun (_ : β) i => Fir.acc z h.size fun k => x.getD (i + k) z * cj (h.getD (h.size - k - 1) z)) (r.getD i z) i) from
    funext fun r => funext fun i => hrow r i]
  exact foldl_set_eq_ofFn z (fun (_ : β) i => Fir.acc z h.size fun k => x.getD (i + k) z * cj (h.getD (h.size - k - 1) z))
    _ _ Array.size_replicate

noncomputable section

/-- row `i` of `_conv<real_t>`: `r[i] = Σ_{k < nh} x[i + k] * conj(h[nh - k - 1])`, summed in the order `k = 0, 1, …` from `0`.
The proof does not depend on HOW the C++ writes the sum — it accepts both
* accumulate into the cell: `r[i] = 0; for (k < nh) r[i] += x[i + k] * conj(h[nh - k - 1]);` (`foldl_range_acc_cell`), and
* accumulate into a local, store afterwards: `T acc = 0; for (k < nh) acc += …; r[i] = acc;`, `x[i + k]` possibly read through a
  shifted pointer `px = x + i` as `px[k]` (`foldl_range_congr`),
nor on the order / names of the generated loop function's arguments (it is found by unification), nor on the spelling of the
three index expressions (they only have to DENOTE `i`, `i + k`, `nh - k - 1` for `k < nh`: `omega`).  What it does depend on:
the operands, their order, the zero start value, the bounds of both loops. -/
theorem convR_row (x h r : Array ℝ) (i : ℕ) :
    Gen.firRConvKernel_loop2 (h.size : Int) x h r i =
      r.setIfInBounds i (Fir.acc (0 : ℝ) h.size fun k => x.getD (i + k) 0 * h.getD (h.size - k - 1) 0) := by
  unfold Gen.firRConvKernel_loop2
  simp only [Int.ofNat_eq_natCast, Int.toNat_natCast, ptrSet_natCast, fn_ofInt, Int.cast_zero]
  rw [acc_eq_foldl]
  first
  | -- accumulate into the cell `r[i]`
    (refine Eq.trans (foldl_range_acc_cell (0 : ℝ) (fun v k => v + x.getD (i + k) 0 * h.getD (h.size - k - 1) 0) i h.size _ ?_ _)
       (set_foldl_acc_init (0 : ℝ) 0 r i _ _)
     intro a k hk
     simp only [Gen.firRConvKernel_loop1, Gen.zeroR, Gen.conjr, Int.ofNat_eq_natCast, fn_ofInt, Int.cast_zero]
     -- whatever way the C++ spells the three index expressions: they denote `i`, `i + k`, `nh - k - 1`
     rw [ptrGet_eq 0 x _ (i + k) (by omega), ptrGet_eq 0 h _ (h.size - k - 1) (by omega), ptrGet_eq 0 a _ i (by omega),
       ptrSet_eq a _ i _ (by omega)]
     first | done | rfl | (congr 2; ring))
  | -- accumulate into a local scalar, store it into `r[i]` after the loop
    (refine congrArg (r.setIfInBounds i) (foldl_range_congr _ (fun v k => v + x.getD (i + k) 0 * h.getD (h.size - k - 1) 0) h.size ?_ 0)
     intro v k hk
     simp only [Gen.firRConvKernel_loop1, Gen.zeroR, Gen.conjr, Int.ofNat_eq_natCast, fn_ofInt, Int.cast_zero]
     rw [ptrGet_eq 0 x _ (i + k) (by omega), ptrGet_eq 0 h _ (h.size - k - 1) (by omega)]
     first | done | rfl | ring)

/-- **`FirFilter<real_t>::conv`, generated = model** for every pair of arrays (the empty result included) -/
theorem firRConv_eq (x h : Array ℝ) : Gen.firRConv x h = Fir.conv (0 : ℝ) id x h := by
  unfold Gen.firRConv Gen.firRConvKernel
  simp only [Gen.arrSize, Int.ofNat_eq_natCast, Gen.arrNew, Gen.zeroR, fn_ofInt, Int.cast_zero]
  rw [show (((x.size : Int) - (h.size : Int)) + (1 : Int)).toNat = x.size + 1 - h.size by omega]
  exact conv_of_rows 0 id x h _ (convR_row x h)

theorem natAbs_cast_sub (a b : ℕ) (h : b ≤ a) : (Int.ofNat (Int.natAbs ((a : Int) - ((a : Int) - (b : Int))))) = (b : Int) := by
  have : ((a : Int) - ((a : Int) - (b : Int))) = (b : Int) := by ring
  rw [this]; simp

/-- the hand-over `_d = x.slice(nx - nd, nx)` in the form `process` writes it, `nd = nh - 1 ≥ 1` samples kept of `x = _d | s`:
accepted by the regenerated slice constructor, and it denotes the last `nd` elements -/
theorem arrSlice_history {β : Type} (d x h : Array β) (hd : d.size = h.size - 1) (hh : 2 ≤ h.size) :
    Gen.arrSlice (d ++ x) (((d ++ x).size : Int) - ((h.size : Int) - (1 : Int))) ((d ++ x).size : Int) =
      .ok ((d ++ x).extract ((d ++ x).size - (h.size - 1)) (d ++ x).size) := by
  have hs := Array.size_append (xs := d) (ys := x)
  exact arrSlice_range _ _ _ ((d ++ x).size - (h.size - 1)) (d ++ x).size (by omega) rfl (by omega) le_rfl (by omega)

/-- at most one tap: no history is kept, and the model's `extract` leaves the empty `_d` alone as well -/
theorem history_one_tap {β : Type} (d x h : Array β) (hd : d.size = h.size - 1) (hh : ¬ 2 ≤ h.size) :
    (d ++ x).extract ((d ++ x).size - (h.size - 1)) (d ++ x).size = d := by
  have hd0 : d = #[] := Array.eq_empty_of_size_eq_zero (by omega)
  have : h.size - 1 = 0 := by omega
  simp [hd0, this]

def toGenR (s : Fir.State ℝ) : Gen.FirFilterRState ℝ := ⟨s.h, s.d⟩

/-- **bridge, `FirFilter<real_t>::process`, one call.**  For EVERY tap vector, every history buffer of `nh - 1` samples and
every frame (the empty one included): the generated `process` — `_d | s`, the generated `conv`, and, when there is a history
to keep (`nd > 0`), the hand-over `_d = x.slice(nx - nd, nx)`, whose acceptance is decided by the REGENERATED slice
constructor — does not throw and returns exactly the model's `Fir.process`. -/
theorem firRProcess_eq (s : Fir.State ℝ) (x : Array ℝ) (hd : s.d.size = s.h.size - 1) :
    Gen.firRProcess (toGenR s) x = .ok (toGenR (Fir.process (0 : ℝ) id s x).1, (Fir.process (0 : ℝ) id s x).2) := by
  unfold Gen.firRProcess toGenR Fir.process
  simp only [Gen.arrConcat, Gen.arrSize, Int.ofNat_eq_natCast, firRConv_eq]
  by_cases hh : 2 ≤ s.h.size
  · rw [if_pos (by omega), arrSlice_history s.d x s.h hd hh]
  · rw [if_neg (by omega), history_one_tap s.d x s.h hd hh]

/-- a ONE-tap `FirFilter` works (thanks to the guard `if (nd > 0)` around the hand-over; unguarded, the slice `x.slice(nx, nx)`
is rejected on every call): no history, the output is the generated `conv` of the frame with the one tap and has the
frame's length -/
theorem firRProcess_one_tap (h0 : ℝ) (x : Array ℝ) :
    Gen.firRProcess ⟨#[h0], #[]⟩ x = .ok (⟨#[h0], #[]⟩, Fir.conv (0 : ℝ) id x #[h0]) ∧
    (Fir.conv (0 : ℝ) id x #[h0]).size = x.size := by
  constructor
  · have := firRProcess_eq ⟨#[h0], #[]⟩ x (by simp)
    simpa [toGenR, Fir.process] using this
  · simp [Fir.conv]

/-- **T07.1 transported to the regenerated code, `FirFilter<real_t>`:** started from rest (`_d` zero-filled), for every tap
vector with at least one tap, the GENERATED `process` returns `y[i] = Σ_{k ≤ i} h[k]·x[i-k]` (and as many outputs as inputs). -/
theorem gen_fir_eq_real (h x : Array ℝ) (hh : 1 ≤ h.size) :
    ∃ st y, Gen.firRProcess ⟨h, Array.replicate (h.size - 1) 0⟩ x = .ok (st, y) ∧ y.size = x.size ∧
      ∀ i, i < x.size → y.getD i 0 = ∑ k ∈ Finset.range h.size, if k ≤ i then h.getD k 0 * x.getD (i - k) 0 else 0 := by
  exact ⟨_, _, firRProcess_eq (Fir.init (0 : ℝ) h) x Array.size_replicate, C07.fir_eq id h x hh⟩

/-! ## `T = cmplx_t` -/

theorem gzeroC_eq : (Gen.zeroC : Cx ℝ) = 0 := by apply Cx.ext' <;> simp [Gen.zeroC]
theorem fill0C_eq : (Cx.mk (Fn.ofInt (0 : Int)) (Fn.ofInt (0 : Int)) : Cx ℝ) = 0 := by apply Cx.ext' <;> simp

/-- row `i` of `_conv<cmplx_t>` (as `convR_row`: both ways of writing the sum are accepted; the taps enter conjugated) -/
theorem convC_row (x h r : Array (Cx ℝ)) (i : ℕ) :
    Gen.firCConvKernel_loop2 (h.size : Int) x h r i =
      r.setIfInBounds i (Fir.acc (0 : Cx ℝ) h.size fun k => x.getD (i + k) 0 * Cx.conj (h.getD (h.size - k - 1) 0)) := by
  unfold Gen.firCConvKernel_loop2
  simp only [Int.ofNat_eq_natCast, Int.toNat_natCast, ptrSet_natCast, fill0C_eq]
  rw [acc_eq_foldl]
  first
  | -- accumulate into the cell `r[i]`
    (refine Eq.trans (foldl_range_acc_cell (0 : Cx ℝ)
         (fun v k => v + x.getD (i + k) 0 * Cx.conj (h.getD (h.size - k - 1) 0)) i h.size _ ?_ _)
       (set_foldl_acc_init (0 : Cx ℝ) 0 r i _ _)
     intro a k hk
     simp only [Gen.firCConvKernel_loop1, gzeroC_eq, Gen.conjc, Cx.addAssign, Int.ofNat_eq_natCast]
     rw [ptrGet_eq 0 x _ (i + k) (by omega), ptrGet_eq 0 h _ (h.size - k - 1) (by omega), ptrGet_eq 0 a _ i (by omega),
       ptrSet_eq a _ i _ (by omega)]
     first | done | rfl)
  | -- accumulate into a local scalar, store it into `r[i]` after the loop
    (refine congrArg (r.setIfInBounds i)
       (foldl_range_congr _ (fun v k => v + x.getD (i + k) 0 * Cx.conj (h.getD (h.size - k - 1) 0)) h.size ?_ 0)
     intro v k hk
     simp only [Gen.firCConvKernel_loop1, gzeroC_eq, Gen.conjc, Cx.addAssign, Int.ofNat_eq_natCast]
     rw [ptrGet_eq 0 x _ (i + k) (by omega), ptrGet_eq 0 h _ (h.size - k - 1) (by omega)]
     first | done | rfl)

/-- **`FirFilter<cmplx_t>::conv`, generated = model** (taps enter conjugated: `Cx.conj`, the regenerated `cmplx_t::conj`) -/
theorem firCConv_eq (x h : Array (Cx ℝ)) : Gen.firCConv x h = Fir.conv (0 : Cx ℝ) Cx.conj x h := by
  unfold Gen.firCConv Gen.firCConvKernel
  simp only [Gen.arrSize, Int.ofNat_eq_natCast, Gen.arrNew, gzeroC_eq]
  rw [show (((x.size : Int) - (h.size : Int)) + (1 : Int)).toNat = x.size + 1 - h.size by omega]
  exact conv_of_rows 0 Cx.conj x h _ (convC_row x h)

def toGenC (s : Fir.State (Cx ℝ)) : Gen.FirFilterCState ℝ := ⟨s.h, s.d⟩

/-- **bridge, `FirFilter<cmplx_t>::process`, one call** (as `firRProcess_eq`) -/
theorem firCProcess_eq (s : Fir.State (Cx ℝ)) (x : Array (Cx ℝ)) (hd : s.d.size = s.h.size - 1) :
    Gen.firCProcess (toGenC s) x =
      .ok (toGenC (Fir.process (0 : Cx ℝ) Cx.conj s x).1, (Fir.process (0 : Cx ℝ) Cx.conj s x).2) := by
  unfold Gen.firCProcess toGenC Fir.process
  simp only [Gen.arrConcat, Gen.arrSize, Int.ofNat_eq_natCast, firCConv_eq]
  by_cases hh : 2 ≤ s.h.size
  · rw [if_pos (by omega), arrSlice_history s.d x s.h hd hh]
  · rw [if_neg (by omega), history_one_tap s.d x s.h hd hh]

/-- **T07.1 transported, `FirFilter<cmplx_t>`:** from rest, at least one tap: the GENERATED `process` returns
`y[i] = Σ_{k ≤ i} conj(h[k])·x[i-k]` (read in `ℂ` through `toC`) -/
theorem gen_fir_eq_cmplx (h x : Array (Cx ℝ)) (hh : 1 ≤ h.size) :
    ∃ st y, Gen.firCProcess ⟨h, Array.replicate (h.size - 1) 0⟩ x = .ok (st, y) ∧ y.size = x.size ∧
      ∀ i, i < x.size → Cx.toC (y.getD i 0) =
        ∑ k ∈ Finset.range h.size, if k ≤ i then (starRingEnd ℂ) (Cx.toC (h.getD k 0)) * Cx.toC (x.getD (i - k) 0) else 0 := by
  have := C07.fir_eq_cmplx h x hh
  unfold firProcessC firInitC at this
  rw [Cx.zeroC_eq] at this
  exact ⟨_, _, firCProcess_eq (Fir.init (0 : Cx ℝ) h) x Array.size_replicate, this⟩

/-- framing, real: two successive generated calls = the model's two calls (the hand-over through `_d` is the model's) -/
theorem firRProcess_two (s : Fir.State ℝ) (a b : Array ℝ) (hd : s.d.size = s.h.size - 1) (hh : 1 ≤ s.h.size) :
    (Gen.firRProcess (toGenR s) a).bind (fun r => Gen.firRProcess r.1 b) =
      .ok (toGenR (Fir.process (0 : ℝ) id (Fir.process (0 : ℝ) id s a).1 b).1,
           (Fir.process (0 : ℝ) id (Fir.process (0 : ℝ) id s a).1 b).2) := by
  rw [firRProcess_eq s a hd]
  have hd' : (Fir.process (0 : ℝ) id s a).1.d.size = (Fir.process (0 : ℝ) id s a).1.h.size - 1 := by
    simp only [Fir.process, Array.size_extract, Array.size_append, hd]; omega
  exact firRProcess_eq _ b hd'

end
/-! ## Constructor `FirFilter<T>::FirFilter(const base_array<T>& h)` (regenerated: `Gen/CtorFir.lean`)

`_h(h)` (a copy of the taps), `_d(h.size() - 1)` (zero-filled history of `nh - 1` samples). -/

noncomputable section

/-- **bridge, `FirFilter<real_t>` constructor:** for EVERY tap vector (the empty one included: `arrNew` of `-1` cells is empty, where
C++ throws `std::length_error`) the generated constructor leaves the model's `Fir.init`: "started from rest" -/
theorem firRCtor_eq (h : Array ℝ) : Gen.firRCtor h = toGenR (Fir.init (0 : ℝ) h) := by
  have h1 : ((h.size : Int) - 1).toNat = h.size - 1 := by omega
  simp [Gen.firRCtor, toGenR, Fir.init, Gen.arrNew, Gen.arrSize, Gen.zeroR, h1]

theorem firCCtor_eq (h : Array (Cx ℝ)) : Gen.firCCtor h = toGenC (Fir.init (0 : Cx ℝ) h) := by
  have h1 : ((h.size : Int) - 1).toNat = h.size - 1 := by omega
  simp [Gen.firCCtor, toGenC, Fir.init, Gen.arrNew, Gen.arrSize, gzeroC_eq, h1]

/-- **T07.1 from the GENERATED constructor through the GENERATED `process`, `FirFilter<real_t>`:** for every tap vector with at
least one tap, constructing by the regenerated constructor and calling the regenerated `process` returns
`y[i] = Σ_{k ≤ i} h[k]·x[i-k]` (and as many outputs as inputs). -/
theorem gen_fir_from_ctor_real (h x : Array ℝ) (hh : 1 ≤ h.size) :
    ∃ st y, Gen.firRProcess (Gen.firRCtor h) x = .ok (st, y) ∧ y.size = x.size ∧
      ∀ i, i < x.size → y.getD i 0 = ∑ k ∈ Finset.range h.size, if k ≤ i then h.getD k 0 * x.getD (i - k) 0 else 0 := by
  rw [firRCtor_eq]
  exact gen_fir_eq_real h x hh

/-- … and `FirFilter<cmplx_t>` -/
theorem gen_fir_from_ctor_cmplx (h x : Array (Cx ℝ)) (hh : 1 ≤ h.size) :
    ∃ st y, Gen.firCProcess (Gen.firCCtor h) x = .ok (st, y) ∧ y.size = x.size ∧
      ∀ i, i < x.size → Cx.toC (y.getD i 0) =
        ∑ k ∈ Finset.range h.size, if k ≤ i then (starRingEnd ℂ) (Cx.toC (h.getD k 0)) * Cx.toC (x.getD (i - k) 0) else 0 := by
  rw [firCCtor_eq]
  exact gen_fir_eq_cmplx h x hh

end

/-! ## Constructors and `process` of `FftFilter` (regenerated: `Gen/StepsFftFilter.lean`) -/

noncomputable section

theorem succ_div_mod (t n : ℕ) (hn : 0 < n) :
    (t % n + 1 = n → (t + 1) / n = t / n + 1 ∧ (t + 1) % n = 0) ∧
    (t % n + 1 ≠ n → (t + 1) / n = t / n ∧ (t + 1) % n = t % n + 1) := by
  have h1 := Nat.div_add_mod t n
  have h2 := Nat.mod_lt t hn
  constructor
  · intro h
    have e : t + 1 = n * (t / n + 1) := by rw [Nat.mul_add, Nat.mul_one]; omega
    rw [e]
    exact ⟨Nat.mul_div_cancel_left _ hn, Nat.mul_mod_right _ _⟩
  · intro h
    have hlt : t % n + 1 < n := by omega
    have e : t + 1 = n * (t / n) + (t % n + 1) := by omega
    rw [e]
    constructor
    · rw [Nat.mul_add_div hn, Nat.div_eq_of_lt hlt]; simp
    · rw [Nat.mul_add_mod, Nat.mod_eq_of_lt hlt]

/-! ### `FftFilter::process` -/

def toGenF (s : FftState (Cx ℝ)) : Gen.FftFilterState ℝ := ⟨s.x, s.H, s.olap, (s.nx : Int), (s.m : Int), (s.n : Int)⟩

/-- sizes and counters that the constructor establishes and the sample loop keeps: `_n ≥ 1`, `_nx < _n`, `_olap` has `_m - 1` cells,
`_m - 1 ≤ _n` (the overlap fits into one block) -/
def SInv (s : FftState (Cx ℝ)) : Prop := 1 ≤ s.n ∧ s.nx < s.n ∧ s.olap.size = s.m - 1 ∧ s.m ≤ s.n + 1

/-- `arr_cmplx * arr_cmplx` (generated value) is the model's element-wise product -/
theorem arrMulCC_eq (a b : Array (Cx ℝ)) : Gen.arrMulCC a b = mulv (0 : Cx ℝ) a b := by
  unfold Gen.arrMulCC mulv
  apply Array.ext
  · simp
  · intro i h1 h2
    simp only [Array.size_ofFn] at h1
    simp [Cx.mulAssign, gzeroC_eq, Array.getD_eq_getD_getElem?]

/-- first inner loop of a completed block: `pr[i] = ry[i]`, `i < _n` -/
theorem fft_loop1 (r ry : Array (Cx ℝ)) (p n : ℕ) :
    ((List.range n).foldl (Gen.fftFilterProcess_loop1 (p : Int) ry) r).size = r.size ∧
    ∀ j, ((List.range n).foldl (Gen.fftFilterProcess_loop1 (p : Int) ry) r).getD j 0 =
      if p ≤ j ∧ j < p + n ∧ j < r.size then ry.getD (j - p) 0 else r.getD j 0 := by
  have hf : (Gen.fftFilterProcess_loop1 (p : Int) ry : Array (Cx ℝ) → Nat → Array (Cx ℝ)) =
      fun a k => a.setIfInBounds (p + k) ((fun (k : Nat) (_ : Cx ℝ) => ry.getD k 0) k (a.getD (p + k) 0)) := by
    funext a k
    simp only [Gen.fftFilterProcess_loop1, Int.ofNat_eq_natCast, arrGet_natCast, gzeroC_eq]
    exact ptrSet_eq _ _ (p + k) _ (by push_cast; ring)
  rw [hf]
  exact foldl_cell_row (0 : Cx ℝ) (fun (k : Nat) (_ : Cx ℝ) => ry.getD k 0) p r n

/-- second inner loop of a completed block: `pr[i] += _olap[i]; _olap[i] = ry[i + _n]`, `i < _m - 1` — the two updates touch different
objects and iteration `i` reads `_olap[i]` before any iteration writes it: the loop is the two loops run one after the other -/
theorem fft_loop2 (r ry : Array (Cx ℝ)) (g : Gen.FftFilterState ℝ) (p n : ℕ) (hn : g.n = (n : Int)) :
    ∀ c, c ≤ g.olap.size →
      ((List.range c).foldl (Gen.fftFilterProcess_loop2 (p : Int) ry) (r, g)).2 =
        { g with olap := (List.range c).foldl (fun (o : Array (Cx ℝ)) i => o.setIfInBounds i ((fun (_ : Cx ℝ) (i : Nat) => ry.getD (i + n) 0) (o.getD i 0) i)) g.olap } ∧
      ((List.range c).foldl (Gen.fftFilterProcess_loop2 (p : Int) ry) (r, g)).1 =
        (List.range c).foldl (fun (a : Array (Cx ℝ)) k =>
          a.setIfInBounds (p + k) ((fun (k : Nat) (old : Cx ℝ) => old + g.olap.getD k 0) k (a.getD (p + k) 0))) r := by
  intro c
  induction c with
  | zero => intro _; exact ⟨rfl, rfl⟩
  | succ c ih =>
    intro hc
    obtain ⟨h1, h2⟩ := ih (by omega)
    rw [List.range_succ, List.foldl_append, List.foldl_append, List.foldl_append]
    simp only [List.foldl_cons, List.foldl_nil]
    generalize hG : (List.range c).foldl (Gen.fftFilterProcess_loop2 (p : Int) ry) (r, g) = G at h1 h2 ⊢
    obtain ⟨Gr, Gs⟩ := G
    simp only at h1 h2
    subst h1 h2
    have hold := (foldl_set_inv (0 : Cx ℝ) (fun (_ : Cx ℝ) (i : Nat) => ry.getD (i + n) 0) g.olap.size g.olap rfl c (by omega)).2 c
    rw [if_neg (by omega)] at hold
    simp only [Gen.fftFilterProcess_loop2, Int.ofNat_eq_natCast, arrGet_natCast, arrSet_natCast, gzeroC_eq, Cx.addAssign, hn]
    refine ⟨?_, ?_⟩
    · -- `ry[i + _n]`, however the index is spelled
      first
        | (congr 1; done)
        | (congr 1; rw [arrGet_eq _ _ _ (c + n) (by push_cast; ring)])
    · rw [ptrSet_eq _ _ (p + c) _ (by push_cast; ring), ptrGet_eq _ _ _ (p + c) (by push_cast; ring), hold]

/-- the cells a completed block writes: `fftBlock` at `[p, p + n)`, everything else untouched; the new `_olap` is `fftTail` -/
theorem fft_block (r ry : Array (Cx ℝ)) (g : Gen.FftFilterState ℝ) (p n m : ℕ) (hn : g.n = (n : Int))
    (hol : g.olap.size = m - 1) (hmn : m ≤ n + 1) (hfit : p + n ≤ r.size) :
    let R := (List.range (m - 1)).foldl (Gen.fftFilterProcess_loop2 (p : Int) ry)
      ((List.range n).foldl (Gen.fftFilterProcess_loop1 (p : Int) ry) r, g)
    R.2 = { g with olap := fftTail (0 : Cx ℝ) n m ry } ∧ R.1.size = r.size ∧
      ∀ j, R.1.getD j 0 = if p ≤ j ∧ j < p + n then (fftBlock (0 : Cx ℝ) n m ry g.olap).getD (j - p) 0 else r.getD j 0 := by
  intro R
  obtain ⟨a1, a2⟩ := fft_loop1 r ry p n
  obtain ⟨b1, b2⟩ := fft_loop2 ((List.range n).foldl (Gen.fftFilterProcess_loop1 (p : Int) ry) r) ry g p n hn (m - 1) (by omega)
  obtain ⟨c1, c2⟩ := foldl_cell_row (0 : Cx ℝ) (fun (k : Nat) (old : Cx ℝ) => old + g.olap.getD k 0) p
    ((List.range n).foldl (Gen.fftFilterProcess_loop1 (p : Int) ry) r) (m - 1)
  refine ⟨?_, ?_, ?_⟩
  · show R.2 = _
    rw [b1]
    congr 1
    have := foldl_set_eq_ofFn (0 : Cx ℝ) (fun (_ : Cx ℝ) (i : Nat) => ry.getD (i + n) 0) g.olap.size g.olap rfl
    rw [hol] at this
    rw [this]
    rfl
  · show R.1.size = _
    rw [b2, c1, a1]
  · intro j
    show R.1.getD j 0 = _
    rw [b2, c2 j, a1, a2 j]
    unfold fftBlock
    by_cases hj : p ≤ j ∧ j < p + n
    · have hjr : j < r.size := by omega
      rw [if_pos hj, getD_ofFn, dif_pos (by omega)]
      by_cases hk : j - p < m - 1
      · rw [if_pos ⟨hj.1, by omega, hjr⟩, if_pos ⟨hj.1, hj.2, hjr⟩]
        simp only [hk, if_true]
      · rw [if_neg (by omega), if_pos ⟨hj.1, hj.2, hjr⟩]
        simp only [hk, if_false]
    · rw [if_neg hj]
      have h1 : ¬ (p ≤ j ∧ j < p + (m - 1) ∧ j < r.size) := by omega
      have h2 : ¬ (p ≤ j ∧ j < p + n ∧ j < r.size) := fun c => hj ⟨c.1, c.2.1⟩
      rw [if_neg h1, if_neg h2]

/-- the relation the sample loop keeps between the generated accumulator `(members, r, pr - r.data())` and the model's `(state, out)`
after `k` samples: same members, the output pointer is at `|out|`, `r` (allocated with its final length `N`) agrees with `out` on
`[0, |out|)`, and the block / position counters are `(k + nx₀) div n`, `(k + nx₀) mod n` -/
def FRel (N n m nx0 : ℕ) (k : ℕ) (G : Gen.FftFilterState ℝ × Array (Cx ℝ) × Int) (so : FftState (Cx ℝ) × Array (Cx ℝ)) : Prop :=
  G.1 = toGenF so.1 ∧ G.2.2 = (so.2.size : Int) ∧ G.2.1.size = N ∧ (∀ j, j < so.2.size → G.2.1.getD j 0 = so.2.getD j 0) ∧
    SInv so.1 ∧ so.1.n = n ∧ so.1.m = m ∧ so.2.size = (k + nx0) / n * n ∧ so.1.nx = (k + nx0) % n

theorem fft_step_rel (fft ifft : Array (Cx ℝ) → Array (Cx ℝ)) (xs : Array (Cx ℝ)) (n m nx0 : ℕ) (k : ℕ) (hk : k < xs.size)
    (G : Gen.FftFilterState ℝ × Array (Cx ℝ) × Int) (so : FftState (Cx ℝ) × Array (Cx ℝ))
    (h : FRel ((xs.size + nx0) / n * n) n m nx0 k G so) :
    FRel ((xs.size + nx0) / n * n) n m nx0 (k + 1) (Gen.fftFilterProcess_loop3 xs fft ifft G k)
      (fftStep (0 : Cx ℝ) fft ifft so (xs.getD k 0)) := by
  obtain ⟨G1, Gr, Gp⟩ := G
  obtain ⟨s, out⟩ := so
  obtain ⟨e1, e2, e3, e4, hinv, en, em, esz, enx⟩ := h
  simp only at e1 e2 e3 e4 en em esz enx
  obtain ⟨i1, i2, i3, i4⟩ := hinv
  simp only at i1 i2 i3 i4
  subst e1
  have hn0 : 0 < n := by omega
  obtain ⟨dA, dB⟩ := succ_div_mod (k + nx0) n hn0
  have hval : Gen.ptrGet (Gen.zeroC : Cx ℝ) xs (Int.ofNat k) = xs.getD k 0 := by
    rw [Int.ofNat_eq_natCast, ptrGet_natCast, gzeroC_eq]
  unfold Gen.fftFilterProcess_loop3 fftStep
  simp only [hval, toGenF, arrSet_natCast]
  by_cases hw : s.nx + 1 = s.n
  · -- a block is complete
    have hw' : ((s.nx : Int) + 1 = (s.n : Int)) := by exact_mod_cast hw
    obtain ⟨d1, d2⟩ := dA (by omega)
    rw [if_pos hw', if_pos hw]
    simp only [arrMulCC_eq, Int.toNat_natCast]
    have hm1 : ((s.m : Int) - 1).toNat = s.m - 1 := by omega
    rw [hm1]
    set ry := ifft (mulv (0 : Cx ℝ) (fft (s.x.setIfInBounds s.nx (xs.getD k 0))) s.H) with hry
    have hfit : out.size + s.n ≤ Gr.size := by
      rw [e3, esz, en]
      have : (k + nx0) / n + 1 ≤ (xs.size + nx0) / n := by
        rw [← d1]; exact Nat.div_le_div_right (by omega)
      calc (k + nx0) / n * n + n = ((k + nx0) / n + 1) * n := by ring
        _ ≤ (xs.size + nx0) / n * n := Nat.mul_le_mul_right n this
    have hbs : (fftBlock (0 : Cx ℝ) s.n s.m ry s.olap).size = s.n := Array.size_ofFn
    obtain ⟨b1, b2, b3⟩ := fft_block Gr ry
      ⟨s.x.setIfInBounds s.nx (xs.getD k 0), s.H, s.olap, (s.nx : Int) + 1, (s.m : Int), (s.n : Int)⟩ out.size s.n s.m rfl i3 i4 hfit
    rw [e2]
    simp only at b1 b2 b3
    refine ⟨?_, ?_, ?_, ?_, ?_, en, em, ?_, ?_⟩
    · simp only [b1]; rfl
    · simp only [b1, Array.size_append]
      rw [hbs]; push_cast; ring
    · simp only [b2, e3]
    · intro j hj
      simp only [Array.size_append] at hj
      rw [hbs] at hj
      simp only
      rw [b3 j]
      by_cases hjo : j < out.size
      · rw [if_neg (by omega), e4 j hjo, getD_append, if_pos hjo]
      · rw [if_pos (by omega), getD_append, if_neg hjo]
    · exact ⟨i1, by show 0 < s.n; omega, Array.size_ofFn, i4⟩
    · simp only [Array.size_append]
      rw [hbs, esz, show k + 1 + nx0 = k + nx0 + 1 by ring, d1, en]; ring
    · show 0 = (k + 1 + nx0) % n
      rw [show k + 1 + nx0 = k + nx0 + 1 by ring, d2]
  · have hw' : ¬ ((s.nx : Int) + 1 = (s.n : Int)) := by intro e; exact hw (by exact_mod_cast e)
    obtain ⟨d1, d2⟩ := dB (by omega)
    rw [if_neg hw', if_neg hw]
    refine ⟨?_, e2, e3, e4, ⟨i1, by show s.nx + 1 < s.n; omega, i3, i4⟩, en, em, ?_, ?_⟩
    · simp only [toGenF]; push_cast; rfl
    · show out.size = (k + 1 + nx0) / n * n
      rw [show k + 1 + nx0 = k + nx0 + 1 by ring, d1]; exact esz
    · show s.nx + 1 = (k + 1 + nx0) % n
      rw [show k + 1 + nx0 = k + nx0 + 1 by ring, d2, enx]

/-- **bridge, `FftFilter::process(const arr_cmplx&)`, one call.**  For every pair of transforms (parameters), every state with the
structural invariant `SInv` (which the constructor establishes: `fftInit_SInv`) and every frame: the GENERATED `process` — the output
array allocated at its final length, the range-based sample loop, the block buffer `_x[_nx]`, and for every completed block the
transforms, the two copy loops through the moving output pointer `pr` and the overlap hand-over — returns the model's `fftProcess`
(same members, same output). -/
theorem fftFilterProcess_eq (fft ifft : Array (Cx ℝ) → Array (Cx ℝ)) (s : FftState (Cx ℝ)) (hs : SInv s) (xs : Array (Cx ℝ)) :
    Gen.fftFilterProcess fft ifft (toGenF s) xs =
      (toGenF (fftProcess (0 : Cx ℝ) fft ifft s xs).1, (fftProcess (0 : Cx ℝ) fft ifft s xs).2) := by
  unfold Gen.fftFilterProcess fftProcess
  rw [array_foldl_eq_range (0 : Cx ℝ) (fftStep (0 : Cx ℝ) fft ifft) xs (s, #[])]
  simp only [Gen.arrSize, Int.ofNat_eq_natCast, Int.toNat_natCast, toGenF, Gen.arrNew]
  have hn0 : 0 < s.n := hs.1
  have hN : (Int.tdiv ((xs.size : Int) + (s.nx : Int)) (s.n : Int) * (s.n : Int)).toNat = (xs.size + s.nx) / s.n * s.n := by
    rw [tdiv_eq _ (xs.size + s.nx) s.n (Nat.cast_add _ _).symm, ← Nat.cast_mul]
    exact Int.toNat_natCast _
  have hN' : (Int.tdiv ((s.nx : Int) + (xs.size : Int)) (s.n : Int) * (s.n : Int)).toNat = (xs.size + s.nx) / s.n * s.n := by
    rw [add_comm]; exact hN
  -- the length of the result, whichever way round the C++ adds `x.size()` and `_nx`
  first
    | rw [hN]
    | rw [hN']
  have key := foldl_range_rel (FRel ((xs.size + s.nx) / s.n * s.n) s.n s.m s.nx)
    (Gen.fftFilterProcess_loop3 xs fft ifft) (fun acc k => fftStep (0 : Cx ℝ) fft ifft acc (xs.getD k 0)) xs.size
    (fun k a b hk hab => fft_step_rel fft ifft xs s.n s.m s.nx k hk a b hab)
    (toGenF s, Array.replicate ((xs.size + s.nx) / s.n * s.n) Gen.zeroC, (0 : Int)) (s, #[])
    ⟨rfl, by simp, by simp, by intro j hj; simp at hj, hs, rfl, rfl, by
      simp only [Array.size_empty, Nat.zero_add]
      rw [Nat.div_eq_of_lt hs.2.1]; simp, by
      simp only [Nat.zero_add]; exact (Nat.mod_eq_of_lt hs.2.1).symm⟩
  obtain ⟨k1, k2, k3, k4, _, _, _, k8, _⟩ := key
  simp only [toGenF] at k1 k2 k3 k4 k8 ⊢
  generalize (List.range xs.size).foldl (Gen.fftFilterProcess_loop3 xs fft ifft)
    (toGenF s, Array.replicate ((xs.size + s.nx) / s.n * s.n) Gen.zeroC, (0 : Int)) = G at k1 k2 k3 k4 ⊢
  generalize (List.range xs.size).foldl (fun acc k => fftStep (0 : Cx ℝ) fft ifft acc (xs.getD k 0)) (s, #[]) = M at k1 k2 k3 k4 k8 ⊢
  obtain ⟨G1, Gr, Gp⟩ := G
  obtain ⟨Ms, Mo⟩ := M
  simp only at k1 k2 k3 k4 k8 ⊢
  rw [k1]
  congr 1
  apply ext_getD (0 : Cx ℝ)
  · rw [k3, k8]
  · intro j hj
    rw [k3, ← k8] at hj
    exact k4 j hj

/-! ### the constructors -/

/-- `conj(const arr_cmplx&)` of lib/math.cpp (generated) is the element-wise conjugate -/
theorem conjArr_eq (x : Array (Cx ℝ)) : Gen.conjArr x = x.map Cx.conj := by
  unfold Gen.conjArr
  simp only [Gen.arrSize, Int.ofNat_eq_natCast, Int.toNat_natCast]
  rw [foldl_loop_eq_ofFn (0 : Cx ℝ) (fun (old : Cx ℝ) (_ : Nat) => ({ old with im := -old.im } : Cx ℝ)) _
    (fun a i => by simp only [Gen.conjArr_loop1, Int.ofNat_eq_natCast, arrSet_natCast, arrGet_natCast, gzeroC_eq]) x.size x rfl]
  exact (map_eq_ofFn 0 x Cx.conj x.size rfl).symm

/-- `real(const arr_cmplx&)` of lib/math.cpp (generated) is the element-wise real part -/
theorem realArr_eq (x : Array (Cx ℝ)) : Gen.realArr x = reV x := by
  unfold Gen.realArr reV
  simp only [Gen.arrNew, Gen.arrSize, Int.ofNat_eq_natCast, Int.toNat_natCast]
  rw [foldl_loop_eq_ofFn (0 : ℝ) (fun (_ : ℝ) (k : Nat) => (x.getD k Gen.zeroC).re) _
    (fun a i => by simp only [Gen.realArr_loop1, Int.ofNat_eq_natCast, arrSet_natCast, arrGet_natCast]) x.size _ (by simp)]
  exact (map_eq_ofFn Gen.zeroC x _ x.size rfl).symm

/-- `complex(const arr_real&)` (pinned primitive) is the model's `ofRealV` -/
theorem arrComplex_eq (x : Array ℝ) : Gen.arrComplex x = ofRealV x := by
  unfold Gen.arrComplex ofRealV
  simp

/-- **bridge, `FftFilter::FftFilter(const arr_cmplx& h)`:** with `nextpow2` and `fft(x, n)` instantiated by anything that agrees with
the model's `nextpow2` on naturals and with "zero-pad to `n`, then transform" on `|x| ≤ n`, the generated constructor
(`_m{h.size()}`, `fft_len = 1L << nextpow2(2 m)`, `_n = fft_len - m + 1`, `_olap`, `_h = fft(conj(h), fft_len)`, `_x`) leaves the
model's `fftInit`, for EVERY tap vector -/
theorem fftFilterCtor_eq (np : Int → Int) (fftN : Array (Cx ℝ) → Int → Array (Cx ℝ)) (fft : Array (Cx ℝ) → Array (Cx ℝ))
    (hnp : ∀ k : ℕ, np (k : Int) = (nextpow2 k : Int))
    (hfft : ∀ (x : Array (Cx ℝ)) (n : ℕ), x.size ≤ n → fftN x (n : Int) = fft (zeropad (0 : Cx ℝ) x n))
    (h : Array (Cx ℝ)) :
    Gen.fftFilterCtor np fftN h = toGenF (fftInit (0 : Cx ℝ) Cx.conj fft h) := by
  have hL := C07.le_two_pow_nextpow2 (2 * h.size)
  unfold Gen.fftFilterCtor fftInit toGenF
  simp only [Gen.arrSize, Int.ofNat_eq_natCast]
  have h2 : ((2 : Int) * (h.size : Int)) = ((2 * h.size : ℕ) : Int) := by push_cast; ring
  have hshl : Gen.shl1 (np ((2 : Int) * (h.size : Int))) = ((2 ^ nextpow2 (2 * h.size) : ℕ) : Int) := by
    rw [h2, hnp]; simp [Gen.shl1]
  rw [hshl]
  have hconj : (Gen.conjArr h).size ≤ 2 ^ nextpow2 (2 * h.size) := by rw [conjArr_eq]; simp; omega
  rw [hfft _ _ hconj, conjArr_eq]
  have e1 : Gen.arrComplex (Gen.arrNew (Gen.zeroR : ℝ) ((2 ^ nextpow2 (2 * h.size) : ℕ) : Int)) =
      Array.replicate (2 ^ nextpow2 (2 * h.size)) (0 : Cx ℝ) := by
    unfold Gen.arrComplex Gen.arrNew
    rw [Int.toNat_natCast, Array.map_replicate]
    simp only [Gen.zeroR, fill0C_eq]
  have e2 : Gen.arrComplex (Gen.arrNew (Gen.zeroR : ℝ) ((h.size : Int) - 1)) = Array.replicate (h.size - 1) (0 : Cx ℝ) := by
    have : ((h.size : Int) - 1).toNat = h.size - 1 := by omega
    unfold Gen.arrComplex Gen.arrNew
    rw [this, Array.map_replicate]
    simp only [Gen.zeroR, fill0C_eq]
  rw [e1, e2]
  congr 1
  omega

/-- the constructed state has the structural invariant of the sample loop (at least one tap) -/
theorem fftInit_SInv (fft : Array (Cx ℝ) → Array (Cx ℝ)) (h : Array (Cx ℝ)) (hm : 1 ≤ h.size) :
    SInv (fftInit (0 : Cx ℝ) Cx.conj fft h) := by
  have hL := C07.le_two_pow_nextpow2 (2 * h.size)
  refine ⟨?_, ?_, ?_, ?_⟩ <;> simp only [fftInit, Array.size_replicate] <;> omega

/-- **T07.2 from the GENERATED constructor through the GENERATED `process`, `FftFilter(arr_cmplx)`.**  For every tap vector with at
least one tap and every transform pair satisfying the circular-convolution theorem at the one length used (C01 / C02): construct by the
regenerated constructor, call the regenerated `process`: it emits `⌊len/_n⌋·_n` samples, each equal to the sample of
`FirFilter<cmplx_t>` at the same position. -/
theorem gen_fftfilter_from_ctor_cmplx (np : Int → Int) (fftN : Array (Cx ℝ) → Int → Array (Cx ℝ)) (fft ifft : Array (Cx ℝ) → Array (Cx ℝ))
    (hnp : ∀ k : ℕ, np (k : Int) = (nextpow2 k : Int))
    (hfft : ∀ (x : Array (Cx ℝ)) (n : ℕ), x.size ≤ n → fftN x (n : Int) = fft (zeropad (0 : Cx ℝ) x n))
    (h : Array (Cx ℝ)) (hm : 1 ≤ h.size) (H : C07.CircConv fft ifft (2 ^ nextpow2 (2 * h.size))) (xs : Array (Cx ℝ)) :
    let y := (Gen.fftFilterProcess fft ifft (Gen.fftFilterCtor np fftN h) xs).2
    y.size = xs.size / (fftInitC fft h).n * (fftInitC fft h).n ∧
    ∀ i, i < y.size → y.getD i 0 = (firProcessC (firInitC h) xs).2.getD i 0 := by
  intro y
  have hy : y = (fftProcessC fft ifft (fftInitC fft h) xs).2 := by
    show (Gen.fftFilterProcess fft ifft (Gen.fftFilterCtor np fftN h) xs).2 = _
    rw [fftFilterCtor_eq np fftN fft hnp hfft h, fftFilterProcess_eq fft ifft _ (fftInit_SInv fft h hm) xs]
    simp only [fftProcessC, fftInitC, Cx.zeroC_eq]
  rw [hy]
  exact C07.fftfilter_eq_fir_cmplx fft ifft h hm H xs

/-- **T07.2 from the GENERATED constructor / `process`, real entry points** (`FftFilter(const arr_real& h) : FftFilter(complex(h))`,
`process(const arr_real& x) = real(process(complex(x)))`) -/
theorem gen_fftfilter_from_ctor_real (np : Int → Int) (fftN : Array (Cx ℝ) → Int → Array (Cx ℝ)) (fft ifft : Array (Cx ℝ) → Array (Cx ℝ))
    (hnp : ∀ k : ℕ, np (k : Int) = (nextpow2 k : Int))
    (hfft : ∀ (x : Array (Cx ℝ)) (n : ℕ), x.size ≤ n → fftN x (n : Int) = fft (zeropad (0 : Cx ℝ) x n))
    (h : Array ℝ) (hm : 1 ≤ h.size) (H : C07.CircConv fft ifft (2 ^ nextpow2 (2 * h.size))) (xs : Array ℝ) :
    let y := (Gen.fftFilterProcessR fft ifft (Gen.fftFilterCtorR np fftN h) xs).2
    y.size = xs.size / (fftInitR fft h).n * (fftInitR fft h).n ∧
    ∀ i, i < y.size → y.getD i 0 = (firProcessR (firInitR h) xs).2.getD i 0 := by
  intro y
  have hsz : (ofRealV h).size = h.size := by simp [ofRealV]
  have hy : y = (fftProcessR fft ifft (fftInitR fft h) xs).2 := by
    show (Gen.fftFilterProcessR fft ifft (Gen.fftFilterCtorR np fftN h) xs).2 = _
    unfold Gen.fftFilterProcessR Gen.fftFilterCtorR
    simp only [arrComplex_eq, realArr_eq]
    rw [fftFilterCtor_eq np fftN fft hnp hfft (ofRealV h),
      fftFilterProcess_eq fft ifft _ (fftInit_SInv fft (ofRealV h) (by rw [hsz]; exact hm)) (ofRealV xs)]
    simp only [fftProcessR, fftInitR, fftProcessC, fftInitC, Cx.zeroC_eq]
  rw [hy]
  exact C07.fftfilter_eq_fir_real fft ifft h hm H xs

/-- the hypotheses on the two parameters of the constructor are satisfiable: the model's own `nextpow2` and "zero-pad, then transform" -/
example (fft : Array (Cx ℝ) → Array (Cx ℝ)) :
    (∀ k : ℕ, (fun z : Int => (nextpow2 z.toNat : Int)) (k : Int) = (nextpow2 k : Int)) ∧
    (∀ (x : Array (Cx ℝ)) (n : ℕ), x.size ≤ n → (fun x (z : Int) => fft (zeropad (0 : Cx ℝ) x z.toNat)) x (n : Int) = fft (zeropad (0 : Cx ℝ) x n)) :=
  ⟨fun k => by simp, fun x n _ => by simp⟩

end

end Dsp.C07Gen
