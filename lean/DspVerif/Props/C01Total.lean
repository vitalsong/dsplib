import DspVerif.Props.C01
import DspVerif.Props.C01Kernels
import DspVerif.Props.C01Pow2
import DspVerif.Props.C01Plan
import DspVerif.Props.C01Czt
import DspVerif.Props.C15
/-!
# C01 — the UNCONDITIONAL end-to-end theorems: `fft` equals the DFT for every length of the 32-bit `int` range

`Props/C01.lean` proves the plan selection glued to the kernels with three components as hypotheses
(`fftC_eq_partial`, `fftR_eq_partial`, `fftLeaf_eq`, `fftFactor_eq`).  The components are proved in
`Props/C01Pow2.lean` (`pow2fft_eq`: radix-2 network, no bound on `n`), `Props/C01Czt.lean` (`cztPrime_hczt`: Bluestein for
`n ≤ 2^31`) and `Props/C01Plan.lean` (`mkPlan_wf` / `hfac_of_leaves`: the factor tree, `2 ≤ n < 2^31`).  This file
discharges the hypotheses.  The only assumptions left are `LitsOK lit` (the three literals of the source denote `√½`, `√½`,
`√¾`; satisfiable: `litsOK_exact`) and the length range `0 < n < 2^31` (every positive value of the `int` argument).
The main statements are `fftC_eq` and `fftR_eq` (T01.10); `fftC_getD`, `fftR_getD`, `ifftWith_getD` give size and cells at once
for arrays read with `getD · 0`, the form in which C07, C14 and C18 take the library's transforms.

Where the bound comes from: `n < 2^31` is needed ONLY on the composite branch — `mkPlan_wf` (`treeFactors_spec`: the 32-step
halving loop of `PlanTree::_factor` and the `int` range of `factor`); the prime branch needs `n ≤ 2^31` (`cztPrime_hczt`:
`nextpow2` is the 32-bit loop, the internal size `2^nextpow2(2n−1)` must reach `2n−1 ≤ 2^32`); the power-of-two and small
branches need no bound.  The statements follow the library's own tests `isprime` / `ispow2`; that these are the mathematical
predicates (C15) is used in two places only: inside `mkPlan_wf` (every leaf of the tree is a length the tests accept) and in
`fftC_eq_pow2` (a power of two `≥ 16` is not taken for a prime; it serves the one length `2^31` of `fftC_eq_le`).
-/
open Finset Complex
namespace Dsp.C01
open Dsp Dsp.Fft Dsp.Primes

/-! ## the components, in the shape the glue lemmas take them -/

/-- T01.3 for every size at once (argument `hpow2` of `cztPrime_hczt` / `cztPrime_eq_partial`) -/
theorem pow2_all : ∀ N, ispow2 N = true → isSmall N = false → IsDft N (pow2fft N) :=
  fun N h2 hs => pow2fft_eq N hs h2

/-- T01.6 for every `n ≤ 2^31` (hypothesis `hczt` of `fftPrime_eq`) -/
theorem hczt_all (lit : Lits ℝ) (n : ℕ) (hb : n ≤ 2 ^ 31) : Gen.maxDftSize < n → IsDft n (cztPrime lit n) :=
  cztPrime_hczt lit n hb pow2_all

/-- `PrimesFftC::solve` is the DFT for every `0 < n ≤ 2^31` (whether or not `n` is prime) -/
theorem fftPrime_total (lit : Lits ℝ) (hl : LitsOK lit) (n : ℕ) (hn : 0 < n) (hb : n ≤ 2 ^ 31) :
    IsDft n (fftPrime lit n) :=
  fftPrime_eq lit hl n hn (hczt_all lit n hb)

/-- the solver of a leaf of the factor tree: a length the library treats as a power of two or as a prime -/
theorem fftLeaf_total (lit : Lits ℝ) (hl : LitsOK lit) (m : ℕ) (hm : 0 < m) (hb : m ≤ 2 ^ 31)
    (hor : ispow2 m = true ∨ isprime m = true) : IsDft m (fftLeaf lit m) := by
  apply fftLeaf_eq lit hl m hm
  · intro _ _; exact hczt_all lit m hb
  · intro hs hp
    rcases hor with h2 | hp'
    · exact pow2fft_eq m hs h2
    · rw [hp] at hp'; cases hp'

theorem two_le_of_not_small (n : ℕ) (hn : 0 < n) (hs : isSmall n = false) : 2 ≤ n := by
  by_contra hc
  have h1 : n = 1 := by omega
  subst h1
  simp [isSmall] at hs

/-- hypothesis `hfac` of `fftC_eq_partial`, unconditionally, every `2 ≤ n < 2^31` -/
theorem hfac_total (lit : Lits ℝ) (hl : LitsOK lit) (n : ℕ) (hn : 2 ≤ n) (hlt : n < 2 ^ 31) :
    Plan.WF (mkPlan 32 n) ∧ (mkPlan 32 n).size = n ∧ ∀ m ∈ Plan.leaves (mkPlan 32 n), IsDft m (fftLeaf lit m) :=
  hfac_of_leaves lit n hn hlt (fun m h2 hmn hor => fftLeaf_total lit hl m (by omega) (by omega) hor)

/-- `FactorFFTPlan::solve` is the DFT for every `2 ≤ n < 2^31` -/
theorem fftFactor_total (lit : Lits ℝ) (hl : LitsOK lit) (n : ℕ) (hn : 2 ≤ n) (hlt : n < 2 ^ 31) :
    IsDft n (fftFactor lit n) := by
  obtain ⟨a, b, c⟩ := hfac_total lit hl n hn hlt
  exact fftFactor_eq lit n (by omega) a b c

/-! ## T01.10 complex and real input, every length -/

/-- **C01 / T01.10** (clause "fft(x) returns the length-n discrete Fourier transform of x, for every length"):
    `fft(arr_cmplx)` / `FftPlan(n)` equals the DFT for EVERY length `0 < n < 2^31` and every input — small kernels,
    `_dft_n3`, `_dft_slow`, Bluestein, the radix-2 network and the mixed-radix factor tree, as selected by
    `create_fft_plan`.  No hypothesis besides the value of the three literals. -/
theorem fftC_eq (lit : Lits ℝ) (hl : LitsOK lit) (n : ℕ) (hn : 0 < n) (hlt : n < 2 ^ 31) : IsDft n (fftC lit n) := by
  apply fftC_eq_partial lit hl n hn
  · intro _ _; exact hczt_all lit n (by omega)
  · intro hs _ h2; exact pow2fft_eq n hs h2
  · intro hs _ _; exact hfac_total lit hl n (two_le_of_not_small n hn hs) hlt

/-- the same including the length `2^31` (a power of two: served by `Pow2FftPlan`, outside the `int` range) -/
theorem fftC_eq_le (lit : Lits ℝ) (hl : LitsOK lit) (n : ℕ) (hn : 0 < n) (hle : n ≤ 2 ^ 31) : IsDft n (fftC lit n) := by
  rcases Nat.lt_or_ge n (2 ^ 31) with h | h
  · exact fftC_eq lit hl n hn h
  · have e : n = 2 ^ 31 := by omega
    subst e
    exact fftC_eq_pow2 lit hl _ (by norm_num) (ispow2_two_pow 31 (by norm_num))

/-- **C01 / T01.10**, real input: `fft(arr_real)` / `rfft` / `FftPlanR(n)` equals the DFT of the real sequence for EVERY
    length `0 < n < 2^31` — small real kernels, the prime solver and the factor tree on the complexified input, the packed
    half-length transform for even `n`. -/
theorem fftR_eq (lit : Lits ℝ) (hl : LitsOK lit) (n : ℕ) (hn : 0 < n) (hlt : n < 2 ^ 31)
    (x : Array ℝ) (k : ℕ) (hk : k < n) : Cx.toC (rd (fftR lit n x) k) = dft n (seqR x) k := by
  apply fftR_eq_partial lit hl n hn _ _ _ x k hk
  · intro _ _; exact fftPrime_total lit hl n hn (by omega)
  · intro _ _ he; exact fftC_eq lit hl (n / 2) (by omega) (by omega)
  · intro hs _ _; exact fftFactor_total lit hl n (two_le_of_not_small n hn hs) hlt

/-! ## every plan returns `n` cells -/

/-- a plan that dispatches on the length returns `n` cells if every branch does -/
theorem size_ite {γ : Type} {c : Prop} [Decidable c] {a b : Array γ} {n : ℕ} (ha : c → a.size = n) (hb : ¬ c → b.size = n) :
    (if c then a else b).size = n := by
  by_cases h : c
  · rw [if_pos h]; exact ha h
  · rw [if_neg h]; exact hb h

theorem smallC_size (lit : Lits ℝ) (n : ℕ) (hs : isSmall n = true) (x : Vec ℝ) : (smallC lit n x).size = n := by
  rcases (isSmall_iff n).mp hs with h | h | h | h <;> subst h <;> exact Array.size_ofFn

theorem smallR_size (lit : Lits ℝ) (n : ℕ) (hs : isSmall n = true) (x : Array ℝ) : (smallR lit n x).size = n := by
  rcases (isSmall_iff n).mp hs with h | h | h | h <;> subst h <;> exact Array.size_ofFn

theorem pow2fft_size (n : ℕ) (x : Vec ℝ) : (pow2fft n x).size = n := by
  unfold pow2fft
  cases nextpow2 n <;> exact Array.size_ofFn

theorem fftPrime_size (lit : Lits ℝ) (n : ℕ) (x : Vec ℝ) : (fftPrime lit n x).size = n :=
  size_ite (fun h3 => h3 ▸ Array.size_ofFn) fun _ => size_ite (fun _ => Array.size_ofFn) fun _ => Array.size_ofFn

theorem fftLeaf_size (lit : Lits ℝ) (n : ℕ) (x : Vec ℝ) : (fftLeaf lit n x).size = n :=
  size_ite (fun hs => smallC_size lit n hs x) fun _ => size_ite (fun _ => fftPrime_size lit n x) fun _ => pow2fft_size n x

theorem facfft_size (leaf : ℕ → Vec ℝ → Vec ℝ) (hleaf : ∀ m x, (leaf m x).size = m) (tw : Vec ℝ) (headN : ℕ) (pl : Plan)
    (x : Vec ℝ) : (facfft leaf tw headN pl x).size = pl.size := by
  cases pl with
  | leaf m => exact hleaf m x
  | node P Q p q => exact Array.size_ofFn

/-- `FactorFFTPlan::solve` returns `n` cells: the root of the factor tree has size `n` (`mkPlan_wf`) -/
theorem fftFactor_size (lit : Lits ℝ) (n : ℕ) (hn : 2 ≤ n) (hlt : n < 2 ^ 31) (x : Vec ℝ) : (fftFactor lit n x).size = n := by
  unfold fftFactor
  rw [facfft_size _ (fftLeaf_size lit), (mkPlan_wf n hn hlt).2.1]

/-- `fft(arr_cmplx)` / `FftPlan(n)` returns `n` cells, every `0 < n ≤ 2^31`, whatever the size of the input (`2^31` itself is a
power of two and is not served by the factor tree) -/
theorem fftC_size (lit : Lits ℝ) (n : ℕ) (hn : 0 < n) (hle : n ≤ 2 ^ 31) (x : Vec ℝ) : (fftC lit n x).size = n :=
  size_ite (fun hs => smallC_size lit n hs x) fun hs => size_ite (fun _ => fftPrime_size lit n x) fun _ =>
    size_ite (fun _ => pow2fft_size n x) fun h2 =>
      fftFactor_size lit n (two_le_of_not_small n hn (Bool.eq_false_iff.mpr hs))
        (lt_of_le_of_ne hle fun e => h2 (e ▸ ispow2_two_pow 31 (by norm_num))) x

/-- `fft(arr_real)` / `rfft` / `FftPlanR(n)` returns `n` cells, every `0 < n < 2^31` (small real kernels, prime solver, packed
half-length transform, factor tree) -/
theorem fftR_size (lit : Lits ℝ) (n : ℕ) (hn : 0 < n) (hlt : n < 2 ^ 31) (x : Array ℝ) : (fftR lit n x).size = n :=
  size_ite (fun hs => smallR_size lit n hs x) fun hs => size_ite (fun _ => fftPrime_size lit n _) fun _ =>
    size_ite (fun _ => Array.size_ofFn) fun _ =>
      fftFactor_size lit n (two_le_of_not_small n hn (Bool.eq_false_iff.mpr hs)) hlt _

/-! ## the plans on arrays read with `getD · 0` (the vocabulary of C07, C14, C18): size and cells at once -/

theorem zero_eq : (Fft.zero : Cx ℝ) = 0 := by apply Cx.ext' <;> simp [Fft.zero]

theorem rd_eq_getD (x : Vec ℝ) (i : ℕ) : rd x i = x.getD i 0 := by unfold rd; rw [zero_eq]

theorem seq_eq (x : Vec ℝ) : seq x = fun i => Cx.toC (x.getD i 0) := funext fun i => by unfold seq; rw [rd_eq_getD]

theorem seqR_eq (x : Array ℝ) : seqR x = fun i => ((x.getD i 0 : ℝ) : ℂ) :=
  funext fun i => by simp only [seqR, rdR, fn_ofNat, Nat.cast_zero]

section getD
variable (lit : Lits ℝ) (hl : LitsOK lit) (n : ℕ) (hn : 0 < n)
include hl hn

/-- `FftPlan(n)`: `n` cells, cell `k` is bin `k` of the DFT of the input's cells -/
theorem fftC_getD (hle : n ≤ 2 ^ 31) (a : Vec ℝ) :
    (fftC lit n a).size = n ∧ ∀ k, k < n → Cx.toC ((fftC lit n a).getD k 0) = dft n (fun m => Cx.toC (a.getD m 0)) k :=
  ⟨fftC_size lit n hn hle a, fun k hk => by rw [← rd_eq_getD, fftC_eq_le lit hl n hn hle a k hk, seq_eq]⟩

/-- `FftPlanR(n)` -/
theorem fftR_getD (hlt : n < 2 ^ 31) (a : Array ℝ) :
    (fftR lit n a).size = n ∧ ∀ k, k < n → Cx.toC ((fftR lit n a).getD k 0) = dft n (fun m => ((a.getD m 0 : ℝ) : ℂ)) k :=
  ⟨fftR_size lit n hn hlt a, fun k hk => by rw [← rd_eq_getD, fftR_eq lit hl n hn hlt a k hk, seqR_eq]⟩

/-- `IfftPlan(n)` over `FftPlan(n)`: `n` cells, cell `t` is sample `t` of the inverse DFT of the input's cells -/
theorem ifftWith_getD (hle : n ≤ 2 ^ 31) (X : Vec ℝ) :
    (ifftWith (fftC lit n) n X).size = n ∧
      ∀ t, t < n → Cx.toC ((ifftWith (fftC lit n) n X).getD t 0) = C07.idft n (fun k => Cx.toC (X.getD k 0)) t :=
  ⟨Array.size_ofFn, fun t ht => by rw [← rd_eq_getD, ifftWith_eq _ n (fftC_eq_le lit hl n hn hle) X t ht, seq_eq]⟩

end getD

/-! ## T01.9 pad / truncate, every target length -/

/-- **T01.9** (clause "fft(x, n) equals the transform of x zero-padded or truncated to n samples"), complex input,
    every `0 < n' < 2^31` and every input length (including the empty input) -/
theorem fftCN_eq_total (lit : Lits ℝ) (hl : LitsOK lit) (n' : ℕ) (hn : 0 < n') (hlt : n' < 2 ^ 31)
    (x : Vec ℝ) (k : ℕ) (hk : k < n') : Cx.toC (rd (fftCN lit n' x) k) = dft n' (padSeq n' x) k :=
  fftCN_eq lit n' (fftC_eq lit hl n' hn hlt) x k hk

/-- **T01.9**, real input (`fft(arr_real, n')` / `rfft(x, n')`), every `0 < n' < 2^31` -/
theorem fftRN_eq_total (lit : Lits ℝ) (hl : LitsOK lit) (n' : ℕ) (hn : 0 < n') (hlt : n' < 2 ^ 31)
    (x : Array ℝ) (k : ℕ) (hk : k < n') : Cx.toC (rd (fftRN lit n' x) k) = dft n' (padSeqR n' x) k :=
  fftRN_eq lit n' (fun y j hj => fftR_eq lit hl n' hn hlt y j hj) x k hk

/-! ## T01.8 real input: symmetry, agreement with the complex transform -/

/-- **T01.8** (clause "the transform of a real input is conjugate-symmetric"): `X[k] = conj X[n−k]` for `0 < k < n`
    (both bins inside the output), every `n < 2^31` -/
theorem fftR_conj_symm_total (lit : Lits ℝ) (hl : LitsOK lit) (n : ℕ) (hlt : n < 2 ^ 31)
    (x : Array ℝ) (k : ℕ) (hk0 : 0 < k) (hk : k < n) :
    Cx.toC (rd (fftR lit n x) k) = (starRingEnd ℂ) (Cx.toC (rd (fftR lit n x) (n - k))) := by
  have hn : 0 < n := by omega
  rw [fftR_eq lit hl n hn hlt x k hk, fftR_eq lit hl n hn hlt x (n - k) (by omega)]
  exact dft_real_conj_symm n hn x k hk.le

/-- … and the bin `k = 0` (its partner `X[n]` is `X[0]` by periodicity) is real -/
theorem fftR_dc_real_total (lit : Lits ℝ) (hl : LitsOK lit) (n : ℕ) (hn : 0 < n) (hlt : n < 2 ^ 31) (x : Array ℝ) :
    (Cx.toC (rd (fftR lit n x) 0)).im = 0 := by
  rw [fftR_eq lit hl n hn hlt x 0 hn]
  have h := dft_real_conj_symm n hn x n le_rfl
  rw [Nat.sub_self, dft_period n hn] at h
  exact Complex.conj_eq_iff_im.mp h.symm

/-- **T01.8** (clause "the transform of a real input equals the transform of the same values given as complex numbers"):
    `fft(x) = fft(complex(x))` bin by bin, every `0 < n < 2^31` -/
theorem fftR_eq_fftC_total (lit : Lits ℝ) (hl : LitsOK lit) (n : ℕ) (hn : 0 < n) (hlt : n < 2 ^ 31)
    (x : Array ℝ) (k : ℕ) (hk : k < n) :
    Cx.toC (rd (fftR lit n x) k) = Cx.toC (rd (fftC lit n (complexify x)) k) := by
  rw [fftR_eq lit hl n hn hlt x k hk, fftC_eq lit hl n hn hlt (complexify x) k hk]
  exact (dft_real_eq_cmplx n x k).symm

/-- the complex transform of a complexified real input is conjugate-symmetric as well -/
theorem fftC_real_conj_symm_total (lit : Lits ℝ) (hl : LitsOK lit) (n : ℕ) (hlt : n < 2 ^ 31)
    (x : Array ℝ) (k : ℕ) (hk0 : 0 < k) (hk : k < n) :
    Cx.toC (rd (fftC lit n (complexify x)) k) = (starRingEnd ℂ) (Cx.toC (rd (fftC lit n (complexify x)) (n - k))) := by
  have hn : 0 < n := by omega
  rw [← fftR_eq_fftC_total lit hl n hn hlt x k hk, ← fftR_eq_fftC_total lit hl n hn hlt x (n - k) (by omega)]
  exact fftR_conj_symm_total lit hl n hlt x k hk0 hk

/-! ## non-vacuity: the hypotheses are satisfiable, the theorems apply to concrete lengths of every branch -/

/-- `LitsOK` holds for the exact values (`litsOK_exact`): a composite non-power-of-two length (factor tree) … -/
example : IsDft 1000 (fftC ⟨√2 / 2, √2 / 2, √3 / 2⟩ 1000) :=
  fftC_eq _ litsOK_exact 1000 (by norm_num) (by norm_num)

/-- … a prime above 41 (Bluestein on top of the radix-2 network of size 2048) … -/
example : IsDft 1009 (fftC ⟨√2 / 2, √2 / 2, √3 / 2⟩ 1009) :=
  fftC_eq _ litsOK_exact 1009 (by norm_num) (by norm_num)

/-- … a power of two (radix-2 network), and the largest `int` (`2^31 − 1`, a Mersenne prime: Bluestein of size `2^32`) -/
example : IsDft 4096 (fftC ⟨√2 / 2, √2 / 2, √3 / 2⟩ 4096) ∧ IsDft 2147483647 (fftC ⟨√2 / 2, √2 / 2, √3 / 2⟩ 2147483647) :=
  ⟨fftC_eq _ litsOK_exact 4096 (by norm_num) (by norm_num), fftC_eq _ litsOK_exact 2147483647 (by norm_num) (by norm_num)⟩

/-- real input: even length (packed transform over the complex plan of size 500), odd composite, prime -/
example (x : Array ℝ) (k : ℕ) (hk : k < 1000) :
    Cx.toC (rd (fftR ⟨√2 / 2, √2 / 2, √3 / 2⟩ 1000 x) k) = dft 1000 (seqR x) k :=
  fftR_eq _ litsOK_exact 1000 (by norm_num) (by norm_num) x k hk

example (x : Array ℝ) (k : ℕ) (hk : k < 1001) :
    Cx.toC (rd (fftR ⟨√2 / 2, √2 / 2, √3 / 2⟩ 1001 x) k) = dft 1001 (seqR x) k :=
  fftR_eq _ litsOK_exact 1001 (by norm_num) (by norm_num) x k hk

/-- pad / truncate: `fft(x, 1009)` of an input of ANY length; symmetry at a concrete bin -/
example (x : Vec ℝ) (k : ℕ) (hk : k < 1009) :
    Cx.toC (rd (fftCN ⟨√2 / 2, √2 / 2, √3 / 2⟩ 1009 x) k) = dft 1009 (padSeq 1009 x) k :=
  fftCN_eq_total _ litsOK_exact 1009 (by norm_num) (by norm_num) x k hk

example (x : Array ℝ) :
    Cx.toC (rd (fftR ⟨√2 / 2, √2 / 2, √3 / 2⟩ 1000 x) 3) =
      (starRingEnd ℂ) (Cx.toC (rd (fftR ⟨√2 / 2, √2 / 2, √3 / 2⟩ 1000 x) 997)) :=
  fftR_conj_symm_total _ litsOK_exact 1000 (by norm_num) x 3 (by norm_num) (by norm_num)

/-- the statement is not vacuous in its conclusion either: for the length-2 input `(1, 0)` zero-padded to 1000 samples,
    every bin of `fft(x, 1000)` is `1` -/
example (k : ℕ) (hk : k < 1000) :
    Cx.toC (rd (fftCN ⟨√2 / 2, √2 / 2, √3 / 2⟩ 1000 #[⟨1, 0⟩, ⟨0, 0⟩] ) k) = 1 := by
  rw [fftCN_eq_total _ litsOK_exact 1000 (by decide) (by decide) _ k hk]
  unfold dft
  rw [Finset.sum_eq_single 0]
  · rw [Nat.zero_mul, ω_zero, mul_one]
    exact Complex.ext rfl rfl
  · intro m _ hm
    have : padSeq 1000 (#[⟨1, 0⟩, ⟨0, 0⟩] : Vec ℝ) m = 0 := by
      obtain rfl | h2 : m = 1 ∨ 2 ≤ m := by omega
      · exact Complex.ext rfl rfl
      · exact if_neg fun h => Nat.not_lt.mpr h2 h.1
    rw [this, zero_mul]
  · intro h; exact absurd (Finset.mem_range.mpr (by decide)) h

end Dsp.C01
