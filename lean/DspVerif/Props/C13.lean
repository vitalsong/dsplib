import DspVerif.Lib.C13Dft
import Mathlib.Algebra.BigOperators.Field
import Mathlib.Tactic.Positivity
import Mathlib.Tactic.FieldSimp
/-!
# C13 — spectral estimates conserve power and label frequencies correctly

The theorems are about `Spectrum.welchR / welchC / mscohere` (`Model/Spectrum.lean`), the functions the driver runs at `Float`,
instantiated at `ℝ`.  The transform is a parameter `fft`; wherever a clause needs it, "`fft n` is the `n`-point DFT of the
zero-padded / truncated segment" is the explicit hypothesis `IsDftR` / `IsDftC` — that is property C01 (`Props/C01.lean`:
`fftRN_eq`, `fftCN_eq`); `exactR_isDft` / `exactC_isDft` show it is satisfiable.  Rounding is not modelled (measured by the oracle
of `harness/c13.cpp`).

T13.2 is exact for a complex tone; for a real sinusoid it is `A²/2` up to the negative-frequency image `2r + r²`.  T13.3 is the full
clause for real input; for complex input it is what the code does (`welchC_labels_partial`), and that its labels are NOT the
frequencies of the values (`welchC_axis_offset`, `welchC_axis_witness`).
-/
open Finset Complex

namespace Dsp.C13
open Dsp.C07 Dsp.Fft Dsp.Spectrum Dsp.Primes

/-- `fft(seg, n)` of a real segment is the `n`-point DFT of the segment, zero-padded or truncated (`rdR` is `0` past the end) -/
def IsDftR (n : ℕ) (fft : Array ℝ → Vec ℝ) : Prop :=
  ∀ (y : Array ℝ) (k : ℕ), k < n → Cx.toC (rd (fft y) k) = dft n (seqR y) k

/-- `fft(seg, n)` of a complex segment is the `n`-point DFT of the segment, zero-padded or truncated -/
def IsDftC (n : ℕ) (fft : Vec ℝ → Vec ℝ) : Prop :=
  ∀ (y : Vec ℝ) (k : ℕ), k < n → Cx.toC (rd (fft y) k) = dft n (seq y) k

/-- the exact transform as an array (non-vacuity of `IsDftR`) -/
noncomputable def exactR (n : ℕ) (y : Array ℝ) : Vec ℝ := mk n (fun k => ⟨(dft n (seqR y) k).re, (dft n (seqR y) k).im⟩)
noncomputable def exactC (n : ℕ) (y : Vec ℝ) : Vec ℝ := mk n (fun k => ⟨(dft n (seq y) k).re, (dft n (seq y) k).im⟩)

theorem exactR_isDft (n : ℕ) : IsDftR n (exactR n) := by
  intro y k hk
  rw [exactR, rd_mk_lt _ _ _ hk]
  rfl

theorem exactC_isDft (n : ℕ) : IsDftC n (exactC n) := by
  intro y k hk
  rw [exactC, rd_mk_lt _ _ _ hk]
  rfl

/-! ## what an accepted call returns -/

/-- an accepted complex call: the guards passed (`plan`), `pxx` is `_calcspec`'s array, `f` the centred axis -/
theorem welchC_ok {fft : ℕ → Vec ℝ → Vec ℝ} {x : Vec ℝ} {win : Array ℝ} {nov nfft : ℤ} {psd : Bool} {pxx f : Array ℝ}
    (h : welchC fft x win nov nfft psd = .ok (pxx, f)) :
    ∃ pl, plan x.size win.size nov nfft = .ok pl ∧
      pxx = calcspec pl (winpow psd win) (fun i => fft pl.nfft (segC x win (i * pl.stride))) ∧ f = freqC pl.nfft := by
  obtain ⟨pl, hp, e⟩ := bind_ok.mp h
  cases e
  exact ⟨pl, hp, rfl, rfl⟩

/-- an accepted real call: the guards passed, `pxx` is the folded `_calcspec` array, `f = arange(0, nfft/2+1)/nfft` -/
theorem welchR_ok {fft : ℕ → Array ℝ → Vec ℝ} {x win : Array ℝ} {nov nfft : ℤ} {psd : Bool} {pxx f : Array ℝ}
    (h : welchR fft x win nov nfft psd = .ok (pxx, f)) :
    ∃ pl, plan x.size win.size nov nfft = .ok pl ∧
      pxx = oneSided pl.nfft (calcspec pl (winpow psd win) (fun i => fft pl.nfft (segR x win (i * pl.stride)))) ∧
      f = freqR pl.nfft := by
  obtain ⟨pl, hp, e⟩ := bind_ok.mp h
  cases e
  exact ⟨pl, hp, rfl, rfl⟩

/-- an accepted `mscohere` call: equal lengths, the guards passed, the result is `|Pxy|²/(Pxx·Pyy)` of the accumulated sums -/
theorem mscohere_ok {fft : ℕ → Array ℝ → Vec ℝ} {x y win : Array ℝ} {nov nfft : ℤ} {c : Array ℝ}
    (h : mscohere fft x y win nov nfft = .ok c) :
    x.size = y.size ∧ ∃ pl, plan x.size win.size nov nfft = .ok pl ∧
      c = cohOut (pl.nfft / 2 + 1) (cohAccum (pl.nfft / 2 + 1) (fun i => fft pl.nfft (segR x win (i * pl.stride)))
        (fun i => fft pl.nfft (segR y win (i * pl.stride))) pl.nseg.toNat) := by
  obtain ⟨hs, h⟩ := guard_ok.mp h
  obtain ⟨pl, hp, e⟩ := bind_ok.mp h
  cases e
  exact ⟨not_not.mp hs, pl, hp, rfl⟩

/-- the call is accepted as soon as `plan` is (used for non-vacuity: accepted calls exist) -/
theorem welchC_accepts (fft : ℕ → Vec ℝ → Vec ℝ) (x : Vec ℝ) (win : Array ℝ) (nov nfft : ℤ) (psd : Bool) (pl : Spectrum.Plan)
    (hp : plan x.size win.size nov nfft = .ok pl) : ∃ pxx f, welchC fft x win nov nfft psd = .ok (pxx, f) := by
  rw [welchC, hp]
  exact ⟨_, _, rfl⟩

/-! ## cells of the result (no assumption on `fft`) -/

section welch
variable {nov nfft : ℤ} {psd : Bool} {pxx f : Array ℝ} {win : Array ℝ}

/-- complex input: entry `j` is the mean over the segments of `|X_i[j]|² / winpow` — transform order, `X_i = fft(seg_i, nfft)` -/
theorem welchC_cell {fft : ℕ → Vec ℝ → Vec ℝ} {x : Vec ℝ} (h : welchC fft x win nov nfft psd = .ok (pxx, f))
    (hNL : win.size ≤ x.size) (j : ℕ) (hj : j < nfft.toNat) :
    rdR pxx j = (∑ i ∈ range (nsegs x.size win.size nov),
        Cx.abs2 (rd (fft nfft.toNat (segC x win (i * hop win.size nov))) j) / winpow psd win) / (nsegs x.size win.size nov : ℝ) := by
  obtain ⟨pl, hp, rfl, rfl⟩ := welchC_ok h
  exact calcspec_cell hp hNL _ (fun n t1 => fft n (segC x win t1)) j hj

/-- real input: entry `k` is the two-sided cell, doubled except at both ends -/
theorem welchR_cell {fft : ℕ → Array ℝ → Vec ℝ} {x : Array ℝ} (h : welchR fft x win nov nfft psd = .ok (pxx, f))
    (hNL : win.size ≤ x.size) (hn : 2 ≤ nfft.toNat) (k : ℕ) (hk : k < nfft.toNat / 2 + 1) :
    rdR pxx k = (if k = 0 ∨ k = nfft.toNat / 2 then (1 : ℝ) else 2) *
      ((∑ i ∈ range (nsegs x.size win.size nov),
        Cx.abs2 (rd (fft nfft.toNat (segR x win (i * hop win.size nov))) k) / winpow psd win) / (nsegs x.size win.size nov : ℝ)) := by
  obtain ⟨pl, hp, rfl, rfl⟩ := welchR_ok h
  obtain ⟨_, _, _, hnf, _, _, _⟩ := plan_ok hp
  rw [hnf, rdR_oneSided _ hn _ _ hk, ← hnf, calcspec_cell hp hNL _ (fun n t1 => fft n (segR x win t1)) k
      (hk.trans_le (Nat.div_lt_self (Nat.zero_lt_of_lt hn) one_lt_two)), hnf]

/-- the same cells for a transform that is the DFT: mean power of DFT bin `j` of the windowed segments -/
theorem welchC_cell_dft {fft : ℕ → Vec ℝ → Vec ℝ} {x : Vec ℝ} (h : welchC fft x win nov nfft psd = .ok (pxx, f))
    (hfft : IsDftC nfft.toNat (fft nfft.toNat)) (hNL : win.size ≤ x.size) (j : ℕ) (hj : j < nfft.toNat) :
    rdR pxx j = (∑ i ∈ range (nsegs x.size win.size nov),
        normSq (dft nfft.toNat (seq (segC x win (i * hop win.size nov))) j) / winpow psd win) / (nsegs x.size win.size nov : ℝ) := by
  rw [welchC_cell h hNL j hj]
  simp only [Cx.abs2_eq, hfft _ j hj]

theorem welchR_cell_dft {fft : ℕ → Array ℝ → Vec ℝ} {x : Array ℝ} (h : welchR fft x win nov nfft psd = .ok (pxx, f))
    (hfft : IsDftR nfft.toNat (fft nfft.toNat)) (hNL : win.size ≤ x.size) (hn : 2 ≤ nfft.toNat) (k : ℕ)
    (hk : k < nfft.toNat / 2 + 1) :
    rdR pxx k = (if k = 0 ∨ k = nfft.toNat / 2 then (1 : ℝ) else 2) *
      ((∑ i ∈ range (nsegs x.size win.size nov),
        normSq (dft nfft.toNat (seqR (segR x win (i * hop win.size nov))) k) / winpow psd win) / (nsegs x.size win.size nov : ℝ)) := by
  rw [welchR_cell h hNL hn k hk]
  simp only [Cx.abs2_eq, hfft _ k (hk.trans_le (Nat.div_lt_self (Nat.zero_lt_of_lt hn) one_lt_two))]


/-! ## T13.1 sizes, signs, conservation of power -/

/-- T13.1 (clause "welch returns nfft/2+1 … values", real input): both returned vectors have `nfft/2 + 1` entries -/
theorem welchR_size {fft : ℕ → Array ℝ → Vec ℝ} {x : Array ℝ}
    (h : welchR fft x win nov nfft psd = .ok (pxx, f)) :
    pxx.size = nfft.toNat / 2 + 1 ∧ f.size = nfft.toNat / 2 + 1 := by
  obtain ⟨pl, hp, rfl, rfl⟩ := welchR_ok h
  obtain ⟨_, _, _, hnf, _, _, _⟩ := plan_ok hp
  rw [size_oneSided, size_freqR, hnf]
  exact ⟨rfl, rfl⟩

/-- T13.1 (clause "… or nfft (complex input) values"): `pxx` has `nfft` entries, and so has `f` for even `nfft`
(`nfft = 1`, the only odd power of two, gives an EMPTY `f`: `arange(1, 1)`; outside the property's range 8..4096) -/
theorem welchC_size {fft : ℕ → Vec ℝ → Vec ℝ} {x : Vec ℝ}
    (h : welchC fft x win nov nfft psd = .ok (pxx, f)) :
    pxx.size = nfft.toNat ∧ (2 ∣ nfft.toNat → f.size = nfft.toNat) := by
  obtain ⟨pl, hp, rfl, rfl⟩ := welchC_ok h
  obtain ⟨_, _, _, hnf, _, _, _⟩ := plan_ok hp
  rw [size_calcspec, hnf]
  exact ⟨rfl, fun h2 => size_freqC _ h2⟩

theorem mean_power_nonneg (psd : Bool) (win : Array ℝ) (M : ℕ) (z : ℕ → Cx ℝ) :
    0 ≤ (∑ i ∈ range M, Cx.abs2 (z i) / winpow psd win) / (M : ℝ) :=
  div_nonneg (Finset.sum_nonneg fun i _ => div_nonneg (by rw [Cx.abs2_eq]; exact Complex.normSq_nonneg _) (winpow_nonneg _ _))
    (Nat.cast_nonneg _)

/-- T13.1 (clause "non-negative values", complex input): every entry is `≥ 0` — a mean of squared magnitudes over a
non-negative window power.  `winpow ≠ 0` and `winlen ≤ len` are spelled out because the code divides by them
(an all-zero window gives NaN in the code: harness class "all-zero window"). -/
theorem welchC_nonneg {fft : ℕ → Vec ℝ → Vec ℝ} {x : Vec ℝ}
    (h : welchC fft x win nov nfft psd = .ok (pxx, f)) (hNL : win.size ≤ x.size) (_hw : winpow psd win ≠ 0)
    (j : ℕ) (hj : j < nfft.toNat) : 0 ≤ rdR pxx j := by
  rw [welchC_cell h hNL j hj]
  exact mean_power_nonneg _ _ _ _

/-- T13.1 (clause "non-negative values", real input) -/
theorem welchR_nonneg {fft : ℕ → Array ℝ → Vec ℝ} {x : Array ℝ}
    (h : welchR fft x win nov nfft psd = .ok (pxx, f)) (hNL : win.size ≤ x.size) (_hw : winpow psd win ≠ 0)
    (hn : 2 ≤ nfft.toNat) (k : ℕ) (hk : k < nfft.toNat / 2 + 1) : 0 ≤ rdR pxx k := by
  rw [welchR_cell h hNL hn k hk]
  exact mul_nonneg (by split <;> norm_num) (mean_power_nonneg _ _ _ _)

/-- `∑_t |x[t1+t]·w[t]|²` of one windowed segment (complex / real input) -/
noncomputable def segPowC (x : Vec ℝ) (win : Array ℝ) (t1 : ℕ) : ℝ :=
  ∑ t ∈ range win.size, Cx.abs2 (rd x (t1 + t)) * (rdR win t) ^ 2
noncomputable def segPowR (x win : Array ℝ) (t1 : ℕ) : ℝ :=
  ∑ t ∈ range win.size, (rdR x (t1 + t) * rdR win t) ^ 2

/-- energy of a zero-padded windowed complex segment (`winlen ≤ nfft`: nothing is truncated) -/
theorem segC_energy (n : ℕ) (x : Vec ℝ) (win : Array ℝ) (hL : win.size ≤ n) (t1 : ℕ) :
    ∑ m ∈ range n, normSq (seq (segC x win t1) m) = segPowC x win t1 := by
  unfold segPowC
  rw [← sum_support n win.size hL]
  apply Finset.sum_congr rfl
  intro m _
  rw [seq_segC]
  split
  · rw [map_mul, Complex.normSq_ofReal, Cx.abs2_eq]; ring
  · exact map_zero _

/-- energy of a zero-padded windowed real segment -/
theorem segR_energy (n : ℕ) (x win : Array ℝ) (hL : win.size ≤ n) (t1 : ℕ) :
    ∑ m ∈ range n, normSq (seqR (segR x win t1) m) = segPowR x win t1 := by
  unfold segPowR
  rw [← sum_support n win.size hL]
  apply Finset.sum_congr rfl
  intro m _
  rw [seqR_segR]
  split
  · rw [Complex.normSq_ofReal]; ring
  · exact map_zero _

/-- **T13.1 `welch_power`, complex input** (clause "sum equals nfft times the window-normalised mean power of the windowed
segments in density scaling"): `∑_j pxx[j] = nfft · mean_i(∑_t |x[i·hop+t]·w[t]|²) / (w·w)` — Parseval with zero-padding
(`winlen ≤ nfft`; a longer window is truncated by `fft(seg, nfft)` and the identity fails). -/
theorem welchC_power {fft : ℕ → Vec ℝ → Vec ℝ} {x : Vec ℝ}
    (h : welchC fft x win nov nfft true = .ok (pxx, f)) (hfft : IsDftC nfft.toNat (fft nfft.toNat))
    (hL : win.size ≤ nfft.toNat) (hNL : win.size ≤ x.size) (_hw : dotWW win ≠ 0) :
    ∑ j ∈ range nfft.toNat, rdR pxx j =
      (nfft.toNat : ℝ) * ((∑ i ∈ range (nsegs x.size win.size nov), segPowC x win (i * hop win.size nov)) /
        (nsegs x.size win.size nov : ℝ)) / dotWW win := by
  obtain ⟨pl, hp, _, _⟩ := welchC_ok h
  have hn := plan_pos hp
  rw [Finset.sum_congr rfl fun j hj => welchC_cell_dft h hfft hNL j (mem_range.mp hj), winpow_true, two_sided_sum _ _ hn]
  simp only [segC_energy _ _ _ hL]

/-- **T13.1 `welch_power`, real input**: the one-sided spectrum (`nfft/2+1` entries, both ends kept, the rest doubled) has the
same sum as the two-sided one (conjugate symmetry of a real segment's transform), hence
`∑_k pxx[k] = nfft · mean_i(∑_t (x[i·hop+t]·w[t])²) / (w·w)`.  `nfft` even: every power of two ≥ 2. -/
theorem welchR_power {fft : ℕ → Array ℝ → Vec ℝ} {x : Array ℝ}
    (h : welchR fft x win nov nfft true = .ok (pxx, f)) (hfft : IsDftR nfft.toNat (fft nfft.toNat))
    (hev : 2 ∣ nfft.toNat) (hL : win.size ≤ nfft.toNat) (hNL : win.size ≤ x.size) (_hw : dotWW win ≠ 0) :
    ∑ k ∈ range (nfft.toNat / 2 + 1), rdR pxx k =
      (nfft.toNat : ℝ) * ((∑ i ∈ range (nsegs x.size win.size nov), segPowR x win (i * hop win.size nov)) /
        (nsegs x.size win.size nov : ℝ)) / dotWW win := by
  obtain ⟨pl, hp, _, _⟩ := welchR_ok h
  obtain ⟨hh, hhe⟩ := hev
  have hn := plan_pos hp
  have hhalf : nfft.toNat / 2 = hh := by rw [hhe, Nat.mul_div_cancel_left _ two_pos]
  rw [Finset.sum_congr rfl fun k hk => welchR_cell_dft h hfft hNL (by omega) k (mem_range.mp hk), hhalf, winpow_true,
    fold_sum hh (by omega) _ fun k _ hk => ?_, ← hhe, two_sided_sum _ _ hn]
  · simp only [segR_energy _ _ _ hL]
  · simp only [← hhe, normSq_dft_symm _ hn _ k (by omega)]

/-! ## T13.2 a bin-centred complex tone in `Power` scaling -/

/-- the window's transform shifted to the tone's bin: `∑_m w[m]·e^{2πi k0 m/n}·e^{-2πi m j/n}` -/
noncomputable def winShift (n : ℕ) (win : Array ℝ) (k0 j : ℕ) : ℂ :=
  ∑ m ∈ range win.size, ((rdR win m : ℝ) : ℂ) * ((ω n (k0 * m))⁻¹ * ω n (m * j))

/-- a segment inside the tone `a·e^{2πi k0 u/n}`: the shifted window transform, up to the phase of the segment's start -/
theorem segC_tone (n : ℕ) (x : Vec ℝ) (win : Array ℝ) (hL : win.size ≤ n) (t1 : ℕ) (ht1 : t1 + win.size ≤ x.size) (a : ℂ)
    (k0 : ℕ) (htone : ∀ u < x.size, Cx.toC (rd x u) = a * (ω n (k0 * u))⁻¹) (j : ℕ) :
    dft n (seq (segC x win t1)) j = a * (ω n (k0 * t1))⁻¹ * winShift n win k0 j := by
  rw [dft_segC _ _ _ hL, winShift, Finset.mul_sum]
  refine Finset.sum_congr rfl fun m hm => ?_
  rw [htone _ ((Nat.add_lt_add_left (mem_range.mp hm) t1).trans_le ht1), Nat.mul_add, ω_add, mul_inv]
  ring

/-- T13.2, every bin: for `x[u] = a·e^{2πi k0 u/nfft}` the `Power`-scaled estimate is `|a|²·|W(j - k0)|² / (∑w)²` at every position
`j` (transform order), for every overlap and number of segments -/
theorem welchC_tone_value {fft : ℕ → Vec ℝ → Vec ℝ} {x : Vec ℝ} {win : Array ℝ} {nov nfft : ℤ} {pxx f : Array ℝ}
    (h : welchC fft x win nov nfft false = .ok (pxx, f)) (hfft : IsDftC nfft.toNat (fft nfft.toNat))
    (hL : win.size ≤ nfft.toNat) (hNL : win.size ≤ x.size) (_hsw : sumW win ≠ 0)
    (a : ℂ) (k0 : ℕ) (htone : ∀ u < x.size, Cx.toC (rd x u) = a * (ω nfft.toNat (k0 * u))⁻¹)
    (j : ℕ) (hj : j < nfft.toNat) :
    rdR pxx j = normSq a * normSq (winShift nfft.toNat win k0 j) / (sumW win * sumW win) := by
  obtain ⟨pl, hp, _, _⟩ := welchC_ok h
  obtain ⟨_, _, _, _, hin⟩ := plan_domain hp hNL
  rw [welchC_cell_dft h hfft hNL j hj]
  -- every segment is the same windowed tone up to a phase, so every term of the mean is the same
  refine mean_const _ (Nat.succ_pos _) _ _ fun i hi => ?_
  rw [segC_tone _ _ _ hL _ (hin i hi) a k0 htone, map_mul, map_mul, normSq_ω_inv, mul_one, winpow_false]

/-- **T13.2** (clause "power scaling reports the mean-square value of a bin-centred sinusoid at its peak"): at the tone's own bin
the `Power`-scaled estimate is exactly `|a|²`, the mean-square value of `a·e^{2πi k0 u/nfft}` — for every window whose sum is not
zero, every overlap, every number of segments -/
theorem welchC_tone_peak {fft : ℕ → Vec ℝ → Vec ℝ} {x : Vec ℝ}
    (h : welchC fft x win nov nfft false = .ok (pxx, f)) (hfft : IsDftC nfft.toNat (fft nfft.toNat))
    (hL : win.size ≤ nfft.toNat) (hNL : win.size ≤ x.size) (hsw : sumW win ≠ 0)
    (a : ℂ) (k0 : ℕ) (hk0 : k0 < nfft.toNat) (htone : ∀ u < x.size, Cx.toC (rd x u) = a * (ω nfft.toNat (k0 * u))⁻¹) :
    rdR pxx k0 = normSq a := by
  rw [welchC_tone_value h hfft hL hNL hsw a k0 htone k0 hk0]
  unfold winShift
  rw [tone_sum_self, Complex.normSq_ofReal, ← sumW_eq]
  field_simp

/-- **T13.2** (clause "… at its peak"): for a non-negative window no entry exceeds the one at the tone's bin -/
theorem welchC_tone_max {fft : ℕ → Vec ℝ → Vec ℝ} {x : Vec ℝ}
    (h : welchC fft x win nov nfft false = .ok (pxx, f)) (hfft : IsDftC nfft.toNat (fft nfft.toNat))
    (hL : win.size ≤ nfft.toNat) (hNL : win.size ≤ x.size) (hsw : sumW win ≠ 0) (hwpos : ∀ t < win.size, 0 ≤ rdR win t)
    (a : ℂ) (k0 : ℕ) (hk0 : k0 < nfft.toNat) (htone : ∀ u < x.size, Cx.toC (rd x u) = a * (ω nfft.toNat (k0 * u))⁻¹)
    (j : ℕ) (hj : j < nfft.toNat) : rdR pxx j ≤ rdR pxx k0 := by
  rw [welchC_tone_peak h hfft hL hNL hsw a k0 hk0 htone, welchC_tone_value h hfft hL hNL hsw a k0 htone j hj,
    div_le_iff₀ (mul_self_pos.mpr hsw)]
  refine mul_le_mul_of_nonneg_left ?_ (Complex.normSq_nonneg _)
  rw [← pow_two, sumW_eq]
  exact tone_sum_le nfft.toNat win.size k0 j (fun m => rdR win m) hwpos

/-! ## T13.2 (real sinusoid) the negative-frequency image bounds the deviation from the mean-square value -/

/-- the window's transform at twice the tone's bin, `S(2k0) = ∑_m w[m]·e^{-2πi 2k0 m/n}`: what the negative-frequency image of a
real sinusoid leaks into the tone's own bin -/
noncomputable def winImage (n : ℕ) (win : Array ℝ) (k0 : ℕ) : ℂ :=
  ∑ m ∈ range win.size, ((rdR win m : ℝ) : ℂ) * (ω n (k0 * m) * ω n (m * k0))

/-- a segment inside the real sinusoid, at the tone's own bin: the tone carries the window sum, its negative-frequency image
carries `S(2k0)`, each up to the phase of the segment's start -/
theorem segR_tone (n : ℕ) (x win : Array ℝ) (hL : win.size ≤ n) (t1 : ℕ) (ht1 : t1 + win.size ≤ x.size) (a : ℂ) (k0 : ℕ)
    (htone : ∀ u < x.size, ((rdR x u : ℝ) : ℂ) = a * (ω n (k0 * u))⁻¹ + (starRingEnd ℂ) a * ω n (k0 * u)) :
    dft n (seqR (segR x win t1)) k0 =
      a * (ω n (k0 * t1))⁻¹ * ((sumW win : ℝ) : ℂ) + (starRingEnd ℂ) a * ω n (k0 * t1) * winImage n win k0 := by
  rw [dft_segR _ _ _ hL, sumW_eq, ← tone_sum_self n _ k0, winImage, Finset.mul_sum, Finset.mul_sum, ← Finset.sum_add_distrib]
  refine Finset.sum_congr rfl fun m hm => ?_
  rw [Complex.ofReal_mul, htone _ ((Nat.add_lt_add_left (mem_range.mp hm) t1).trans_le ht1), Nat.mul_add, ω_add, mul_inv]
  ring

/-- T13.2, real sinusoid in exponential form `x[u] = a·e^{2πi k0 u/n} + conj(a)·e^{-2πi k0 u/n}` (mean-square value `2|a|²`): the
`Power`-scaled entry at bin `k0` is `2|a|²` up to the relative error `2r + r²`, `r = |S(2k0)| / |∑w|` -/
theorem welchR_tone_bound {fft : ℕ → Array ℝ → Vec ℝ} {x : Array ℝ}
    (h : welchR fft x win nov nfft false = .ok (pxx, f)) (hfft : IsDftR nfft.toNat (fft nfft.toNat))
    (hL : win.size ≤ nfft.toNat) (hNL : win.size ≤ x.size) (hsw : sumW win ≠ 0)
    (a : ℂ) (k0 : ℕ) (hk0 : 0 < k0) (hk0' : k0 < nfft.toNat / 2)
    (htone : ∀ u < x.size, ((rdR x u : ℝ) : ℂ) =
      a * (ω nfft.toNat (k0 * u))⁻¹ + (starRingEnd ℂ) a * ω nfft.toNat (k0 * u)) :
    |rdR pxx k0 - 2 * normSq a| ≤ 2 * normSq a *
      (2 * (‖winImage nfft.toNat win k0‖ / |sumW win|) + (‖winImage nfft.toNat win k0‖ / |sumW win|) ^ 2) := by
  obtain ⟨pl, hp, _, _⟩ := welchR_ok h
  obtain ⟨_, _, _, _, hin⟩ := plan_domain hp hNL
  rw [welchR_cell_dft h hfft hNL (by omega) k0 (Nat.lt_succ_of_lt hk0'), if_neg (not_or.mpr ⟨hk0.ne', hk0'.ne⟩)]
  -- every segment is within the image bound of `|a|²`, so is their mean; the entry is twice the mean
  refine (abs_two_mul_sub_le (mean_close _ (Nat.succ_pos _) _ _ _ fun i hi => ?_)).trans_eq (mul_assoc _ _ _).symm
  rw [segR_tone _ _ _ hL _ (hin i hi) a k0 htone]
  exact tone_image_bound a _ _ _ _ hsw (by rw [norm_inv, ω_norm, inv_one]) (ω_norm _ _)

/-- **T13.2, real sinusoid** (clause "power scaling reports the mean-square value of a bin-centred sinusoid at its peak", real
input): for `x[u] = A·cos(2π k0 u/nfft + φ)`, `0 < k0 < nfft/2`, the `Power`-scaled entry at bin `k0` differs from the mean-square
value `A²/2` by at most `(A²/2)·(2r + r²)`, `r = |S(2k0)| / |∑w|` the relative size of the negative-frequency image under the
window — for every window with non-zero sum, every overlap, every number of segments.  (Exact equality is impossible for a
real sinusoid: the image term is there for every correct implementation; the oracle computes `r` from the window and uses
this bound.) -/
theorem welchR_cos_tone {fft : ℕ → Array ℝ → Vec ℝ} {x : Array ℝ}
    (h : welchR fft x win nov nfft false = .ok (pxx, f)) (hfft : IsDftR nfft.toNat (fft nfft.toNat))
    (hL : win.size ≤ nfft.toNat) (hNL : win.size ≤ x.size) (hsw : sumW win ≠ 0)
    (A φ : ℝ) (k0 : ℕ) (hk0 : 0 < k0) (hk0' : k0 < nfft.toNat / 2)
    (htone : ∀ u < x.size, rdR x u = A * Real.cos (2 * Real.pi * ((k0 * u : ℕ) : ℝ) / (nfft.toNat : ℝ) + φ)) :
    |rdR pxx k0 - A ^ 2 / 2| ≤ A ^ 2 / 2 *
      (2 * (‖winImage nfft.toNat win k0‖ / |sumW win|) + (‖winImage nfft.toNat win k0‖ / |sumW win|) ^ 2) := by
  have := welchR_tone_bound h hfft hL hNL hsw (cosAmp A φ) k0 hk0 hk0'
    (fun u hu => by rw [htone u hu, cos_as_exponentials])
  rw [cosAmp_power] at this
  exact this

/-! ## T13.3 frequency labels -/

/-- **T13.3 `freq_labels`, real input** (clause "the returned frequency vector gives the true frequency of each value"):
entry `k` of `f` is `k / nfft`, and entry `k` of `pxx` is the (one-sided) mean power of DFT bin `k` of the windowed segments —
the bin whose basis function is `e^{2πi (k/nfft) t}`. -/
theorem welchR_labels {fft : ℕ → Array ℝ → Vec ℝ} {x : Array ℝ}
    (h : welchR fft x win nov nfft psd = .ok (pxx, f)) (hfft : IsDftR nfft.toNat (fft nfft.toNat))
    (hNL : win.size ≤ x.size) (hn : 2 ≤ nfft.toNat) (k : ℕ) (hk : k < nfft.toNat / 2 + 1) :
    rdR f k = (k : ℝ) / (nfft.toNat : ℝ) ∧
    rdR pxx k = (if k = 0 ∨ k = nfft.toNat / 2 then (1 : ℝ) else 2) *
      ((∑ i ∈ range (nsegs x.size win.size nov),
        normSq (dft nfft.toNat (seqR (segR x win (i * hop win.size nov))) k) / winpow psd win) / (nsegs x.size win.size nov : ℝ)) := by
  refine ⟨?_, welchR_cell_dft h hfft hNL hn k hk⟩
  obtain ⟨pl, hp, _, rfl⟩ := welchR_ok h
  rw [(plan_ok hp).2.2.2.1, rdR_freqR _ _ hk]

/-- T13.3, complex input, what the code does (`…_partial`: the FULL clause — "entry `j` of `f` is the frequency of entry `j` of
`pxx`" — is false on the current tree, see `welchC_axis_offset`): entry `j` of `pxx` is the mean power of DFT bin `j`
(transform order, frequency `j/nfft` mod 1), entry `j` of `f` is the centred-axis value `(j - nfft/2 + 1)/nfft`. -/
theorem welchC_labels_partial {fft : ℕ → Vec ℝ → Vec ℝ} {x : Vec ℝ} {win : Array ℝ} {nov nfft : ℤ} {psd : Bool} {pxx f : Array ℝ}
    (h : welchC fft x win nov nfft psd = .ok (pxx, f)) (hfft : IsDftC nfft.toNat (fft nfft.toNat))
    (hNL : win.size ≤ x.size) (hev : 2 ∣ nfft.toNat) (j : ℕ) (hj : j < nfft.toNat) :
    rdR f j = ((j : ℝ) - (nfft.toNat : ℝ) / 2 + 1) / (nfft.toNat : ℝ) ∧
    rdR pxx j = (∑ i ∈ range (nsegs x.size win.size nov),
        normSq (dft nfft.toNat (seq (segC x win (i * hop win.size nov))) j) / winpow psd win) / (nsegs x.size win.size nov : ℝ) := by
  refine ⟨?_, welchC_cell_dft h hfft hNL j hj⟩
  obtain ⟨pl, hp, _, rfl⟩ := welchC_ok h
  rw [(plan_ok hp).2.2.2.1, rdR_freqC _ _ hev hj]

/-- the centred axis against the transform-order frequencies, as arithmetic -/
theorem axis_offset_arith (n j : ℝ) (h4 : 4 ≤ n) :
    (j - n / 2 + 1) / n - j / n = 1 / n - 1 / 2 ∧ -(1 / 2 : ℝ) < 1 / n - 1 / 2 ∧ 1 / n - 1 / 2 < 0 := by
  have hn0 : 0 < n := lt_of_lt_of_le four_pos h4
  have e : n / 2 / n = 1 / 2 := by rw [div_right_comm, div_self hn0.ne']
  refine ⟨by rw [add_div, sub_div, e]; ring, ?_, ?_⟩
  · rw [lt_sub_iff_add_lt, neg_add_cancel]
    exact one_div_pos.mpr hn0
  · exact sub_neg.mpr (lt_of_le_of_lt (one_div_le_one_div_of_le four_pos h4) (by norm_num))

/-- T13.3, complex input, the recorded finding `C13:complex-welch-axis` in general form: for every even `nfft ≥ 4` and EVERY
position `j`, the listed frequency differs from the frequency `j/nfft` of the value stored there by `1/nfft - 1/2`, which lies
strictly between `-1/2` and `0` — so it is not an integer and the label is not even congruent (mod 1) to the true frequency. -/
theorem welchC_axis_offset {fft : ℕ → Vec ℝ → Vec ℝ} {x : Vec ℝ}
    (h : welchC fft x win nov nfft psd = .ok (pxx, f)) (hev : 2 ∣ nfft.toNat) (h4 : 4 ≤ nfft.toNat) (j : ℕ) (hj : j < nfft.toNat) :
    rdR f j - (j : ℝ) / (nfft.toNat : ℝ) = 1 / (nfft.toNat : ℝ) - 1 / 2 ∧
    -(1 / 2 : ℝ) < 1 / (nfft.toNat : ℝ) - 1 / 2 ∧ 1 / (nfft.toNat : ℝ) - 1 / 2 < 0 := by
  obtain ⟨pl, hp, _, rfl⟩ := welchC_ok h
  rw [(plan_ok hp).2.2.2.1, rdR_freqC _ _ hev hj]
  exact axis_offset_arith _ _ (by exact_mod_cast h4)

/-- the tone `e^{2πi·2u/8}` (frequency `+0.25`), 8 samples -/
noncomputable def tone8 : Vec ℝ := mk 8 (fun u => ⟨((ω 8 (2 * u))⁻¹).re, ((ω 8 (2 * u))⁻¹).im⟩)
noncomputable def ones8 : Array ℝ := Array.replicate 8 1

theorem rdR_ones8 (t : ℕ) (ht : t < 8) : rdR ones8 t = 1 := by
  unfold rdR ones8; simp [Array.getD, ht]

theorem sum_ones8 (g : ℕ → ℝ) (h : ∀ t < 8, g t = 1) : ∑ t ∈ range 8, g t = 8 := by
  rw [Finset.sum_congr rfl fun t ht => h t (mem_range.mp ht), Finset.sum_const, card_range, nsmul_eq_mul, mul_one]
  rfl

theorem size_ones8 : ones8.size = 8 := Array.size_replicate

theorem sumW_ones8 : sumW ones8 = 8 := by
  rw [sumW_eq, size_ones8]
  exact sum_ones8 _ rdR_ones8

/-- T13.3, complex input, witness replayed by the oracle (`C13:complex-welch-axis`): `nfft = 8`, rectangular window, the tone at
`+0.25` (bin 2).  The call is accepted, the estimate has its maximum `1 = |a|²` at position 2 (every other entry is `≤` it), and
the frequency listed for position 2 is `-1/8`, not `1/4`. -/
theorem welchC_axis_witness (fft : ℕ → Vec ℝ → Vec ℝ) (hfft : IsDftC 8 (fft 8)) :
    ∃ pxx f, welchC fft tone8 ones8 0 8 false = .ok (pxx, f) ∧ rdR pxx 2 = 1 ∧ (∀ j < 8, rdR pxx j ≤ rdR pxx 2) ∧
      rdR f 2 = -(1 / 8 : ℝ) ∧ rdR f 2 ≠ (2 : ℝ) / 8 := by
  have hs1 : tone8.size = 8 := size_mk _ _
  have hplan : plan tone8.size ones8.size 0 8 = .ok ⟨8, 8, 1⟩ := by rw [hs1, size_ones8]; rfl
  obtain ⟨pxx, f, h⟩ := welchC_accepts fft tone8 ones8 0 8 false _ hplan
  have htone : ∀ u < tone8.size, Cx.toC (rd tone8 u) = (1 : ℂ) * (ω (8 : ℤ).toNat (2 * u))⁻¹ := fun u hu => by
    rw [tone8, rd_mk_lt _ _ _ (hs1 ▸ hu), one_mul]
    rfl
  have hsw : sumW ones8 ≠ 0 := by rw [sumW_ones8]; norm_num
  have hL : ones8.size ≤ (8 : ℤ).toNat := size_ones8.le
  have hNL : ones8.size ≤ tone8.size := by rw [hs1, size_ones8]
  have hlab : rdR f 2 = -(1 / 8 : ℝ) := by
    rw [(welchC_labels_partial h hfft hNL (by decide) 2 (by decide)).1, show (8 : ℤ).toNat = 8 from rfl]
    norm_num
  refine ⟨pxx, f, h, ?_, fun j hj => ?_, hlab, by rw [hlab]; norm_num⟩
  · rw [welchC_tone_peak h hfft hL hNL hsw 1 2 (by decide) htone, map_one]
  · exact welchC_tone_max h hfft hL hNL hsw (fun t ht => by rw [rdR_ones8 t (size_ones8 ▸ ht)]; norm_num) 1 2
      (by decide) htone j hj

end welch

/-! ## T13.4 magnitude-squared coherence -/

section coherence
variable {fft : ℕ → Array ℝ → Vec ℝ} {x y win : Array ℝ} {nov nfft : ℤ} {c : Array ℝ}

/-- the accumulated auto-spectrum `∑_i |X_i[k]|²` of a signal at bin `k` (`Pxx`, `Pyy` of `_mscohere`) -/
noncomputable def autoSpec (fft : ℕ → Array ℝ → Vec ℝ) (x win : Array ℝ) (nov nfft : ℤ) (k : ℕ) : ℝ :=
  ∑ i ∈ range (nsegs x.size win.size nov), Cx.abs2 (rd (fft nfft.toNat (segR x win (i * hop win.size nov))) k)

/-- the accumulated cross-spectrum `∑_i X_i[k]·conj(Y_i[k])` -/
noncomputable def crossSpec (fft : ℕ → Array ℝ → Vec ℝ) (x y win : Array ℝ) (nov nfft : ℤ) (k : ℕ) : ℂ :=
  ∑ i ∈ range (nsegs x.size win.size nov), Cx.toC (rd (fft nfft.toNat (segR x win (i * hop win.size nov))) k) *
    (starRingEnd ℂ) (Cx.toC (rd (fft nfft.toNat (segR y win (i * hop win.size nov))) k))

/-- entry `k` of `mscohere`: `|Pxy|² / (Pxx·Pyy)` -/
theorem mscohere_cell
    (h : mscohere fft x y win nov nfft = .ok c) (hNL : win.size ≤ x.size) (k : ℕ) (hk : k < nfft.toNat / 2 + 1) :
    c.size = nfft.toNat / 2 + 1 ∧
    rdR c k = normSq (crossSpec fft x y win nov nfft k) / (autoSpec fft x win nov nfft k * autoSpec fft y win nov nfft k) := by
  obtain ⟨hxy, pl, hp, rfl⟩ := mscohere_ok h
  obtain ⟨_, _, _, hnf, _, _, _⟩ := plan_ok hp
  obtain ⟨hst, _, _, hnt, _⟩ := plan_domain hp hNL
  have hk' : k < pl.nfft / 2 + 1 := by rw [hnf]; exact hk
  constructor
  · simp [cohOut, hnf]
  · unfold cohOut
    rw [rdR_ofFn _ _ _ hk']
    simp only []
    rw [(cohAccum_cells _ _ _ _ k hk').1, (cohAccum_cells _ _ _ _ k hk').2.1, Cx.abs2_eq, (cohAccum_cells _ _ _ _ k hk').2.2,
      hnt, hst, hnf]
    unfold autoSpec crossSpec
    rw [← hxy]

/-- **T13.4** (clause "mscohere always lies in [0, 1]"): Cauchy–Schwarz over the segments — for EVERY transform `fft` (no
assumption on it), every window, overlap, pair of signals.  The two auto-spectra are the divisors of the code; where one of them
vanishes the code returns `0/0` (NaN): spelled out as hypothesis, run by the harness (all-zero window class). -/
theorem mscohere_range
    (h : mscohere fft x y win nov nfft = .ok c) (hNL : win.size ≤ x.size) (k : ℕ) (hk : k < nfft.toNat / 2 + 1)
    (hx : autoSpec fft x win nov nfft k ≠ 0) (hy : autoSpec fft y win nov nfft k ≠ 0) :
    0 ≤ rdR c k ∧ rdR c k ≤ 1 := by
  rw [(mscohere_cell h hNL k hk).2]
  have nn : ∀ z, 0 ≤ autoSpec fft z win nov nfft k := fun z =>
    Finset.sum_nonneg fun i _ => by rw [Cx.abs2_eq]; exact Complex.normSq_nonneg _
  have hpos : 0 < autoSpec fft x win nov nfft k * autoSpec fft y win nov nfft k :=
    mul_pos ((nn x).lt_of_ne' hx) ((nn y).lt_of_ne' hy)
  refine ⟨div_nonneg (Complex.normSq_nonneg _) hpos.le, ?_⟩
  rw [div_le_one hpos]
  unfold crossSpec autoSpec
  simp only [Cx.abs2_eq]
  rw [← (mscohere_ok h).1]
  exact cauchy_schwarz _ _ _

/-- **T13.4** (clause "equals 1 at every frequency when one signal is a scaled copy of the other"): `y = s·x`, `s ≠ 0`, at every
bin where the spectrum of `x` is not zero (elsewhere the code computes `0/0`). -/
theorem mscohere_scaled_copy
    (h : mscohere fft x y win nov nfft = .ok c) (hfft : IsDftR nfft.toNat (fft nfft.toNat)) (hNL : win.size ≤ x.size)
    (s : ℝ) (hs : s ≠ 0) (hy : ∀ t, rdR y t = s * rdR x t)
    (k : ℕ) (hk : k < nfft.toNat / 2 + 1) (hx : autoSpec fft x win nov nfft k ≠ 0) : rdR c k = 1 := by
  rw [(mscohere_cell h hNL k hk).2]
  have hsz := (mscohere_ok h).1
  obtain ⟨pl, hp, _⟩ := (mscohere_ok h).2
  have hkn : k < nfft.toNat := hk.trans_le (Nat.div_lt_self (plan_pos hp) one_lt_two)
  -- the transform is linear: Y_i[k] = s·X_i[k]
  have hY : ∀ i, Cx.toC (rd (fft nfft.toNat (segR y win (i * hop win.size nov))) k) =
      (s : ℂ) * Cx.toC (rd (fft nfft.toNat (segR x win (i * hop win.size nov))) k) := by
    intro i
    rw [hfft _ k hkn, hfft _ k hkn, ← dft_smul]
    refine dft_congr _ _ _ (fun m _ => ?_) k
    rw [seqR_segR, seqR_segR]
    split
    · rw [hy, mul_assoc, Complex.ofReal_mul]
    · rw [mul_zero]
  have hA : autoSpec fft y win nov nfft k = s ^ 2 * autoSpec fft x win nov nfft k := by
    unfold autoSpec
    rw [← hsz, Finset.mul_sum]
    apply Finset.sum_congr rfl
    intro i _
    rw [Cx.abs2_eq, Cx.abs2_eq, hY, map_mul, Complex.normSq_ofReal]; ring
  have hC : crossSpec fft x y win nov nfft k = (s : ℂ) * ((autoSpec fft x win nov nfft k : ℝ) : ℂ) := by
    unfold crossSpec autoSpec
    rw [Complex.ofReal_sum, Finset.mul_sum]
    apply Finset.sum_congr rfl
    intro i _
    rw [hY, map_mul, Complex.conj_ofReal, Cx.abs2_eq, ← Complex.mul_conj]
    ring
  rw [hC, hA, map_mul, Complex.normSq_ofReal, Complex.normSq_ofReal]
  field_simp

end coherence

/-! ## bridges to the neighbouring properties -/

/-- the shape in which property C01 states its result (`Props/C01.lean`, `fftRN_eq`: the DFT of `padSeqR n y`, the input zero-padded
or truncated to `n` samples) implies `IsDftR` -/
theorem isDftR_of_pad (n : ℕ) (F : Array ℝ → Vec ℝ)
    (h : ∀ (y : Array ℝ) (k : ℕ), k < n → Cx.toC (rd (F y) k) = dft n (fun i => if i < y.size ∧ i < n then seqR y i else 0) k) :
    IsDftR n F := by
  intro y k hk
  rw [h y k hk]
  refine dft_congr _ _ _ (fun i hi => ?_) k
  by_cases hy : i < y.size
  · rw [if_pos ⟨hy, hi⟩]
  · rw [if_neg fun h => hy h.1, seqR, rdR_of_ge _ _ (Nat.not_lt.mp hy), Complex.ofReal_zero]

/-- complex counterpart (`fftCN_eq`, `padSeq`) -/
theorem isDftC_of_pad (n : ℕ) (F : Vec ℝ → Vec ℝ)
    (h : ∀ (y : Vec ℝ) (k : ℕ), k < n → Cx.toC (rd (F y) k) = dft n (fun i => if i < y.size ∧ i < n then seq y i else 0) k) :
    IsDftC n F := by
  intro y k hk
  rw [h y k hk]
  refine dft_congr _ _ _ (fun i hi => ?_) k
  by_cases hy : i < y.size
  · rw [if_pos ⟨hy, hi⟩]
  · rw [if_neg fun h => hy h.1, seq, rd, getD_of_ge _ _ _ (Nat.not_lt.mp hy), toC_zero]

/-- an accepted transform size is a power of two (`ispow2` as the code computes it), hence even from 2 on: the hypothesis
`2 ∣ nfft` of the theorems above holds for every accepted `nfft ≥ 2`, in particular on the property's range 8..4096 -/
theorem accepted_pow2 {N L : ℕ} {nov nfft : ℤ} {pl : Spectrum.Plan} (h : plan N L nov nfft = .ok pl) :
    nfft.toNat = 2 ^ nextpow2 nfft.toNat ∧ (2 ≤ nfft → 2 ∣ nfft.toNat) := by
  obtain ⟨_, hp2, _⟩ := plan_ok h
  have e : nfft.toNat = 2 ^ nextpow2 nfft.toNat := by
    unfold ispow2 at hp2
    rw [Nat.one_shiftLeft] at hp2
    exact (beq_iff_eq.mp hp2).symm
  refine ⟨e, fun h2 => ?_⟩
  rcases hk : nextpow2 nfft.toNat with _ | k
  · rw [hk] at e; omega
  · rw [e, hk, pow_succ]; exact Dvd.intro_left _ rfl

/-! ## non-vacuity -/

/-- accepted calls inside the property's domain exist: `nfft = 8`, an 8-sample window, overlap 4, 20 samples: 4 segments of hop 4 -/
example : plan 20 8 4 8 = .ok ⟨8, 4, 4⟩ ∧ nsegs 20 8 4 = 4 ∧ hop 8 4 = 4 := ⟨by rfl, by decide, by decide⟩

/-- the hypotheses of `welchC_tone_peak` / `welchC_tone_max` / `welchC_labels_partial` hold together at a concrete non-trivial
state (`welchC_axis_witness` instantiates all of them with the exact transform) -/
example : ∃ pxx f, welchC (fun n => exactC n) tone8 ones8 0 8 false = .ok (pxx, f) ∧ rdR pxx 2 = 1 :=
  let ⟨pxx, f, h, h1, _⟩ := welchC_axis_witness (fun n => exactC n) (exactC_isDft 8)
  ⟨pxx, f, h, h1⟩

end Dsp.C13
