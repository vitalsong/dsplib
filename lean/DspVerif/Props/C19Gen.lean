import DspVerif.Props.C19
import DspVerif.Gen.StepsSnr
import DspVerif.Lib.RealFn
import DspVerif.Lib.GenBridge
/-!
# C19 — bridge: the order-comparison skeleton of the tone search IS the regenerated code of `lib/snr.cpp`

`Gen/StepsSnr.lean` is written by `tools/cxx2lean.py` on every check run from `lib/snr.cpp`:
`_locate_peak`, `_left_descent`, `_right_descent` (`Gen.snrLocatePeak`, `snrLeftDescent`, `snrRightDescent`) and the
statements of `_get_psd_tone(spec, tone_freq)` from `ipeak` to `rpos` (`Gen.snrToneBounds`: peak, the plateau of bins equal to
the peak, the two descents).  Every `while` loop there is a *bounded walk* (`while ((p > 0) && cmp) --p;` /
`while ((p < n - 1) && cmp) ++p;`: the body only steps `p`, a conjunct of the condition bounds it by an expression the loop
cannot change) and becomes a fuel-bounded recursion `…_whileN` that is called with exactly the fuel the bound allows
(`p - 0`, `n - 1 - p`); a loop of another shape makes GEN fail.  `max(idx, 0)` / `min(idx, n - 1)` are the `dsplib::max/min`
templates translated at `int`.  The other statements of `_get_psd_tone` (`std::round`, the clamp of `freq_num`, `arange`,
`slice`, `dot`, `sum`, `ToneInfo`) are PINNED by digest, not translated.

Proved here over ℝ: a fuel-bounded `Int` walk is the model's `Nat` walk for every sufficient fuel; hence, for every non-empty
spectrum and every bin number `≥ 0`, the generated walks end at the lobe limits `lpos`, `rpos` of `Model/Noise.lean`'s `getTone`
(which runs its right walks with fuel `n`), and `getTone_scale` of `Props/C19.lean` is transported: scaling the spectrum by `k > 0`
does not move the lobe the generated code finds.
-/
namespace Dsp.C19Gen
open Dsp Dsp.Noise Dsp.GenBridge

/-! ## bounded walks: a fuel-bounded recursion on `Int` positions = the model's walk on `Nat` positions -/

/-- downward walk: with fuel `p` from position `p` -/
theorem walk_down (W : ℕ → Int → Int) (C : Int → Prop) [DecidablePred C] (M : ℕ → ℕ)
    (h0 : ∀ p, W 0 p = p) (hs : ∀ f p, W (f + 1) p = if (p > 0 ∧ C p) then W f (p - 1) else p)
    (hm0 : M 0 = 0) (hms : ∀ p, M (p + 1) = if C ((p + 1 : ℕ) : Int) then M p else p + 1) :
    ∀ p : ℕ, W p (p : Int) = (M p : Int) := by
  intro p
  induction p with
  | zero => rw [h0, hm0]
  | succ p ih =>
    rw [hs, hms]
    by_cases hc : C ((p + 1 : ℕ) : Int)
    · rw [if_pos ⟨by omega, hc⟩, if_pos hc]
      have : (((p + 1 : ℕ) : Int) - 1) = (p : Int) := by omega
      rw [this, ih]
    · rw [if_neg (by tauto), if_neg hc]

/-- upward walk towards `n - 1`: any two fuels that reach `n - 1` give the same result -/
theorem walk_up (W : ℕ → Int → Int) (C : Int → Prop) [DecidablePred C] (n : ℕ) (M : ℕ → ℕ → ℕ)
    (h0 : ∀ p, W 0 p = p) (hs : ∀ f p, W (f + 1) p = if (p < (n : Int) - 1 ∧ C p) then W f (p + 1) else p)
    (hm0 : ∀ p, M 0 p = p) (hms : ∀ f p, M (f + 1) p = if p + 1 < n ∧ C (p : Int) then M f (p + 1) else p) :
    ∀ (f f' p : ℕ), n ≤ p + f + 1 → n ≤ p + f' + 1 → W f (p : Int) = (M f' p : Int) := by
  intro f
  induction f with
  | zero =>
    intro f' p h1 h2
    rw [h0]
    cases f' with
    | zero => rw [hm0]
    | succ f' => rw [hms, if_neg (by omega)]
  | succ f ih =>
    intro f' p h1 h2
    rw [hs]
    by_cases hc : ((p : Int) < (n : Int) - 1 ∧ C (p : Int))
    · rw [if_pos hc]
      cases f' with
      | zero => omega
      | succ f' =>
        rw [hms, if_pos ⟨by omega, hc.2⟩]
        have : ((p : Int) + 1) = ((p + 1 : ℕ) : Int) := by push_cast; rfl
        rw [this]
        exact ih f' (p + 1) (by omega) (by omega)
    · rw [if_neg hc]
      cases f' with
      | zero => rw [hm0]
      | succ f' =>
        rw [hms, if_neg (by intro h; exact hc ⟨by omega, h.2⟩)]

noncomputable section

/-- the spectrum as the model reads it -/
def specFn (spec : Array ℝ) : ℕ → ℝ := fun i => spec.getD i 0

theorem arrGet_spec (spec : Array ℝ) (idx : Int) (k : ℕ) (h : idx = (k : Int)) :
    Gen.arrGet (Gen.zeroR : ℝ) spec idx = specFn spec k := by
  rw [arrGet_eq _ spec idx k h]; simp [specFn, Gen.zeroR]

/-! ### `_locate_peak` -/

theorem locatePeak_eq (spec : Array ℝ) (idx : ℕ) :
    Gen.snrLocatePeak spec (idx : Int) = (locatePeak spec.size (specFn spec) idx : Int) := by
  unfold Gen.snrLocatePeak locatePeak
  simp only [Gen.arrSize, Int.ofNat_eq_natCast, Int.sub_zero, Int.toNat_natCast]
  have h1 := walk_down (Gen.snrLocatePeak_while1 spec)
    (fun p => Gen.arrGet (Gen.zeroR : ℝ) spec (p - 1) > Gen.arrGet (Gen.zeroR : ℝ) spec p) (walkL gtB (specFn spec))
    (fun p => rfl) (fun f p => rfl) rfl
    (fun p => by
      simp only [walkL, gtB, decide_eq_true_eq]
      rw [arrGet_spec spec _ p (by omega), arrGet_spec spec _ (p + 1) rfl]) idx
  rw [h1]
  have h2 := walk_up (Gen.snrLocatePeak_while2 spec (spec.size : Int))
    (fun p => Gen.arrGet (Gen.zeroR : ℝ) spec p < Gen.arrGet (Gen.zeroR : ℝ) spec (p + 1)) spec.size
    (walkR ltB spec.size (specFn spec))
    (fun p => rfl) (fun f p => rfl) (fun p => rfl)
    (fun f p => by
      simp only [walkR, ltB, decide_eq_true_eq]
      rw [arrGet_spec spec _ p rfl, arrGet_spec spec _ (p + 1) (by push_cast; rfl)])
  exact h2 _ spec.size (walkL gtB (specFn spec) idx) (by omega) (by omega)

/-! ### `_left_descent`, `_right_descent` -/

theorem leftDescent_eq (spec : Array ℝ) (idx : ℕ) :
    Gen.snrLeftDescent spec (idx : Int) = (leftDescent (specFn spec) idx : Int) := by
  unfold Gen.snrLeftDescent leftDescent
  have hm : Gen.maxII (idx : Int) (0 : Int) = (idx : Int) := by
    unfold Gen.maxII; split <;> omega
  simp only [hm, Int.sub_zero, Int.toNat_natCast]
  exact walk_down (Gen.snrLeftDescent_while1 spec)
    (fun p => Gen.arrGet (Gen.zeroR : ℝ) spec (p - 1) < Gen.arrGet (Gen.zeroR : ℝ) spec p) (walkL ltB (specFn spec))
    (fun p => rfl) (fun f p => rfl) rfl
    (fun p => by
      simp only [walkL, ltB, decide_eq_true_eq]
      rw [arrGet_spec spec _ p (by omega), arrGet_spec spec _ (p + 1) rfl]) idx

theorem rightDescent_eq (spec : Array ℝ) (idx : ℕ) (hn : 1 ≤ spec.size) :
    Gen.snrRightDescent spec (idx : Int) = (rightDescent spec.size (specFn spec) idx : Int) := by
  unfold Gen.snrRightDescent rightDescent
  simp only [Gen.arrSize, Int.ofNat_eq_natCast]
  have hm : Gen.minII (idx : Int) ((spec.size : Int) - 1) = ((min idx (spec.size - 1) : ℕ) : Int) := by
    unfold Gen.minII; split <;> omega
  rw [hm]
  have h2 := walk_up (Gen.snrRightDescent_while1 spec (spec.size : Int))
    (fun p => Gen.arrGet (Gen.zeroR : ℝ) spec p > Gen.arrGet (Gen.zeroR : ℝ) spec (p + 1)) spec.size
    (walkR gtB spec.size (specFn spec))
    (fun p => rfl) (fun f p => rfl) (fun p => rfl)
    (fun f p => by
      simp only [walkR, gtB, decide_eq_true_eq]
      rw [arrGet_spec spec _ p rfl, arrGet_spec spec _ (p + 1) (by push_cast; rfl)])
  exact h2 _ spec.size (min idx (spec.size - 1)) (by omega) (by omega)

/-! ### the walks of `_get_psd_tone` -/

/-- **bridge, `_get_psd_tone`: peak, plateau and descents.**  For every non-empty spectrum and every bin number: the generated
walks (six `while` loops of the bounded-walk shape, four in the three helper functions and two in `_get_psd_tone` itself, each
run with exactly the fuel its bounding conjunct allows) end at the model's lobe limits `getTone … .lpos / .rpos`. -/
theorem toneBounds_eq (spec : Array ℝ) (fnum : ℕ) (hn : 1 ≤ spec.size) :
    Gen.snrToneBounds spec (fnum : Int) =
      (((getTone spec.size (specFn spec) fnum).lpos : Int), ((getTone spec.size (specFn spec) fnum).rpos : Int)) := by
  unfold Gen.snrToneBounds getTone
  simp only [Gen.arrSize, Int.ofNat_eq_natCast, locatePeak_eq, Int.sub_zero, Int.toNat_natCast]
  set ip := locatePeak spec.size (specFn spec) fnum with hip
  have h1 := walk_down (Gen.snrToneBounds_while1 spec (ip : Int))
    (fun p => Gen.arrGet (Gen.zeroR : ℝ) spec (p - 1) ≤ Gen.arrGet (Gen.zeroR : ℝ) spec (ip : Int) ∧
      Gen.arrGet (Gen.zeroR : ℝ) spec (ip : Int) ≤ Gen.arrGet (Gen.zeroR : ℝ) spec (p - 1))
    (topL (specFn spec) (specFn spec ip))
    (fun p => rfl) (fun f p => rfl) rfl
    (fun p => by
      simp only [topL, eqB, decide_eq_true_eq]
      rw [arrGet_spec spec _ p (by omega), arrGet_spec spec _ ip rfl]) ip
  rw [h1]
  have h2 := walk_up (Gen.snrToneBounds_while2 spec (spec.size : Int) (ip : Int))
    (fun p => Gen.arrGet (Gen.zeroR : ℝ) spec (p + 1) ≤ Gen.arrGet (Gen.zeroR : ℝ) spec (ip : Int) ∧
      Gen.arrGet (Gen.zeroR : ℝ) spec (ip : Int) ≤ Gen.arrGet (Gen.zeroR : ℝ) spec (p + 1)) spec.size
    (topR spec.size (specFn spec) (specFn spec ip))
    (fun p => rfl) (fun f p => rfl) (fun p => rfl)
    (fun f p => by
      simp only [topR, eqB, decide_eq_true_eq]
      rw [arrGet_spec spec _ (p + 1) (by push_cast; rfl), arrGet_spec spec _ ip rfl])
  rw [h2 _ spec.size ip (by omega) (by omega), leftDescent_eq, rightDescent_eq _ _ hn]

/-- **scale invariance of the tone search, transported to the regenerated walks (T19 `getTone_scale`):** multiplying the
spectrum by any `k > 0` does not move the lobe limits the GENERATED code finds -/
theorem gen_toneBounds_scale (k : ℝ) (hk : 0 < k) (spec : Array ℝ) (fnum : ℕ) (hn : 1 ≤ spec.size) :
    Gen.snrToneBounds (spec.map fun v => k * v) (fnum : Int) = Gen.snrToneBounds spec (fnum : Int) := by
  have hs : specFn (spec.map fun v => k * v) = C19.sc k (specFn spec) := by
    funext i
    simp only [specFn, C19.sc, Array.getD_eq_getD_getElem?, Array.getElem?_map]
    cases spec[i]? <;> simp
  rw [toneBounds_eq _ _ (by simpa using hn), toneBounds_eq _ _ hn, hs, Array.size_map, C19.getTone_scale hk]
  rfl

/-- non-vacuity (the example of `Props/C19.lean`): on the spectrum `1 6 1 1 4 1 1`, started at bin 1, the generated walks
return the lobe `[0, 2]` -/
example : Gen.snrToneBounds (#[1, 6, 1, 1, 4, 1, 1] : Array ℝ) (1 : Int) = ((0 : Int), (2 : Int)) := by
  have hs : specFn (#[1, 6, 1, 1, 4, 1, 1] : Array ℝ) = C19.spec7 := by
    funext i; simp [specFn, C19.spec7, ofList]
  have h := toneBounds_eq (#[1, 6, 1, 1, 4, 1, 1] : Array ℝ) 1 (by decide)
  rw [hs, show (#[1, 6, 1, 1, 4, 1, 1] : Array ℝ).size = 7 from rfl, C19.spec7_tone] at h
  exact h

end
end Dsp.C19Gen
