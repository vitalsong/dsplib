import DspVerif.Props.C01
import DspVerif.Lib.C07Dft
/-!
# C01 / T01.6 — Bluestein's chirp-z transform (`lib/fft/czt.cpp`) equals the DFT

Exact theorems (over `ℂ`) about `czt`, `ifftWith`, `powNeg`, `angle` of `Model/Fft.lean` at `ℝ`: bin `k < m` of
`CztPlan(n,m,w,a)(x)` is `Σ_j x[j]·a^(−j)·w^(jk)` (`czt_eq`), hence `cztPrime`, the instance `PrimesFftC` builds for prime
lengths `> 41`, is the DFT for every `n ≤ 2^31` (the range on which the 32-bit `nextpow2` gives `n2 ≥ 2n − 1`).
-/
open Finset Complex
namespace Dsp.C01
open Dsp Dsp.Fft Dsp.Primes Dsp.C07

/-! ## `nextpow2` on the 32-bit range -/

theorem shiftLoop_spec (m : ℕ) : ∀ (fuel p : ℕ), m < 2 ^ (p + fuel) →
    shiftLoop m fuel p ≤ p + fuel ∧ m < 2 ^ shiftLoop m fuel p
  | 0, p, h => ⟨le_rfl, h⟩
  | fuel + 1, p, h => by
    simp only [shiftLoop, Nat.shiftRight_eq_div_pow]
    by_cases hp : m < 2 ^ p
    · rw [Nat.div_eq_of_lt hp]
      exact ⟨Nat.le_add_right _ _, hp⟩
    · have h3 : m / 2 ^ p ≠ 0 := (Nat.div_pos (not_lt.mp hp) (Nat.two_pow_pos p)).ne'
      simp only [bne_iff_ne, ne_eq, h3, not_false_eq_true, if_true]
      rw [← Nat.add_assoc, Nat.add_right_comm] at h ⊢
      exact shiftLoop_spec m fuel (p + 1) h

/-- `nextpow2` (32-bit `int` loop) is large enough on its whole range -/
theorem le_two_pow_nextpow2 (m : ℕ) (hm : m ≤ 2 ^ 32) : m ≤ 2 ^ nextpow2 m ∧ nextpow2 m ≤ 32 := by
  rcases Nat.lt_or_ge m (2 ^ 32) with hlt | hge
  · by_cases h01 : m = 0 ∨ m = 1
    · rcases h01 with h | h <;> subst h <;> decide +kernel
    · obtain ⟨b, c⟩ := shiftLoop_spec m 32 0 (by simpa using hlt)
      have hm0 : (m == 0 || m == 1) = false := by simp; omega
      unfold nextpow2
      simp only [hm0, Bool.false_eq_true, if_false, Nat.one_shiftLeft, beq_iff_eq]
      generalize shiftLoop m 32 0 = r at b c
      -- `m ≥ 2` is below `2^r`, so `r ≥ 2`
      have hr : 2 ≤ r := by
        by_contra hc
        have : 2 ^ r ≤ 2 ^ 1 := Nat.pow_le_pow_right two_pos (by omega)
        omega
      split_ifs with he
      · exact ⟨he.ge, by omega⟩
      · rw [Nat.sub_add_cancel (by omega)]
        exact ⟨c.le, by omega⟩
  · have : m = 2 ^ 32 := by omega
    subst this
    decide +kernel

theorem ispow2_two_pow : ∀ k < 33, ispow2 (2 ^ k) = true := by decide +kernel

theorem isSmall_two_pow_lits (lit : Lits ℝ) (n : ℕ) (hs : isSmall n = true) (h8 : n ≠ 8) : IsDft n (smallC lit n) := by
  exact smallC_isDft lit n hs fun h => absurd h h8

/-! ## `IfftPlan::solve` is the inverse DFT -/

/-- `IfftPlan::solve` (conjugate, scale by `1/N`, forward transform, conjugate) on top of a forward solver
    that is the DFT of size `N` is the inverse DFT `(1/N) Σ_k X[k] ω^{-kt}` -/
theorem ifftWith_eq (fwd : Vec ℝ → Vec ℝ) (N : ℕ) (h : IsDft N fwd) (X : Vec ℝ) (t : ℕ) (ht : t < N) :
    Cx.toC (rd (ifftWith fwd N X) t) = idft N (seq X) t := by
  unfold ifftWith
  simp only []
  rw [rd_mk_lt _ _ _ ht, Cx.toC_conj, h _ t ht]
  unfold dft idft
  rw [map_sum, Finset.mul_sum]
  apply Finset.sum_congr rfl
  intro k hk
  have hk' := Finset.mem_range.mp hk
  simp only [seq]
  rw [rd_mk_lt _ _ _ hk', Cx.toC_conj, Cx.toC_mulr, map_mul, Complex.conj_conj, ω_conj]
  simp only [fn_ofNat]
  push_cast
  ring

/-! ## the chirp `exp(i θ v²/2)` and the arithmetic of the model's complex operators -/

/-- `exp(i θ v²/2)`: the real angle `θ` times the real number `v²/2` (a half-integer for odd `v`) -/
noncomputable def chirpC (θ : ℝ) (v : ℤ) : ℂ := exp (((θ * ((v : ℝ) * (v : ℝ) / 2) : ℝ) : ℂ) * I)

/-- Bluestein's identity `j·k = (k² + j² − (k−j)²)/2` on the chirp -/
theorem chirp_identity (θ : ℝ) (j k : ℤ) :
    chirpC θ k * (chirpC θ j * (chirpC θ (k - j))⁻¹) = exp (((θ * ((j : ℝ) * (k : ℝ)) : ℝ) : ℂ) * I) := by
  unfold chirpC
  rw [← Complex.exp_neg, ← Complex.exp_add, ← Complex.exp_add]
  congr 1
  push_cast
  ring

/-- a cell of the chirp table `expj(angle(w) · t²/2)` -/
theorem toC_chirp (θ : ℝ) (t : ℤ) :
    Cx.toC (expj (θ * (Fn.ofInt t * Fn.ofInt t / Fn.ofNat 2))) = chirpC θ t := by
  rw [toC_expj]
  unfold chirpC
  simp only [fn_ofInt, fn_ofNat, Nat.cast_ofNat]

/-- `cmplx_t(1) / z` (the generated `operator/`) denotes `1/z` (both sides are 0 at `z = 0`; the chirp is never 0) -/
theorem toC_one_div (z : Cx ℝ) : Cx.toC ((⟨Fn.ofNat 1, Fn.ofNat 0⟩ : Cx ℝ) / z) = (Cx.toC z)⁻¹ := by
  have e : ((⟨Fn.ofNat 1, Fn.ofNat 0⟩ : Cx ℝ) / z) = ⟨(1 * z.re + 0 * z.im) / (z.re * z.re + z.im * z.im),
      (z.re * 0 - 1 * z.im) / (z.re * z.re + z.im * z.im)⟩ := by
    show Cx.div _ _ = _
    simp [Cx.div, Cx.abs2]
  rw [e]
  apply Complex.ext
  · simp [Complex.inv_re, Complex.normSq_apply]
  · simp [Complex.inv_im, Complex.normSq_apply, neg_div]

theorem angle_eq (z : Cx ℝ) : angle z = Complex.arg (Cx.toC z) := rfl

theorem cabs_eq (z : Cx ℝ) : cabs z = ‖Cx.toC z‖ := by
  unfold cabs
  rw [Complex.norm_def, Complex.normSq_apply]
  rfl

/-- entry `j` of `power(a, -arange(n))`: `|a|^(−j) · expj(−j · angle a)` denotes `a^(−j)` -/
theorem toC_powNeg (a : Cx ℝ) (j : ℕ) : Cx.toC (powNeg a j) = ((Cx.toC a) ^ j)⁻¹ := by
  unfold powNeg
  simp only []
  rw [Cx.toC_rmul, toC_expj, fn_pow, fn_ofNat, cabs_eq, angle_eq, Real.rpow_neg (norm_nonneg _), Real.rpow_natCast]
  have h1 : ((Complex.arg (Cx.toC a) * -(j : ℝ) : ℝ) : ℂ) * I = -((j : ℂ) * ((Complex.arg (Cx.toC a) : ℂ) * I)) := by
    push_cast; ring
  rw [h1, Complex.exp_neg, Complex.exp_nat_mul]
  conv_rhs => rw [← Complex.norm_mul_exp_arg_mul_I (Cx.toC a), mul_pow, mul_inv]
  push_cast
  rfl

/-- `expj(angle w) = w` on the unit circle -/
theorem exp_angle (w : Cx ℝ) (hw : ‖Cx.toC w‖ = 1) : exp (((angle w : ℝ) : ℂ) * I) = Cx.toC w := by
  have := Complex.norm_mul_exp_arg_mul_I (Cx.toC w)
  rw [hw] at this
  rw [angle_eq]
  simpa using this

/-! ## linear convolution inside a circular one -/

/-- no wrap-around: a circular convolution of size `N ≥ m+n−1` of a sequence supported on `[0,n)` read at the
    positions `n−1 … n−1+m−1` is the linear convolution -/
theorem conv_nowrap (N n m : ℕ) (hn : 1 ≤ n) (hN : m + n - 1 ≤ N) (a b : ℕ → ℂ) (ha : ∀ j, n ≤ j → a j = 0)
    (k : ℕ) (hk : k < m) :
    idft N (fun q => dft N a q * dft N b q) (n - 1 + k) = ∑ j ∈ range n, a j * b (n - 1 + k - j) := by
  have hkN : n - 1 + k < N := by omega
  have hnN : n ≤ N := by omega
  rw [circ_conv_dft N (by omega) a b _ hkN, ← Finset.sum_subset (Finset.range_subset_range.2 hnN)]
  · refine Finset.sum_congr rfl fun j hj => ?_
    have hj' : j ≤ n - 1 + k := by have := Finset.mem_range.mp hj; omega
    rw [Nat.sub_add_comm hj', Nat.add_mod_right, Nat.mod_eq_of_lt (lt_of_le_of_lt (Nat.sub_le _ _) hkN)]
  · intro j _ hj
    rw [ha j (by simpa using hj), zero_mul]

/-! ## T01.6 the chirp-z transform -/

/-- position `n − 1 + i` of the chirp table holds the chirp at `i` -/
theorem chirp_pos (n i : ℕ) (hn : 1 ≤ n) : (((n - 1 + i : ℕ) : ℤ) + 1 - n) = (i : ℤ) := by omega

theorem chirp_pos_sub (n k j : ℕ) (hj : j < n) : (((n - 1 + k - j : ℕ) : ℤ) + 1 - n) = (k : ℤ) - j := by omega

/-- Bluestein, as `CztPlanImpl` computes it, for ANY forward solver that is the DFT at the internal size
    `n2 = 2^nextpow2(m+n−1)` and any `n2` that is large enough: output bin `k < m` is
    `Σ_j x[j] · a^(−j) · exp(i·angle(w)·j·k)` (`a^(−j)` dropped when the constructor found `a = 1`). -/
theorem czt_sum (fwd : ℕ → Vec ℝ → Vec ℝ) (n m : ℕ) (hn : 1 ≤ n) (w a : Cx ℝ) (skipA : Bool)
    (hN : m + n - 1 ≤ 2 ^ nextpow2 (m + n - 1))
    (hfwd : IsDft (2 ^ nextpow2 (m + n - 1)) (fwd (2 ^ nextpow2 (m + n - 1))))
    (x : Vec ℝ) (k : ℕ) (hk : k < m) :
    Cx.toC (rd (czt fwd n m w a skipA x) k) =
      ∑ j ∈ range n, seq x j * (if skipA = true then 1 else ((Cx.toC a) ^ j)⁻¹) *
        exp (((angle w * ((j : ℝ) * (k : ℝ)) : ℝ) : ℂ) * I) := by
  unfold czt
  simp only []
  generalize 2 ^ nextpow2 (m + n - 1) = N at hN hfwd
  generalize angle w = θ
  have hmn : m + n - 1 = n - 1 + m := by omega
  have hkN : n - 1 + k < N := by omega
  have hL : ∀ i, i < m + n - 1 → i < n - 1 + max m n := fun i hi =>
    lt_of_lt_of_le hi (hmn ▸ Nat.add_le_add_left (Nat.le_max_left m n) _)
  have hL' : ∀ i, i < n → n - 1 + i < n - 1 + max m n := fun i hi =>
    Nat.add_lt_add_left (lt_of_lt_of_le hi (Nat.le_max_right m n)) _
  rw [rd_mk_lt _ _ _ hk, Cx.toC_mul, ifftWith_eq _ _ hfwd _ _ hkN,
    rd_mk_lt _ _ _ (hL _ (hmn ▸ Nat.add_lt_add_left hk _)), toC_chirp]
  let A : ℕ → ℂ := fun j => if j < n then seq x j * (chirpC θ j * (if skipA = true then 1 else ((Cx.toC a) ^ j)⁻¹)) else 0
  let B : ℕ → ℂ := fun i => if i < m + n - 1 then (chirpC θ ((i : ℤ) + 1 - n))⁻¹ else 0
  rw [idft_congr N _ (fun q => dft N A q * dft N B q) ?_]
  · rw [conv_nowrap N n m hn hN A B (by intro j hj; simp only [A, if_neg (not_lt.2 hj)]) k hk, Finset.sum_mul]
    apply Finset.sum_congr rfl
    intro j hj
    have hj' := Finset.mem_range.mp hj
    simp only [A, B]
    have h2 : n - 1 + k - j < m + n - 1 := lt_of_le_of_lt (Nat.sub_le _ _) (hmn ▸ Nat.add_lt_add_left hk _)
    rw [if_pos hj', if_pos h2]
    rw [chirp_pos_sub n k j hj', chirp_pos n k hn]
    have := chirp_identity θ (j : ℤ) (k : ℤ)
    simp only [Int.cast_natCast] at this
    rw [← this]
    ring
  · intro q hq
    simp only [seq]
    rw [rd_mk_lt _ _ _ hq, Cx.toC_mul, hfwd _ q hq, hfwd _ q hq]
    congr 1
    · apply dft_congr
      intro i hi
      simp only [seq, A]
      rw [rd_mk_lt _ _ _ hi]
      by_cases hin : i < n
      · rw [if_pos hin, if_pos hin, Cx.toC_mul, rd_mk_lt _ _ _ hin]
        congr 1
        cases skipA
        · simp only [Bool.false_eq_true, if_false]
          rw [Cx.toC_mul, toC_powNeg, rd_mk_lt _ _ _ (hL' _ hin), toC_chirp, chirp_pos n i hn]
        · simp only [if_true]
          rw [rd_mk_lt _ _ _ (hL' _ hin), toC_chirp, mul_one, chirp_pos n i hn]
      · rw [if_neg hin, if_neg hin, toC_zero]
    · apply dft_congr
      intro i hi
      simp only [seq, B]
      rw [rd_mk_lt _ _ _ hi]
      by_cases hin : i < m + n - 1
      · rw [if_pos hin, if_pos hin, toC_one_div, rd_mk_lt _ _ _ (hL _ hin), toC_chirp]
      · rw [if_neg hin, if_neg hin, toC_zero]

theorem exp_mul_nat (θ : ℝ) (j k : ℕ) :
    exp (((θ * ((j : ℝ) * (k : ℝ)) : ℝ) : ℂ) * I) = (exp ((θ : ℂ) * I)) ^ (j * k) := by
  rw [← Complex.exp_nat_mul]
  congr 1
  push_cast
  ring

/-- T01.6 (2), the property of the CZT itself: for `|w| = 1`, `a ≠ 0`, every `m`, `n ≥ 1`, bin `k < m` of
    `CztPlan(n, m, w, a)(x)` is `Σ_j x[j] · a^(−j) · w^(j·k)`.  `skipA` is the constructor's decision to drop the
    factors `a^(−j)`; exact reading: it may be taken only when `a = 1`.  `hN`/`hfwd`: the internal size
    `n2 = 2^nextpow2(m+n−1)` is large enough (`le_two_pow_nextpow2`: always, for `m+n−1 ≤ 2^32`) and the plan of
    size `n2` is the DFT (`fftPow2_isDft`). -/
theorem czt_eq (fwd : ℕ → Vec ℝ → Vec ℝ) (n m : ℕ) (hn : 1 ≤ n) (w a : Cx ℝ) (skipA : Bool)
    (hw : ‖Cx.toC w‖ = 1) (_ha : Cx.toC a ≠ 0) (hskip : skipA = true → Cx.toC a = 1)
    (hN : m + n - 1 ≤ 2 ^ nextpow2 (m + n - 1))
    (hfwd : IsDft (2 ^ nextpow2 (m + n - 1)) (fwd (2 ^ nextpow2 (m + n - 1))))
    (x : Vec ℝ) (k : ℕ) (hk : k < m) :
    Cx.toC (rd (czt fwd n m w a skipA x) k) =
      ∑ j ∈ range n, seq x j * ((Cx.toC a) ^ j)⁻¹ * (Cx.toC w) ^ (j * k) := by
  rw [czt_sum fwd n m hn w a skipA hN hfwd x k hk]
  apply Finset.sum_congr rfl
  intro j _
  rw [exp_mul_nat, exp_angle w hw]
  congr 2
  cases skipA
  · simp
  · rw [hskip rfl]; simp

theorem fftPow2_small (lit : Lits ℝ) (hl : LitsOK lit) (N : ℕ) (hs : isSmall N = true) : IsDft N (fftPow2 lit N) := by
  unfold fftPow2
  rw [hs]
  simpa using smallC_eq lit hl N hs

/-- the plan `FftPlan(2^k)` the CZT requests (`create_fft_plan`: small kernel or `Pow2FftPlan`) is the DFT, given the
    power-of-two butterfly network (`hpow2`, T01.3) -/
theorem fftPow2_isDft (lit : Lits ℝ) (hl : LitsOK lit) (e : ℕ) (he : e ≤ 32)
    (hpow2 : ∀ N, ispow2 N = true → isSmall N = false → IsDft N (pow2fft N)) :
    IsDft (2 ^ e) (fftPow2 lit (2 ^ e)) := by
  cases hs : isSmall (2 ^ e)
  · unfold fftPow2
    simpa [hs] using hpow2 _ (ispow2_two_pow e (by omega)) hs
  · exact fftPow2_small lit hl _ hs

/-- the same without any assumption on the literals when the size is at least 16 -/
theorem fftPow2_isDft_large (lit : Lits ℝ) (e : ℕ) (he : e ≤ 32) (h16 : 16 ≤ 2 ^ e)
    (hpow2 : ∀ N, ispow2 N = true → isSmall N = false → IsDft N (pow2fft N)) :
    IsDft (2 ^ e) (fftPow2 lit (2 ^ e)) := by
  unfold fftPow2
  have hs : isSmall (2 ^ e) = false := by
    cases h : isSmall (2 ^ e)
    · rfl
    · rcases (isSmall_iff _).mp h with h | h | h | h <;> omega
  simpa [hs] using hpow2 _ (ispow2_two_pow e (by omega)) hs

/-- the constructor arguments of `PrimesFftC`: `w = expj(−2π/n)` has `exp(i·angle w) = ω n 1` -/
theorem exp_angle_primeW (n : ℕ) :
    exp (((angle (expj (Fn.ofInt (-2) * Fn.pi / Fn.ofNat n : ℝ)) : ℝ) : ℂ) * I) = ω n 1 := by
  rw [exp_angle]
  · rw [toC_expj]
    unfold ω
    congr 2
    simp only [fn_ofInt, fn_ofNat, fn_pi]
    push_cast
    ring
  · rw [toC_expj]
    exact Complex.norm_exp_ofReal_mul_I _

/-- T01.6 (1), core: the CZT instance of `PrimesFftC` (`m = n`, `w = expj(−2π/n)`, `a = 1` skipped) is the DFT of
    size `n` whenever its internal plan is the DFT of size `n2 = 2^nextpow2(2n−1) ≥ 2n−1`. -/
theorem cztPrime_eq_of_fwd (lit : Lits ℝ) (n : ℕ) (hn : 1 ≤ n)
    (hN : n + n - 1 ≤ 2 ^ nextpow2 (n + n - 1))
    (hfwd : IsDft (2 ^ nextpow2 (n + n - 1)) (fftPow2 lit (2 ^ nextpow2 (n + n - 1)))) :
    IsDft n (cztPrime lit n) := by
  intro x k hk
  unfold cztPrime
  rw [czt_sum (fftPow2 lit) n n hn _ _ true hN hfwd x k hk]
  unfold dft
  apply Finset.sum_congr rfl
  intro j _
  rw [if_pos rfl, mul_one, exp_mul_nat, exp_angle_primeW, ← ω_eq_pow]

/-
Why T01.6 (1) below carries `LitsOK lit` and `n ≤ 2^31` besides `hpow2`; both lie in the model / the code, not in the proof:
* `n ∈ {3, 4}` gives `n2 = 8`, so the inner plan is the small kernel `fft8`, which is the DFT only for a correct
  literal `lit.c8` (`LitsOK lit`; available at every use site: `fftC_eq_partial`, `fftPrime_eq` carry it).
  For `n ≥ 5` (`n2 ≥ 16`) no assumption on the literals is needed: `cztPrime_eq_of_five_le`.
* `nextpow2` is the 32-bit `int` loop of `lib/math.cpp` (`shiftLoop … 32`): it saturates at 32, so for `2n−1 > 2^32`
  the model has `n2 = 2^32 < 2n−1` and the circular convolution wraps around.  (In the C++ code `2n−1` must fit an `int`
  anyway.)  Hence the bound `n ≤ 2^31`, i.e. `2n−1 ≤ 2^32`.
-/

/-- T01.6 (1): the CZT instance used for prime lengths `> 41` is the DFT, for EVERY `1 ≤ n ≤ 2^31`
    (`hpow2`: correctness of `Pow2FftPlan`, T01.3, proved elsewhere as `pow2fft_eq`). -/
theorem cztPrime_eq_partial (lit : Lits ℝ) (hl : LitsOK lit) (n : ℕ) (hn : 1 ≤ n) (hb : n ≤ 2 ^ 31)
    (hpow2 : ∀ N, ispow2 N = true → isSmall N = false → IsDft N (pow2fft N)) : IsDft n (cztPrime lit n) := by
  obtain ⟨h1, h2⟩ := le_two_pow_nextpow2 (n + n - 1) (by omega)
  exact cztPrime_eq_of_fwd lit n hn h1 (fftPow2_isDft lit hl _ h2 hpow2)

/-- the same for `5 ≤ n ≤ 2^31` with NO assumption on the literals (the inner size is `≥ 16`) -/
theorem cztPrime_eq_of_five_le (lit : Lits ℝ) (n : ℕ) (hn : 5 ≤ n) (hb : n ≤ 2 ^ 31)
    (hpow2 : ∀ N, ispow2 N = true → isSmall N = false → IsDft N (pow2fft N)) : IsDft n (cztPrime lit n) := by
  obtain ⟨h1, h2⟩ := le_two_pow_nextpow2 (n + n - 1) (by omega)
  -- `9 ≤ 2n − 1 ≤ 2^e` rules out `e ≤ 3`
  have he : 4 ≤ nextpow2 (n + n - 1) := by
    by_contra he
    have := Nat.pow_le_pow_right two_pos (show nextpow2 (n + n - 1) ≤ 3 by omega)
    omega
  exact cztPrime_eq_of_fwd lit n (by omega) h1
    (fftPow2_isDft_large lit _ h2 (Nat.pow_le_pow_right two_pos he) hpow2)

/-- in the shape of the hypothesis `hczt` of `fftPrime_eq` / `fftLeaf_eq` / `fftC_eq_partial` -/
theorem cztPrime_hczt (lit : Lits ℝ) (n : ℕ) (hb : n ≤ 2 ^ 31)
    (hpow2 : ∀ N, ispow2 N = true → isSmall N = false → IsDft N (pow2fft N)) :
    Gen.maxDftSize < n → IsDft n (cztPrime lit n) := by
  intro h
  have : 41 < n := h
  exact cztPrime_eq_of_five_le lit n (by omega) hb hpow2

/-! ## unconditional instances (non-vacuity) -/

/-- Bluestein for `n = 1 … 4` on top of the small kernels (`n2 = 1, 4, 8, 8`): NO hypothesis on other components -/
theorem cztPrime_eq_le4 (lit : Lits ℝ) (hl : LitsOK lit) (n : ℕ) (hn : 1 ≤ n) (h4 : n ≤ 4) : IsDft n (cztPrime lit n) := by
  obtain ⟨h1, _⟩ := le_two_pow_nextpow2 (n + n - 1) (by omega)
  apply cztPrime_eq_of_fwd lit n hn h1
  exact fftPow2_small lit hl _ (by interval_cases n <;> decide +kernel)

/-- the hypotheses of `czt_eq` / `czt_sum` at a concrete non-trivial state: `n = 3`, `m = 5` (`n2 = 8`, small kernel),
    `w = expj(1)`, `a = 2i` (not skipped): bin `k` is `Σ_{j<3} x[j] (2i)^(−j) e^{ijk}` -/
example (lit : Lits ℝ) (hl : LitsOK lit) (x : Vec ℝ) (k : ℕ) (hk : k < 5) :
    Cx.toC (rd (czt (fftPow2 lit) 3 5 (expj 1) ⟨0, 2⟩ false x) k) =
      ∑ j ∈ range 3, seq x j * ((Cx.toC ⟨0, 2⟩) ^ j)⁻¹ * (Cx.toC (expj 1)) ^ (j * k) := by
  have e : nextpow2 (5 + 3 - 1) = 3 := by decide
  apply czt_eq (fftPow2 lit) 3 5 (by norm_num) _ _ false
  · rw [toC_expj]; exact Complex.norm_exp_ofReal_mul_I _
  · intro h
    have := congrArg Complex.im h
    simp at this
  · intro h; cases h
  · rw [e]; norm_num
  · rw [e]; exact fftPow2_small lit hl _ (by decide)
  · exact hk

end Dsp.C01
